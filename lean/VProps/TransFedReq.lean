/-
  Translated-function obligations for fclient/request.go (regenerated tie, semantic half).
  `VGen.TransFedReq.isSafeInHTTPQuotedString` is printed by tools/extract/trans.go from the CURRENT Go source.
-/
import VGen.TransFedReq
import VModel.FedReq
namespace V.Trans.FedReq

/-- The Go function, as translated from the source, is the model's `isSafeInHTTPQuotedString` on every byte string. -/
theorem isSafeInHTTPQuotedString_eq_model (t : List UInt8) :
    VGen.TransFedReq.isSafeInHTTPQuotedString t = V.FedReq.isSafeInHTTPQuotedString t := by
  unfold VGen.TransFedReq.isSafeInHTTPQuotedString V.FedReq.isSafeInHTTPQuotedString
  apply GoSem.forBytes_pred
  apply GoSem.forall_uint8
  decide +kernel

/-- qdtext of RFC 7230 §3.2.6, the grammar the property's header clause relies on:
    HTAB / SP / %x21 / %x23-5B / %x5D-7E / %x80-FF. -/
def qdtext (c : UInt8) : Bool :=
  c == 0x09 || c == 0x20 || c == 0x21 || (0x23 ≤ c && c ≤ 0x5B) || (0x5D ≤ c && c ≤ 0x7E) || 0x80 ≤ c

/-- the translated Go function accepts exactly the strings made of qdtext bytes -/
theorem isSafeInHTTPQuotedString_iff_qdtext (t : List UInt8) :
    VGen.TransFedReq.isSafeInHTTPQuotedString t = t.all qdtext := by
  rw [isSafeInHTTPQuotedString_eq_model]; rfl

end V.Trans.FedReq
