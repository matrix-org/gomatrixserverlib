/-
  C14 — Only events that pass signature and auth checks leave federation verification.

  The theorems relate the executable model VModel.FedCheck (what the driver runs against the Go code)
  to the specification VModel.FedCheckSpec, for EVERY signature oracle, every `AuthEvents`-like
  provider object with idempotent `AddEvent` (`AddIdem`), every auth predicate `allowedBy`, and every
  EventProvider satisfying the contract `ProvOK` ("answers with the requested event or nothing") — for
  VerifyEventAuthChain: `TableLike` (single-ID requests answered exactly from a table, batch answers possibly
  leaving events out).  The statements are about the code after /repo fa4d4c4 (state-at-event check against the WHOLE
  state), db4e83f (every event the provider hands out is verified) and 7588861 (events are dropped one by one).
-/
import VModel.FedCheck
import VModel.FedCheckSpec
import VModel.FedCheckInst
import VProofs.FedCheck
import VProofs.FedCheckLog
import VProofs.FedCheckChain
namespace V.C14
open V.FedCheck V.FedCheck.Spec

/-! ## CheckStateResponse fails exactly on non-state events and duplicate state keys -/

theorem checkStateTuples_iff (S : List Event) (seen : List (Bytes × Bytes)) :
    checkStateTuples S seen = true ↔
      (∀ e ∈ S, e.stateKey.isSome = true) ∧ nodupB (S.map tupleOf) = true ∧ ∀ e ∈ S, seen.contains (tupleOf e) = false := by
  induction S generalizing seen with
  | nil => simp [checkStateTuples, nodupB]
  | cons e es ih =>
    unfold checkStateTuples
    cases hsk : e.stateKey with
    | none => simp [hsk]
    | some sk =>
      have ht : (e.type, sk) = tupleOf e := by simp [tupleOf, hsk]
      simp only [ht]
      cases hc : seen.contains (tupleOf e)
      · simp only [Bool.false_eq_true, if_false, ih, Lists.forall_not_contains_cons, List.map_cons, nodupB, List.mem_cons, forall_eq_or_imp, hsk,
          Option.isSome_some, true_and, hc, Bool.and_eq_true, Bool.not_eq_true']
        exact ⟨fun ⟨h1, h2, h3, h4⟩ => ⟨h1, ⟨h3, h2⟩, h4⟩, fun ⟨h1, ⟨h3, h2⟩, h4⟩ => ⟨h1, h2, h3, h4⟩⟩
      · simp only [if_true]
        refine ⟨fun h => (nomatch h), fun ⟨_, _, h3⟩ => ?_⟩
        have := h3 e List.mem_cons_self
        rw [hc] at this
        cases this
/-- "no event without a state key", as the code tests it and as the proofs use it -/
theorem allState_iff (l : List Event) :
    l.any (fun e => e.stateKey.isNone) = false ↔ ∀ e ∈ l, e.stateKey.isSome = true := by
  simp only [List.any_eq_false, Bool.not_eq_true, Option.isNone_eq_false_iff]

theorem stateKeys_of_wellformed {A S : List Event} (h : responseMalformed A S = false) :
    ∀ e ∈ A ++ S, e.stateKey.isSome = true := by
  unfold responseMalformed at h
  simp only [Bool.or_eq_false_iff] at h
  intro e he
  rcases List.mem_append.mp he with he | he
  · exact (allState_iff A).mp h.1.1 e he
  · exact (allState_iff S).mp h.1.2 e he

/-- the specification's "malformed" is what the two tests of CheckStateResponse refuse -/
theorem responseMalformed_eq (A S : List Event) :
    responseMalformed A S = (A.any (fun e => e.stateKey.isNone) || !checkStateTuples S []) := by
  have h : checkStateTuples S [] = true ↔ S.any (fun e => e.stateKey.isNone) = false ∧ nodupB (S.map tupleOf) = true := by
    rw [checkStateTuples_iff, allState_iff]
    exact ⟨fun ⟨h1, h2, _⟩ => ⟨h1, h2⟩, fun ⟨h1, h2⟩ => ⟨h1, h2, fun _ _ => rfl⟩⟩
  unfold responseMalformed
  rw [Bool.or_assoc]
  congr 1
  cases hT : checkStateTuples S []
  · cases hs : S.any (fun e => e.stateKey.isNone)
    · cases hn : nodupB (S.map tupleOf)
      · rfl
      · rw [h.mpr ⟨hs, hn⟩] at hT; cases hT
    · rfl
  · rw [(h.mp hT).1, (h.mp hT).2]; rfl

/-- CheckStateResponse returns an error exactly when the response contains a
    non-state event (in either list) or two state events with the same (type, state_key) — whatever the
    signatures, the auth verdicts and the provider do. -/
theorem state_response_fails_iff {P} (O : Oracles P) (prov : Option EventProvider) (fuel : Nat) (A S : List Event) (log : Log) :
    (∃ log', checkStateResponse O prov fuel A S log = (.error, log')) ↔ responseMalformed A S = true := by
  rw [responseMalformed_eq]
  unfold checkStateResponse
  cases A.any (fun e => e.stateKey.isNone)
  · cases checkStateTuples S []
    · simp
    · simp only [Bool.false_eq_true, if_false, Bool.not_true, Bool.or_self, iff_false, not_exists]
      intro log' h
      split at h <;> cases h
  · simp

theorem mapOfEvents_lookup (l : List Event) (id : Bytes) :
    (mapOfEvents l).lookup id = (lastWithID l id).map some := by
  unfold mapOfEvents lastWithID
  rw [← List.map_reverse, Lists.lookup_map]

/-- the lookup table of CheckStateResponse binds an ID to the last event of the response that carries it and
    whose own signature verified -/
theorem verifiedMap_lookup {P} (O : Oracles P) (all : List Event) (id : Bytes) :
    (verifiedMap O all).lookup id = (verified O all id).map some := by
  unfold verifiedMap verified
  rw [← List.map_reverse, Lists.lookup_map, ← List.filter_reverse, List.find?_filter]
  congr 2
  funext e
  rw [Bool.decide_and, Bool.decide_eq_true, Bool.decide_eq_true, Bool.and_comm]

theorem resM_of_lookup (prov : Option EventProvider) (m : IdMap) (base : Bytes → Option Event)
    (h : ∀ id, m.lookup id = (base id).map some) : resM prov m = resolve base prov := by
  funext id
  unfold resM resolve
  rw [h id]
  cases base id <;> rfl

theorem badIn_of_lookup (m : IdMap) (base : Bytes → Option Event)
    (h : ∀ id, m.lookup id = (base id).map some) (hsk : ∀ id e, base id = some e → e.stateKey.isSome = true) :
    badIn m = fun _ => false := by
  funext id
  unfold badIn
  rw [h id]
  cases hb : base id with
  | none => rfl
  | some e => exact Option.isNone_eq_false_iff.mpr (hsk id e hb)

theorem caVerdict_of_lookup {P} (O : Oracles P) (prov : Option EventProvider) (m : IdMap) (base : Bytes → Option Event)
    (h : ∀ id, m.lookup id = (base id).map some) (hsk : ∀ id e, base id = some e → e.stateKey.isSome = true) (e : Event) :
    caVerdict O prov e m = if O.allowedBy e (authOf O (resolve base prov) e) then .ok else .notAllowed := by
  unfold caVerdict
  rw [badIn_of_lookup m base h hsk, resM_of_lookup prov m base h]
  simp

theorem authLoop_contract {P} (O : Oracles P) (hidem : AddIdem O) (prov : Option EventProvider) (hprov : ProvOK prov) (n : Nat)
    (es : List Event) (m : IdMap) (log : Log) :
    ∃ m' log', authLoop O prov (n + 2) es m log =
        some (es.map (fun e => caVerdict O prov e m == .ok), m', log') ∧ Ext prov (fun _ => True) m m' := by
  induction es generalizing m log with
  | nil => exact ⟨m, log, by simp [authLoop], Ext.refl prov _ m⟩
  | cons e es ih =>
    unfold authLoop
    obtain ⟨m1, log1, hc, hext0⟩ := checkAllowed_contract O hidem prov hprov n e m log
    have hext : Ext prov (fun _ => True) m m1 := hext0.mono (fun _ _ => trivial)
    rw [hc]
    obtain ⟨m2, log2, h2, he2⟩ := ih m1 log1
    simp only [caVerdict_ext O hext] at h2
    refine ⟨m2, log2, ?_, hext.trans he2⟩
    cases hv : caVerdict O prov e m with
    | outOfFuel => exact absurd hv (caVerdict_ne_outOfFuel O prov e m)
    | _ => simp [hv, h2]

theorem keepBy_map (l : List Event) (f : Event → Bool) : keepBy l (l.map f) = l.filter f := by
  induction l with
  | nil => rfl
  | cons e es ih =>
    simp only [List.map_cons, keepBy, List.filter_cons, ih]

/-- Under the provider contract CheckStateResponse returns exactly the two input
    lists filtered by `good e := sigOk e ∧ allowedBy e (verified-or-provided auth events of e)` — EXACTLY
    the events failing one of the two checks are dropped, each on its own account (an event that shares
    its ID with a failing one stays) —, it fails exactly on a malformed response, and it always
    terminates (fuel 2). -/
theorem state_response_exact {P} (O : Oracles P) (hidem : AddIdem O) (prov : Option EventProvider) (hprov : ProvOK prov)
    (n : Nat) (A S : List Event) (log : Log) :
    (checkStateResponse O prov (n + 2) A S log).1 =
      match stateResponse O prov A S with
      | none => .error
      | some (a, s) => .ok a s := by
  unfold stateResponse
  cases hmal : responseMalformed A S
  · simp only [Bool.false_eq_true, if_false]
    unfold checkStateResponse
    have hAT := hmal
    rw [responseMalformed_eq, Bool.or_eq_false_iff, Bool.not_eq_false'] at hAT
    obtain ⟨hA, hT⟩ := hAT
    simp only [hA, hT, Bool.false_eq_true, if_false, Bool.not_true]
    have hsk : ∀ id e, verified O (A ++ S) id = some e → e.stateKey.isSome = true :=
      fun id e he => stateKeys_of_wellformed hmal e (List.mem_reverse.mp (List.mem_of_find?_eq_some he))
    obtain ⟨m', log', hl, _⟩ := authLoop_contract O hidem prov hprov n (A ++ S) (verifiedMap O (A ++ S)) log
    rw [hl]
    simp only
    have hfun : (fun a => O.sigOk a && (caVerdict O prov a (verifiedMap O (A ++ S)) == .ok)) = good O prov (A ++ S) := by
      funext e
      rw [caVerdict_of_lookup O prov _ _ (verifiedMap_lookup O (A ++ S)) hsk e]
      unfold good
      cases O.allowedBy e (authOf O (resolve (verified O (A ++ S)) prov) e) <;> simp
    rw [List.zipWith_map_right, List.zipWith_self]
    rw [hfun, List.map_append, List.take_left' (by simp), List.drop_left' (by simp), keepBy_map, keepBy_map]
  · simp only [if_true]
    obtain ⟨log', h⟩ := (state_response_fails_iff O prov (n + 2) A S log).mpr hmal
    rw [h]

theorem stateResponse_eq_some {P} {O : Oracles P} {prov : Option EventProvider} {A S A' S' : List Event}
    (h : stateResponse O prov A S = some (A', S')) :
    responseMalformed A S = false ∧ A' = A.filter (good O prov (A ++ S)) ∧ S' = S.filter (good O prov (A ++ S)) := by
  unfold stateResponse at h
  cases hmal : responseMalformed A S
  · simp only [hmal, Bool.false_eq_true, if_false, Option.some.injEq, Prod.mk.injEq] at h
    exact ⟨rfl, h.1.symm, h.2.symm⟩
  · simp [hmal] at h

theorem state_response_ok_iff {P} (O : Oracles P) (hidem : AddIdem O) (prov : Option EventProvider) (hprov : ProvOK prov)
    (n : Nat) (A S A' S' : List Event) (log : Log) :
    (checkStateResponse O prov (n + 2) A S log).1 = .ok A' S' ↔ stateResponse O prov A S = some (A', S') := by
  rw [state_response_exact O hidem prov hprov]
  cases stateResponse O prov A S with
  | none => simp
  | some as => obtain ⟨A1, S1⟩ := as; simp

/-- The property's wording: every event CheckStateResponse returns has verified signatures and is allowed by
    those of its auth events that arrived with verified signatures or were obtained from the caller's
    provider; and an input event is absent from the output only if IT fails one of the two checks
    ("exactly the events failing one of these two checks are dropped"). -/
theorem state_response_sound {P} (O : Oracles P) (hidem : AddIdem O) (prov : Option EventProvider) (hprov : ProvOK prov)
    (n : Nat) (A S A' S' : List Event) (log : Log) (h : (checkStateResponse O prov (n + 2) A S log).1 = .ok A' S') :
    (∀ e ∈ A' ++ S', (e ∈ A ++ S) ∧ O.sigOk e = true ∧ O.allowedBy e (authOf O (resolve (verified O (A ++ S)) prov) e) = true) ∧
    (∀ e ∈ A, e ∉ A' → good O prov (A ++ S) e = false) ∧
    (∀ e ∈ S, e ∉ S' → good O prov (A ++ S) e = false) := by
  obtain ⟨_, rfl, rfl⟩ := stateResponse_eq_some ((state_response_ok_iff O hidem prov hprov n A S A' S' log).mp h)
  have dropped : ∀ (l : List Event) (e : Event), e ∈ l → e ∉ l.filter (good O prov (A ++ S)) →
      good O prov (A ++ S) e = false :=
    fun l e he hne => Bool.eq_false_iff.mpr (fun hg => hne (List.mem_filter.mpr ⟨he, hg⟩))
  refine ⟨fun e he => ?_, dropped A, dropped S⟩
  rw [← List.filter_append] at he
  obtain ⟨hm, hg⟩ := List.mem_filter.mp he
  unfold good at hg
  rw [Bool.and_eq_true] at hg
  exact ⟨hm, hg.1, hg.2⟩

/-- the witness of /repo 7588861, abstractly: a good event and a same-ID copy whose signature fails.  The
    specification keeps the good one; the by-ID bookkeeping the code had before dropped both. -/
example {P} (O : Oracles P) (prov : Option EventProvider) (g t : Event) (hid : t.eventID = g.eventID)
    (hg : O.sigOk g = true) (ht : O.sigOk t = false) :
    droppedByID O prov [g, t] g.eventID = true ∧ good O prov [g, t] t = false := by
  constructor
  · unfold droppedByID goodByID
    simp [hid, ht]
  · unfold good
    simp [ht]

/-! ## CheckSendJoinResponse -/

def sjAccepted : SJOut → Option (List Event × List Event)
  | .ok a s => some (a, s)
  | _ => none

/-- `AddEvent` over a list: it fails exactly when some event has no state key -/
theorem addAll_eq {P} (O : Oracles P) (S : List Event) (acc : P) :
    addAll O S acc = if S.all (fun e => e.stateKey.isSome) then some (S.foldl O.add acc) else none := by
  induction S generalizing acc with
  | nil => rfl
  | cons e es ih =>
    rw [addAll, List.all_cons, List.foldl_cons]
    cases e.stateKey.isSome
    · rfl
    · exact ih _

theorem sendJoin_eq_some {P} (O : Oracles P) (prov : Option EventProvider) (A S : List Event) (j : Event) (A' S' : List Event) :
    sendJoin O prov A S j = some (A', S') ↔
      stateResponse O prov A S = some (A', S') ∧
      O.allowedBy j (authOf O (resolve (lastWithID (A' ++ S')) prov) j) = true ∧
      O.allowedBy j (stateProviderOf O S') = true := by
  unfold sendJoin
  cases stateResponse O prov A S with
  | none => simp
  | some as =>
    obtain ⟨A1, S1⟩ := as
    simp only [Option.some.injEq, Prod.mk.injEq]
    constructor
    · intro h
      split at h
      · rename_i hc
        cases h
        exact ⟨⟨rfl, rfl⟩, Bool.and_eq_true_iff.mp hc⟩
      · cases h
    · rintro ⟨⟨rfl, rfl⟩, h1, h2⟩
      rw [h1, h2]
      rfl

/-- Under the provider contract CheckSendJoinResponse accepts — and then returns
    exactly the filtered lists of CheckStateResponse — iff the response is accepted as a /state response,
    the join event is allowed by its returned-or-provided auth events, AND it is allowed by the returned
    state; in every other case it returns an error (and it always terminates). -/
theorem send_join_accept_iff {P} (O : Oracles P) (hidem : AddIdem O) (prov : Option EventProvider) (hprov : ProvOK prov)
    (n : Nat) (A S : List Event) (j : Event) (log : Log) :
    sjAccepted (checkSendJoin O prov (n + 2) A S j log).1 = sendJoin O prov A S j := by
  unfold checkSendJoin sendJoin
  have hex := state_response_exact O hidem prov hprov n A S log
  cases hr : checkStateResponse O prov (n + 2) A S log with
  | mk out log1 =>
    rw [hr] at hex
    simp only at hex
    cases hsp : stateResponse O prov A S with
    | none =>
      rw [hsp] at hex
      simp only at hex
      subst hex
      rfl
    | some as =>
      obtain ⟨A', S'⟩ := as
      rw [hsp] at hex
      simp only at hex
      subst hex
      simp only
      have hsub : ∀ e ∈ A' ++ S', e.stateKey.isSome = true := by
        obtain ⟨hmal, rfl, rfl⟩ := stateResponse_eq_some hsp
        intro e he
        rw [← List.filter_append] at he
        exact stateKeys_of_wellformed hmal e (List.mem_filter.mp he).1
      obtain ⟨m', log2, hc, _⟩ := checkAllowed_contract O hidem prov hprov n j (mapOfEvents (A' ++ S')) log1
      rw [hc]
      have hv := caVerdict_of_lookup O prov (mapOfEvents (A' ++ S')) (lastWithID (A' ++ S')) (mapOfEvents_lookup (A' ++ S'))
        (fun id e he => hsub e (List.mem_reverse.mp (List.mem_of_find?_eq_some he))) j
      rw [hv]
      cases h1 : O.allowedBy j (authOf O (resolve (lastWithID (A' ++ S')) prov) j)
      · simp [sjAccepted]
      · simp only [if_true, Bool.true_and]
        rw [addAll_eq, List.all_eq_true.mpr (fun e he => hsub e (List.mem_append_right _ he)), if_pos rfl]
        simp only [stateProviderOf]
        by_cases h2 : O.allowedBy j (S'.foldl O.add O.empty) = true
        · simp [sjAccepted, h2]
        · simp [sjAccepted, h2]

theorem send_join_ok_iff {P} (O : Oracles P) (hidem : AddIdem O) (prov : Option EventProvider) (hprov : ProvOK prov)
    (n : Nat) (A S : List Event) (j : Event) (A' S' : List Event) (log : Log) :
    (checkSendJoin O prov (n + 2) A S j log).1 = .ok A' S' ↔ sendJoin O prov A S j = some (A', S') := by
  rw [← send_join_accept_iff O hidem prov hprov n A S j log]
  cases (checkSendJoin O prov (n + 2) A S j log).1 <;> simp [sjAccepted]

/-! ## Termination of the retry loop (fixed finding 778c3d3)

  Before the fix, a provider answering a request for `ae` with a NON-EMPTY list of OTHER events made the
  `goto retryEvent` loop spin forever (nothing was recorded for `ae`).  The code now records the requested
  ID as missing in that case; the loop jumps back at most once whatever the provider answers. -/

/-- For EVERY provider (no contract needed) and every fuel ≥ 2 the retry loop of
    checkAllowedByAuthEvents finishes. -/
theorem retry_terminates {P} (O : Oracles P) (prov : Option EventProvider) (ae : Bytes) (n : Nat) (m : IdMap) (acc : P) (log : Log) :
    ∀ m' log', retryAE O prov ae (n + 2) m acc log ≠ .outOfFuel m' log' := by
  intro m' log'
  cases hl : m.lookup ae with
  | some v => exact retryAE_bound_terminates O prov ae (n + 1) m acc log v hl m' log'
  | none =>
    unfold retryAE
    simp only [hl]
    cases prov with
    | none => intro h; cases h
    | some p =>
      simp only
      cases hp : p [ae] with
      | error =>
        simp only
        exact retryAE_bound_terminates O (some p) ae n _ acc _ none List.lookup_cons_self m' log'
      | events es =>
        cases es with
        | nil =>
          simp only
          exact retryAE_bound_terminates O (some p) ae n _ acc _ none List.lookup_cons_self m' log'
        | cons e es =>
          simp only
          obtain ⟨v, hv⟩ := ensureKey_lookup ae (addProvided O (e :: es) m acc).1
          exact retryAE_bound_terminates O (some p) ae n _ _ _ v hv m' log'

theorem loopAE_terminates {P} (O : Oracles P) (prov : Option EventProvider) (n : Nat) (ids : List Bytes) (m : IdMap) (acc : P) (log : Log) :
    ∀ m' log', loopAE O prov (n + 2) ids m acc log ≠ .outOfFuel m' log' := by
  induction ids generalizing m acc log with
  | nil => intro m' log' h; cases h
  | cons ae rest ih =>
    intro m' log'
    unfold loopAE
    cases hr : retryAE O prov ae (n + 2) m acc log with
    | next m1 acc1 log1 => exact ih m1 acc1 log1 m' log'
    | fail m1 log1 => intro h; cases h
    | outOfFuel m1 log1 => exact absurd hr (retry_terminates O prov ae n m acc log m1 log1)

theorem checkAllowed_terminates {P} (O : Oracles P) (prov : Option EventProvider) (n : Nat) (e : Event) (m : IdMap) (log : Log) :
    (checkAllowed O prov (n + 2) e m log).1 ≠ .outOfFuel := by
  unfold checkAllowed
  cases hl : loopAE O prov (n + 2) e.authEventIDs m O.empty log with
  | next m' acc log' => simp only; split <;> (intro h; cases h)
  | fail m' log' => intro h; cases h
  | outOfFuel m' log' => exact absurd hl (loopAE_terminates O prov n e.authEventIDs m O.empty log m' log')

/-- what the fix added: `ensureKey` records the requested ID as missing; without it (`ensureKey` = identity) the map
    still lacks `ae` after the provider's other events were added -/
example : ([] : IdMap).lookup b!"$x" = none ∧ (ensureKey b!"$x" []).lookup b!"$x" = some none := by
  constructor <;> rfl

/-! ## The oracles the driver runs satisfy `AddIdem`, a table provider satisfies `ProvOK` -/

theorem padd_idem (p : Auth.Provider) (a : Event) : padd (padd p a) a = padd p a := by
  unfold padd
  congr 1
  · -- the filter removes the event just added, and nothing more from what it has filtered already
    rw [List.filter_append, List.filter_filter]
    simp
  · by_cases hc : a.roomID ∈ p.roomIDs <;> simp [hc]

theorem authOracles_addIdem (bad : List Bytes) : AddIdem (authOracles bad) := fun p a => padd_idem p a

theorem authOraclesBy_addIdem (bad : Event → Bool) : AddIdem (authOraclesBy bad) := fun p a => padd_idem p a

theorem tableProvider_provOK (table : Bytes → Option Event) (errs : Bytes → Bool)
    (htable : ∀ id e, table id = some e → e.eventID = id) : ProvOK (some (tableProvider table errs)) :=
  tableLike_provOK table errs (tableProvider_tableLike table errs) htable

theorem provOK_none : ProvOK none := fun p hp => by cases hp

/-! ## VerifyEventAuthChain -/

/-- Against a provider that answers from a table of events keyed by their own IDs (`errs id`:
    asking for `id` makes the call fail; `TableLike`: single-ID requests are answered exactly, batch answers
    may LEAVE EVENTS OUT — a limit per call, say), VerifyEventAuthChain — whenever its stack loop finishes within
    `fuel` (`hfuel`: no bound on `fuel` is proved; the retry loops inside always finish with `n + 2`) — accepts
    EXACTLY when the event and, recursively, every auth event the provider supplies for it
    (`Reach`) passes: no needed ID makes the provider fail, every resolved auth event is a state event,
    and the event is allowed by its resolved auth events (`chainGood`) — whichever request (the batch request
    or the single-ID retry of checkAllowedByAuthEvents) obtained the auth event.  No acyclicity is needed: the
    `verifiedEvents` set and the lookup table make the loop skip events it has seen (a cycle of mutually
    citing events is verified once each).  IDs the provider has nothing for are simply left out of the auth
    events handed to `Allowed` — "failing to provide all the requested events will fail this function"
    (authchain.go) holds only in so far as `Allowed` then refuses. -/
theorem auth_chain_iff {P} (O : Oracles P) (hidem : AddIdem O) (root : Event) (table : Bytes → Option Event) (errs : Bytes → Bool)
    (prov : EventProvider) (htl : TableLike table errs prov)
    (htable : ∀ id e, table id = some e → e.eventID = id) (n fuel : Nat) (log : Log)
    (hfuel : (verifyEventAuthChain O prov (n + 2) fuel root log).1 ≠ .outOfFuel) :
    (verifyEventAuthChain O prov (n + 2) fuel root log).1 = .ok ↔
      ∀ e, Reach root table e → chainGood O root table errs e = true := by
  have hp := chainLoop_post O root table errs hidem htl htable n fuel
    { stack := [root], m := [(root.eventID, some root)], verified := [] } log (chainInv_init O root table errs)
  unfold verifyEventAuthChain at hfuel ⊢
  cases hv : (chainLoop O prov (n + 2) fuel { stack := [root], m := [(root.eventID, some root)], verified := [] } log).1 with
  | ok =>
    rw [hv] at hp
    exact ⟨fun _ => hp, fun _ => rfl⟩
  | outOfFuel => exact absurd hv hfuel
  | _ =>
    -- a provider error or an auth failure: some reachable event is not good
    rw [hv] at hp
    obtain ⟨e, hr, hg⟩ := hp
    exact ⟨fun h => (by cases h), fun h => (by rw [h e hr] at hg; cases hg)⟩

/-- the provider that returns everything it has for a request -/
theorem auth_chain_iff_table {P} (O : Oracles P) (hidem : AddIdem O) (root : Event) (table : Bytes → Option Event) (errs : Bytes → Bool)
    (htable : ∀ id e, table id = some e → e.eventID = id) (n fuel : Nat) (log : Log)
    (hfuel : (verifyEventAuthChain O (tableProvider table errs) (n + 2) fuel root log).1 ≠ .outOfFuel) :
    (verifyEventAuthChain O (tableProvider table errs) (n + 2) fuel root log).1 = .ok ↔
      ∀ e, Reach root table e → chainGood O root table errs e = true :=
  auth_chain_iff O hidem root table errs _ (tableProvider_tableLike table errs) htable n fuel log hfuel

/-- a provider that hands out at most k + 1 events per call (/repo db4e83f: what the batch request leaves out
    reaches the lookup table through the single-ID retry, and is verified all the same): the verdict is the
    one of the complete table -/
theorem auth_chain_iff_capped {P} (O : Oracles P) (hidem : AddIdem O) (root : Event) (table : Bytes → Option Event) (errs : Bytes → Bool)
    (htable : ∀ id e, table id = some e → e.eventID = id) (hstate : ∀ id e, table id = some e → e.stateKey.isSome = true)
    (k n fuel : Nat) (log : Log)
    (hfuel : (verifyEventAuthChain O (capProvider table errs (k + 1)) (n + 2) fuel root log).1 ≠ .outOfFuel) :
    (verifyEventAuthChain O (capProvider table errs (k + 1)) (n + 2) fuel root log).1 = .ok ↔
      ∀ e, Reach root table e → chainGood O root table errs e = true :=
  auth_chain_iff O hidem root table errs _ (capProvider_tableLike table errs k hstate) htable n fuel log hfuel

/-! ## VerifyAuthRulesAtState -/

/-- the outcome as the specification's `atState` gives it: the three error outcomes become `none` (hence the clause on
    `idsErr` of its own in `at_state_iff`) -/
def asCoarse : ASOut → Option Bool
  | .ok => some true
  | .notAllowed => some false
  | _ => none

theorem lookup_map_kvs (kvs : List (Bytes × Event)) (id : Bytes) :
    (kvs.map (fun kv => (kv.1, some kv.2))).lookup id = (stateLookup kvs id).map some := by
  rw [Lists.lookup_map, stateLookup, Option.map_map]
  rfl

/-- with state events only, the slot check of the code is the specification's "two different events for one
    (type, state_key)" -/
theorem slotClash_of_allState (S : List Event) (hs : ∀ x ∈ S, x.stateKey.isSome = true) :
    slotClash S = S.any (fun a => S.any (fun b => (b.type == a.type && b.stateKey == a.stateKey) && !sameEvent a b)) := by
  unfold slotClash
  rw [Bool.eq_iff_iff]
  simp only [List.any_eq_true, Bool.and_eq_true]
  constructor
  · rintro ⟨a, ha, _, b, hb, _, h⟩
    exact ⟨a, ha, b, hb, h⟩
  · rintro ⟨a, ha, b, hb, h⟩
    exact ⟨a, ha, hs a ha, b, hb, hs b hb, h⟩

/-- the verdict of the slow path: a failing provider call is reported; a returned state is refused when two different
    events share a slot or some event has no state key — that is, when it does not form a state —, and else checked by
    `Allowed` against the provider built from ALL its events -/
theorem atStateSlow_fst {P} (O : Oracles P) (sp : StateProvider) (e : Event) (ids : List Bytes) (log : Log) :
    (atStateSlow O sp e ids log).1 =
      match sp.state e ids with
      | none => .stateErr
      | some kvs =>
        if formsState (kvs.map (·.2)) && O.allowedBy e (stateProviderOf O (kvs.map (·.2))) then .ok else .notAllowed := by
  unfold atStateSlow
  cases sp.state e ids with
  | none => rfl
  | some kvs =>
    simp only
    generalize kvs.map (·.2) = S
    rw [addAll_eq]
    unfold formsState
    cases hall : S.all (fun a => a.stateKey.isSome)
    · -- an event without a state key: refused, whatever the slot check says
      cases slotClash S <;> rfl
    · rw [slotClash_of_allState S (List.all_eq_true.mp hall)]
      cases S.any (fun a => S.any (fun b => (b.type == a.type && b.stateKey == a.stateKey) && !sameEvent a b)) <;>
        cases O.allowedBy e (S.foldl O.add O.empty) <;> rfl

/-- VerifyAuthRulesAtState accepts exactly when (validation is permitted and every auth
    event ID of the event is among the state IDs before it) or the event is allowed by THE STATE before it —
    every event of the returned state takes part, whether or not the event cites it —; a failing provider
    call is reported as such; `outOfFuel` is never answered (the check has no loop). -/
theorem at_state_iff {P} (O : Oracles P) (sp : StateProvider) (e : Event) (allow : Bool) (log : Log) :
    (verifyAuthRulesAtState O sp e allow log).1 ≠ .outOfFuel ∧
    asCoarse (verifyAuthRulesAtState O sp e allow log).1 = atState O sp e allow ∧
    ((verifyAuthRulesAtState O sp e allow log).1 = .idsErr ↔ sp.ids e = none) := by
  unfold verifyAuthRulesAtState atState
  cases hids : sp.ids e with
  | none => simp [asCoarse]
  | some ids =>
    simp only
    by_cases hshort : (allow && e.authEventIDs.all (fun a => ids.contains a)) = true
    · simp only [hshort, if_true]
      simp [asCoarse]
    · simp only [hshort, Bool.false_eq_true, if_false]
      rw [atStateSlow_fst]
      cases sp.state e ids with
      | none => simp [asCoarse]
      | some kvs =>
        cases hf : formsState (kvs.map (·.2)) <;> cases ha : O.allowedBy e (stateProviderOf O (kvs.map (·.2))) <;>
          simp [asCoarse, hf, ha]

/-- What the check computed before /repo fa4d4c4 differs from the specification exactly through
    the state events the event does not cite.  Abstract witness: the state holds a power-levels event `pl`
    that refuses `e`; `e` cites nothing.  The old definition (`atStateCited`) accepts, the specification and
    the model refuse. -/
example (pl e : Event) (hpl : pl.stateKey = some []) (he : e.authEventIDs = []) :
    let O : Oracles (List Event) := { sigOk := fun _ => true, empty := [], add := fun p a => a :: p, allowedBy := fun _ p => p.isEmpty }
    let sp : StateProvider := { ids := fun _ => some [], state := fun _ _ => some [(pl.eventID, pl)] }
    atStateCited O sp e false = some true ∧ atState O sp e false = some false ∧
      (verifyAuthRulesAtState O sp e false []).1 = .notAllowed := by
  simp [atStateCited, atState, verifyAuthRulesAtState, atStateSlow, addAll, stateLookup, citesNonState, authOf, stateProviderOf, he, hpl]

/-- The input that was order-dependent before /repo 6fe93b1: the returned "state" holds two DIFFERENT events for one
    (type, state_key) — say the power levels before and after `events_default` was raised.  The survivor of the Go map
    iteration used to decide (22 accepts / 178 rejects over 200 identical calls); now the call is refused, by the
    specification and by the model alike, whatever the oracles and whatever the event. -/
example {P} (O : Oracles P) (pl1 pl2 e : Event) (h1 : pl1.stateKey = some []) (h2 : pl2.stateKey = some [])
    (ht : pl2.type = pl1.type) (hd : sameEvent pl1 pl2 = false) :
    let sp : StateProvider := { ids := fun _ => some [], state := fun _ _ => some [(pl1.eventID, pl1), (pl2.eventID, pl2)] }
    atState O sp e false = some false ∧ (verifyAuthRulesAtState O sp e false []).1 = .notAllowed := by
  simp [atState, verifyAuthRulesAtState, atStateSlow, formsState, slotClash, h1, h2, ht, hd]

/-- where the event cites exactly the state, the two readings agree -/
theorem atStateCited_eq {P} (O : Oracles P) (sp : StateProvider) (e : Event) (allow : Bool)
    (hcite : ∀ ids kvs, sp.ids e = some ids → sp.state e ids = some kvs →
      formsState (kvs.map (·.2)) = true ∧ authOf O (stateLookup kvs) e = stateProviderOf O (kvs.map (·.2)) ∧
      citesNonState kvs e = false) :
    atStateCited O sp e allow = atState O sp e allow := by
  unfold atStateCited atState
  cases hids : sp.ids e with
  | none => rfl
  | some ids =>
    simp only
    split
    · rfl
    · cases hst : sp.state e ids with
      | none => rfl
      | some kvs =>
        obtain ⟨h1, h2, h3⟩ := hcite ids kvs hids hst
        simp only [h1, h3, Bool.not_true, Bool.false_eq_true, if_false]
        rw [h2]

/-! ## EventsLoader.LoadAndVerify -/

/-- the class the pipeline assigns to a parsed event: the FIRST check it fails (signature, auth chain,
    auth rules at the state before it); `none` = VerifyEventAuthChain does not finish within its fuel (the stack loop's
    `fuel`; with `caFuel ≥ 2` no retry loop runs out: `checkAllowed_terminates`) -/
def classOf {P} (O : Oracles P) (prov : EventProvider) (sp : StateProvider) (caFuel fuel : Nat) (e : Event) : Option LoadClass :=
  if !O.sigOk e then some .signatureErr
  else match (verifyEventAuthChain O prov caFuel fuel e []).1 with
    | .outOfFuel => none
    | .ok => (match atState O sp e true with
        | some true => some .ok
        | _ => some .authRulesErr)
    | _ => some .authChainErr

theorem classOf_eq_ok {P} (O : Oracles P) (prov : EventProvider) (sp : StateProvider) (caFuel fuel : Nat) (e : Event) :
    classOf O prov sp caFuel fuel e = some .ok ↔
      O.sigOk e = true ∧ (verifyEventAuthChain O prov caFuel fuel e []).1 = .ok ∧ atState O sp e true = some true := by
  unfold classOf
  cases O.sigOk e
  · simp
  · cases (verifyEventAuthChain O prov caFuel fuel e []).1 <;> simp
    cases atState O sp e true with
    | none => simp
    | some b => cases b <;> simp

theorem classifyOne_classOf {P} (O : Oracles P) (prov : EventProvider) (sp : StateProvider) (caFuel fuel : Nat)
    (e : Event) (log log' : Log) (c : LoadClass) (h : classifyOne O prov sp caFuel fuel e log = some (c, log')) :
    classOf O prov sp caFuel fuel e = some c := by
  unfold classifyOne at h
  unfold classOf
  by_cases hs : (!O.sigOk e) = true
  · simp only [hs, if_true] at h ⊢
    cases h; rfl
  · simp only [hs, Bool.false_eq_true, if_false] at h ⊢
    rw [← verifyEventAuthChain_log O prov caFuel fuel e log]
    cases hc : verifyEventAuthChain O prov caFuel fuel e log with
    | mk v lg1 =>
      rw [hc] at h
      cases v with
      | outOfFuel => simp at h
      | ok =>
        simp only at h ⊢
        obtain ⟨hne, hco, _⟩ := at_state_iff O sp e true lg1
        cases ha : verifyAuthRulesAtState O sp e true lg1 with
        | mk a lg2 =>
          rw [ha] at h hne hco
          simp only at hne hco h
          rw [← hco]
          cases a with
          | outOfFuel => exact absurd rfl hne
          | _ => simp only [Option.some.injEq, Prod.mk.injEq] at h; simp [asCoarse, h.1]
      | _ => simp at h; simp [h.1]

theorem loadLoop_classified {P} (O : Oracles P) (prov : EventProvider) (sp : StateProvider) (caFuel fuel : Nat)
    (evs : List Event) (log : Log) (rs : List LoadResult) (log' : Log)
    (h : loadLoop O prov sp caFuel fuel evs log = some (rs, log')) :
    rs.map (·.event) = evs.map some ∧ rs.map (fun r => some r.cls) = evs.map (classOf O prov sp caFuel fuel) := by
  induction evs generalizing log rs log' with
  | nil =>
    simp only [loadLoop, Option.some.injEq, Prod.mk.injEq] at h
    rw [← h.1]
    exact ⟨rfl, rfl⟩
  | cons e es ih =>
    unfold loadLoop at h
    cases hc : classifyOne O prov sp caFuel fuel e log with
    | none => simp [hc] at h
    | some cl =>
      obtain ⟨c, log1⟩ := cl
      simp only [hc] at h
      cases hl : loadLoop O prov sp caFuel fuel es log1 with
      | none => simp [hl] at h
      | some r2 =>
        obtain ⟨rs2, log2⟩ := r2
        simp only [hl, Option.some.injEq, Prod.mk.injEq] at h
        rw [← h.1]
        obtain ⟨h1, h2⟩ := ih log1 rs2 log2 hl
        simp [List.map_cons, h1, h2, classifyOne_classOf O prov sp caFuel fuel e log log1 c hc]

theorem parsed_count (raw : List Parsed) (seen : List Bytes) :
    (parsedCleanFrom raw seen).length + parseErrCountFrom raw seen = raw.length := by
  induction raw generalizing seen with
  | nil => rfl
  | cons r rest ih =>
    cases r with
    | ok e =>
      unfold parsedCleanFrom parseErrCountFrom
      by_cases hc : seen.contains e.eventID = true
      · simp only [hc, if_true, List.length_cons]
        have := ih seen
        omega
      · simp only [hc, Bool.false_eq_true, if_false, List.length_cons]
        have := ih (e.eventID :: seen)
        omega
    | _ =>
      unfold parsedCleanFrom parseErrCountFrom
      simp only [List.length_cons]
      have := ih seen
      omega

/-- When the ordering returns as many events as it was given (it is a permutation of
    events with pairwise distinct IDs), LoadAndVerify returns exactly one result per input: first, in the
    order of the ordering, one result per event that parsed (and whose ID is not a repeat), carrying the
    event and the class of the FIRST check it fails; then one parse-error result per rejected input. -/
theorem load_classification {P} (O : Oracles P) (prov : EventProvider) (sp : StateProvider) (caFuel fuel : Nat)
    (order : List Event → List Event) (raw : List Parsed) (log log' : Log) (rs : List LoadResult)
    (hord : (order (parsedClean raw)).length = (parsedClean raw).length)
    (h : loadAndVerify O prov sp caFuel fuel order raw log = some (rs, log')) :
    rs.length = raw.length ∧
    ∃ pre, rs = pre ++ List.replicate (parseErrCount raw) parseErrResult ∧
      pre.map (·.event) = (order (parsedClean raw)).map some ∧
      pre.map (fun r => some r.cls) = (order (parsedClean raw)).map (classOf O prov sp caFuel fuel) := by
  unfold loadAndVerify at h
  cases hl : loadLoop O prov sp caFuel fuel (order (parsedClean raw)) log with
  | none => simp [hl] at h
  | some r =>
    obtain ⟨pre, lg⟩ := r
    simp only [hl, Option.some.injEq, Prod.mk.injEq] at h
    have hf := loadLoop_classified O prov sp caFuel fuel _ log pre lg hl
    have hlen : pre.length = (parsedClean raw).length := by
      rw [← hord]
      have := congrArg List.length hf.1
      simpa using this
    have hcount := parsed_count raw []
    have hgap : raw.length - parseErrCount raw - pre.length = 0 := by
      unfold parsedClean at hlen
      unfold parseErrCount
      omega
    have hrs : rs = pre ++ List.replicate (parseErrCount raw) parseErrResult := by
      rw [← h.1]
      unfold layout
      rw [hgap]
      simp
    refine ⟨?_, pre, hrs, hf.1, hf.2⟩
    rw [hrs, List.length_append, List.length_replicate, hlen]
    unfold parsedClean parseErrCount
    omega

/-- without that hypothesis a slot stays empty (the zero value: no event, no error): what happened before
    LoadAndVerify rejected repeated event IDs itself — kept as the witness of the fixed finding -/
example : layout 2 0 [⟨.ok, some default⟩] = [⟨.ok, some default⟩, emptyResult] := by rfl

/-! ## RequestBackfill

  RequestBackfill keeps, per server, the events whose load result is `nil` OR `SignatureErr` ("the signature
  of the event might not be valid anymore", backfill.go) and drops the auth failures and parse errors.  So an
  event that FAILED its signature check — and was therefore never auth-checked — is handed on: this is what
  the code says it intends, it is outside the statement of C14 (which speaks of CheckStateResponse,
  CheckSendJoinResponse, VerifyEventAuthChain, VerifyAuthRulesAtState and LoadAndVerify) but at odds with
  its title. -/

/-- one round of the loop over the load results: results of the three kept classes have their event dereferenced -/
theorem collect_cons (r : LoadResult) (rs : List LoadResult) (have_ : List Bytes) (res : List Event) :
    collect (r :: rs) have_ res =
      if r.cls = .ok ∨ r.cls = .signatureErr ∨ r.cls = .empty then
        match r.event with
        | none => .error "backfill.go:RequestBackfill:res.Event.EventID() on a nil Event"
        | some e => if have_.contains e.eventID then collect rs have_ res else collect rs (e.eventID :: have_) (res ++ [e])
      else collect rs have_ res := by
  rw [collect]
  cases r.cls <;> rfl

/-- every event RequestBackfill collects from a batch of load results was classified `ok` or
    `signatureErr` (or sits in a slot LoadAndVerify never wrote: by `load_classification` there is none when the ordering
    keeps the length) -/
theorem collect_mem (rs : List LoadResult) (have_ : List Bytes) (res : List Event) (have' : List Bytes) (res' : List Event)
    (h : collect rs have_ res = .ok (have', res')) (e : Event) (he : e ∈ res') :
    e ∈ res ∨ ∃ r ∈ rs, r.event = some e ∧ (r.cls = .ok ∨ r.cls = .signatureErr ∨ r.cls = .empty) := by
  induction rs generalizing have_ res with
  | nil =>
    simp only [collect, Except.ok.injEq, Prod.mk.injEq] at h
    rw [← h.2] at he
    exact Or.inl he
  | cons r rs ih =>
    rw [collect_cons] at h
    -- the rest of the loop, started from a list `rr` all of whose events are old or come from `r`
    have step : ∀ (hv : List Bytes) (rr : List Event), collect rs hv rr = .ok (have', res') →
        (∀ x ∈ rr, x ∈ res ∨ (r.event = some x ∧ (r.cls = .ok ∨ r.cls = .signatureErr ∨ r.cls = .empty))) →
        e ∈ res ∨ ∃ r' ∈ r :: rs, r'.event = some e ∧ (r'.cls = .ok ∨ r'.cls = .signatureErr ∨ r'.cls = .empty) := by
      intro hv rr hc hrr
      rcases ih hv rr hc with h1 | ⟨r', hr', h2⟩
      · rcases hrr e h1 with h3 | h3
        · exact Or.inl h3
        · exact Or.inr ⟨r, List.mem_cons_self, h3⟩
      · exact Or.inr ⟨r', List.mem_cons_of_mem _ hr', h2⟩
    by_cases hk : r.cls = .ok ∨ r.cls = .signatureErr ∨ r.cls = .empty
    · rw [if_pos hk] at h
      cases hev : r.event with
      | none => rw [hev] at h; cases h
      | some x =>
        rw [hev] at h
        dsimp only at h
        by_cases hc : have_.contains x.eventID = true
        · rw [if_pos hc] at h; exact step _ _ h (fun _ hy => Or.inl hy)
        · rw [if_neg hc] at h
          refine step _ _ h (fun y hy => ?_)
          rcases List.mem_append.mp hy with h1 | h1
          · exact Or.inl h1
          · exact Or.inr ⟨(List.mem_singleton.mp h1) ▸ hev, hk⟩
    · rw [if_neg hk] at h; exact step _ _ h (fun _ hy => Or.inl hy)

/-- the dereference of a nil event cannot happen on load results that carry an event whenever they are not
    errors of the dropped kinds (so it is for the results `load_classification` describes: events with their class, then
    `parseErrResult`s; no theorem joins the two) -/
theorem collect_no_panic (rs : List LoadResult) (have_ : List Bytes) (res : List Event)
    (h : ∀ r ∈ rs, (r.cls = .ok ∨ r.cls = .signatureErr ∨ r.cls = .empty) → r.event.isSome = true) :
    ∃ x, collect rs have_ res = .ok x := by
  induction rs generalizing have_ res with
  | nil => exact ⟨_, rfl⟩
  | cons r rs ih =>
    have ih' := fun hv rr => ih hv rr (fun r' hr' => h r' (List.mem_cons_of_mem _ hr'))
    rw [collect_cons]
    by_cases hk : r.cls = .ok ∨ r.cls = .signatureErr ∨ r.cls = .empty
    · obtain ⟨x, hx⟩ := Option.isSome_iff_exists.mp (h r List.mem_cons_self hk)
      rw [if_pos hk, hx]
      dsimp only
      by_cases hc : have_.contains x.eventID = true
      · rw [if_pos hc]; exact ih' _ _
      · rw [if_neg hc]; exact ih' _ _
    · rw [if_neg hk]; exact ih' _ _

/-- a signature-failed event is passed on by RequestBackfill -/
example (e : Event) : collect [⟨.signatureErr, some e⟩] [] [] = .ok ([e.eventID], [e]) := by
  simp [collect]

/-- Every event the RequestBackfill loop hands on was collected from the LoadAndVerify results
    of some answering server, where it was classified `ok` or `signatureErr` (`empty`: a slot never written —
    excluded by `load_classification` when the ordering keeps the length).  With `load_classification` (the class is
    the FIRST failing check): a returned event either failed its signature check or passed the auth-chain and the state-at-event check —
    the clause the `fedcheck.backfill_props` op evaluates on the implementation's answer. -/
theorem backfill_sound {P} (O : Oracles P) (prov : EventProvider) (sp : StateProvider) (caFuel fuel : Nat)
    (order : List Event → List Event) (limit : Nat) (servers : List ServerAns) (i : Nat) (have_ : List Bytes)
    (res0 : List Event) (lastErr : Bool) (log : Log) (res : List Event) (le : Bool) (log' : Log)
    (h : backfillLoop O prov sp caFuel fuel order limit servers i have_ res0 lastErr log = (.done res le, log'))
    (e : Event) (he : e ∈ res) :
    e ∈ res0 ∨ ∃ raw, some raw ∈ servers ∧ ∃ lg rs lg', loadAndVerify O prov sp caFuel fuel order raw lg = some (rs, lg') ∧
      ∃ r ∈ rs, r.event = some e ∧ (r.cls = .ok ∨ r.cls = .signatureErr ∨ r.cls = .empty) := by
  induction servers generalizing i have_ res0 lastErr log with
  | nil =>
    simp only [backfillLoop, Prod.mk.injEq, BFOut.done.injEq] at h
    rw [← h.1.1] at he
    exact Or.inl he
  | cons s rest ih =>
    unfold backfillLoop at h
    split at h
    · simp only [Prod.mk.injEq, BFOut.done.injEq] at h
      rw [← h.1.1] at he
      exact Or.inl he
    · cases s with
      | none =>
        simp only at h
        rcases ih _ _ _ _ _ h with h1 | ⟨raw, hm, hx⟩
        · exact Or.inl h1
        · exact Or.inr ⟨raw, List.mem_cons_of_mem _ hm, hx⟩
      | some raw =>
        simp only at h
        cases hl : loadAndVerify O prov sp caFuel fuel order raw (log ++ [.backfill i]) with
        | none => rw [hl] at h; simp at h
        | some x =>
          obtain ⟨rs, log2⟩ := x
          rw [hl] at h
          simp only at h
          cases hc : collect rs have_ res0 with
          | error site => rw [hc] at h; simp at h
          | ok y =>
            obtain ⟨have', res'⟩ := y
            rw [hc] at h
            simp only at h
            rcases ih _ _ _ _ _ h with h1 | ⟨raw', hm, hx⟩
            · rcases collect_mem rs have_ res0 have' res' hc e h1 with h2 | ⟨r, hr, h3⟩
              · exact Or.inl h2
              · exact Or.inr ⟨raw, List.mem_cons_self, _, rs, log2, hl, r, hr, h3⟩
            · exact Or.inr ⟨raw', List.mem_cons_of_mem _ hm, hx⟩

/-- the hypothesis of `backfill_sound` is satisfiable (whatever the oracles): a server that fails and one whose
    only PDU does not parse -/
example {P} (O : Oracles P) (prov : EventProvider) (sp : StateProvider) :
    backfillLoop O prov sp 2 10 id 5 [none, some [.bad]] 0 [] [] false [] = (.done [] true, [.backfill 0, .backfill 1]) := by
  simp [backfillLoop, loadAndVerify, parsedClean, parsedCleanFrom, parseErrCount, parseErrCountFrom, loadLoop, layout, collect, parseErrResult]

end V.C14
