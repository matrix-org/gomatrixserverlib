/-
  C14 composed with C06 and C07 — the oracles of the federation-response filters discharged by the models of the
  functions the code really calls there:

    sigOk e        :=  `VerifyEventSignatures(e, verifier, userIDForSender) == nil`   — VModel.Signers (C06)
    allowedBy e p  :=  `Allowed(e, p, userIDForSender) == nil`                        — VModel.Auth.allowedFresh (C07)
    P, empty, add  :=  the `AuthEvents` object (`NewAuthEvents(nil)`, `AddEvent`)      — VModel.FedCheckInst

  so that the sentence of the property reads, without oracles: every event `CheckStateResponse` returns carries a
  signature the verifier reports valid from EACH server `requiredSigners` lists for it (C06: the sender's server, the
  event-ID server in versions 1–2, the invited user's server, the authorising server of a restricted join) at the event's
  origin_server_ts under the version's key-validity rule, and is accepted by the auth rules (C07) against exactly those
  of its auth events that were verified or came from the caller's provider.
-/
import VProps.C14
import VProps.C06
namespace V.C14
open V.FedCheck V.FedCheck.Spec V.Signers V.Auth

/-- the verifier's side of the world: what the sender lookup answers for an event, and which requests the verifier
    reports valid while it checks that event -/
structure SigWorld where
  row : VGen.VersionRow
  sd : Event → Except Err (Option Bytes)
  valid : Event → Request → Bool

/-- `VerifyEventSignatures(e) == nil` as a Boolean -/
def SigWorld.sigOk (w : SigWorld) (e : Event) : Bool :=
  match verifyEventSignatures w.row e (w.sd e) (w.valid e) false with
  | .ok _ => true
  | .error _ => false

theorem SigWorld.sigOk_iff (w : SigWorld) (e : Event) :
    w.sigOk e = true ↔ verifyEventSignatures w.row e (w.sd e) (w.valid e) false = .ok () := by
  unfold SigWorld.sigOk
  cases h : verifyEventSignatures w.row e (w.sd e) (w.valid e) false with
  | ok u => cases u; simp
  | error err => simp

/-- the oracles of C14 instantiated with the C06 and C07 models -/
def composedOracles (w : SigWorld) : Oracles Provider :=
  { sigOk := w.sigOk, empty := pempty, add := padd, allowedBy := fun e p => allowedFresh e p == .ok }

theorem composedOracles_addIdem (w : SigWorld) : AddIdem (composedOracles w) := fun p a => padd_idem p a

theorem composed_allowedBy_iff (w : SigWorld) (e : Event) (p : Provider) :
    (composedOracles w).allowedBy e p = true ↔ allowedFresh e p = .ok := by
  show (allowedFresh e p == Verdict.ok) = true ↔ _
  exact beq_iff_eq

/-- the `sigOk` oracle of the composition is "every server the C06 model requires for the event was reported valid at
    the event's origin_server_ts under the version's key-validity rule" -/
theorem composed_sigOk_iff (w : SigWorld) (e : Event) :
    (composedOracles w).sigOk e = true ↔
      ∃ l, requiredSigners w.row e (w.sd e) = .ok l ∧
        ∀ s ∈ l, w.valid e ⟨s, e.originServerTS, strictValidity w.row⟩ = true :=
  (w.sigOk_iff e).trans (C06.verify_iff w.row e (w.sd e) (w.valid e))

/-- **What leaves `CheckStateResponse`, without oracles.**  Every returned event was in the response, every server the
    C06 model requires for it was reported valid at its origin_server_ts under the version's rule, and the C07 model of
    `Allowed` accepts it against the provider built from its verified / provider-supplied auth events. -/
theorem state_response_signed_and_allowed (w : SigWorld) (prov : Option EventProvider) (hprov : ProvOK prov)
    (n : Nat) (A S A' S' : List Event) (log : Log)
    (h : (checkStateResponse (composedOracles w) prov (n + 2) A S log).1 = .ok A' S') :
    ∀ e ∈ A' ++ S',
      e ∈ A ++ S ∧
      (∃ l, requiredSigners w.row e (w.sd e) = .ok l ∧
        ∀ s ∈ l, w.valid e ⟨s, e.originServerTS, strictValidity w.row⟩ = true) ∧
      allowedFresh e (authOf (composedOracles w) (resolve (verified (composedOracles w) (A ++ S)) prov) e) = .ok := by
  intro e he
  obtain ⟨hmem, hsig, hall⟩ := (state_response_sound (composedOracles w) (composedOracles_addIdem w) prov hprov n A S A' S' log h).1 e he
  exact ⟨hmem, (composed_sigOk_iff w e).mp hsig, (composed_allowedBy_iff w e _).mp hall⟩

/-- … and an event of the response that is missing from the answer failed one of the two: some required server was
    not reported valid (or the required set could not be determined), or the auth rules refuse it. -/
theorem state_response_dropped_why (w : SigWorld) (prov : Option EventProvider) (hprov : ProvOK prov)
    (n : Nat) (A S A' S' : List Event) (log : Log)
    (h : (checkStateResponse (composedOracles w) prov (n + 2) A S log).1 = .ok A' S')
    (e : Event) (he : e ∈ A ++ S) (hne : e ∉ A' ++ S') :
    (¬ ∃ l, requiredSigners w.row e (w.sd e) = .ok l ∧
        ∀ s ∈ l, w.valid e ⟨s, e.originServerTS, strictValidity w.row⟩ = true) ∨
    allowedFresh e (authOf (composedOracles w) (resolve (verified (composedOracles w) (A ++ S)) prov) e) ≠ .ok := by
  have hs := state_response_sound (composedOracles w) (composedOracles_addIdem w) prov hprov n A S A' S' log h
  have hbad : good (composedOracles w) prov (A ++ S) e = false := by
    rw [List.mem_append] at he hne
    rcases he with he | he
    · exact hs.2.1 e he (fun hc => hne (Or.inl hc))
    · exact hs.2.2 e he (fun hc => hne (Or.inr hc))
  unfold good at hbad
  rcases Bool.and_eq_false_iff.mp hbad with h | h
  · left
    intro hex
    rw [(composed_sigOk_iff w e).mpr hex] at h
    cases h
  · right
    intro hok
    rw [(composed_allowedBy_iff w e _).mpr hok] at h
    cases h

/-! ### Non-vacuity: a concrete response (room version 10, a create event sent by `@a:hs1`) -/

def exCreate : Event :=
  { ver := b!"10", eventID := b!"$create", obj :=
      [(b!"type", .str b!"m.room.create"), (b!"sender", .str b!"@a:hs1"), (b!"room_id", .str b!"!r:hs1"), (b!"state_key", .str b!""),
       (b!"content", .obj [(b!"creator", .str b!"@a:hs1"), (b!"room_version", .str b!"10")]),
       (b!"origin_server_ts", .num b!"5"), (b!"depth", .num b!"1"), (b!"prev_events", .arr []), (b!"auth_events", .arr [])] }

/-- the verifier reports `hs1` valid (`good`) or nobody -/
def exWorld (row : VGen.VersionRow) (good : Bool) : SigWorld :=
  { row := row, sd := fun _ => .ok (some b!"hs1"), valid := fun _ r => good && r.server == b!"hs1" }

/-- sizes of the answer to the response `auth = [], state = [exCreate]` -/
def exRun (good : Bool) : Option (Nat × Nat) :=
  (VGen.roomVersions.find? (fun r => r.key == "10")).map (fun row =>
    match (checkStateResponse (composedOracles (exWorld row good)) none 2 [] [exCreate] []).1 with
    | .ok a s => (a.length, s.length)
    | _ => (99, 99))

/-- with the sender's server reported valid the create event is returned (the hypothesis of
    `state_response_signed_and_allowed` holds with a non-empty answer); with no valid signature it is dropped and the
    response still succeeds (`state_response_dropped_why` applies) -/
example : exRun true = some (0, 1) ∧ exRun false = some (0, 0) := by decide +kernel

end V.C14
