/-
  Translated-function obligations for tokens/tokens_handlers.go: `verifyExpiry`.
-/
import VGen.TransTokens
import VProofs.Tokens
namespace V.Trans.Tokens
open V.Tokens

theorem atoiDigits_eq (ds : List UInt8) (acc : Nat) : GoSem.atoiDigits ds acc = parseDigits ds acc := by
  induction ds generalizing acc with
  | nil => rfl
  | cons b rest ih =>
    simp only [GoSem.atoiDigits, parseDigits, digitVal]
    by_cases h : 48 ≤ b.toNat ∧ b.toNat ≤ 57
    · simp [h, ih]
    · simp [h]

/-- the translator's reading of `strconv.Atoi` is the model's -/
theorem atoi_eq (s : List UInt8) : GoSem.atoi s = V.Tokens.atoi s := by
  cases s with
  | nil => rfl
  | cons c rest =>
    simp only [GoSem.atoi, V.Tokens.atoi, atoiDigits_eq, minInt64, maxInt64]
    generalize (if (c == 45 || c == 43) = true then rest else c :: rest) = ds
    cases ds with
    | nil => rfl
    | cons d ds' =>
      show (match parseDigits (d :: ds') 0 with | none => none | some n => _) = (match parseDigits (d :: ds') 0 with | none => none | some n => _)
      generalize parseDigits (d :: ds') 0 = r
      cases r <;> rfl

/-- **verifyExpiry**, translated from the current source: the caveat's number must parse as a decimal int64 and the
    clock must be strictly before it — the model's `verifyExpiry`, for every text and clock reading. -/
theorem verifyExpiry_eq_model (t : List UInt8) (now : Int) :
    VGen.TransTokens.verifyExpiry t now = V.Tokens.verifyExpiry t now := by
  unfold VGen.TransTokens.verifyExpiry V.Tokens.verifyExpiry
  rw [atoi_eq]
  cases h : V.Tokens.atoi t <;> simp

/-- the property's clause on the translated function: a token is live only strictly before its expiry -/
theorem verifyExpiry_true_iff (t : List UInt8) (now : Int) :
    VGen.TransTokens.verifyExpiry t now = true ↔ ∃ e, V.Tokens.atoi t = some e ∧ now < e := by
  rw [verifyExpiry_eq_model]
  exact verifyExpiry_iff t now

end V.Trans.Tokens
