/-
  Translated-function obligations for keyring.go: `PublicKeyLookupResult.WasValidAt`.
-/
import VGen.TransKeys
import VModel.KeyRing
namespace V.Trans.Keys
open V.KeyRing

/-- the validity function the model's `strict` flag and clock denote -/
def checkFn (strict : Bool) (now : Nat) : Int → Int → Bool :=
  fun a u => if strict then strictValidity a.toNat u.toNat now else noStrictValidity a.toNat u.toNat

/-- **WasValidAt**: the Go method translated from the current source is the model's `wasValidAt`, for every lookup
    result, timestamp, validity rule and clock. -/
theorem wasValidAt_eq_model (r : KeyRes) (atTs : Nat) (strict : Bool) (now : Nat) :
    VGen.TransKeys.WasValidAt ⟨Int.ofNat r.expiredTS, Int.ofNat r.validUntilTS⟩ (Int.ofNat atTs) (checkFn strict now)
      = wasValidAt r atTs strict now := by
  unfold VGen.TransKeys.WasValidAt wasValidAt checkFn
  by_cases h : r.expiredTS = 0
  · simp [h]
  · simp [h]

/-- the property's reading, on the translated function itself: an expired key is valid strictly before `expired_ts`
    and never consults the validity rule; a current key is valid exactly when the version's rule says so. -/
theorem wasValidAt_spec (e v a : Int) (f : Int → Int → Bool) :
    VGen.TransKeys.WasValidAt ⟨e, v⟩ a f = (if e ≠ 0 then decide (a < e) else f a v) := by
  unfold VGen.TransKeys.WasValidAt
  by_cases h : e = 0 <;> simp [h]

end V.Trans.Keys
