/-
  C19 — Shared caches and parallel key fetching are safe under concurrency.

  Theorems over ALL schedules of the interleaving models VModel.ConcDns / VModel.ConcFetch / VModel.ConcVerify (and, at
  the end, the transport table and the EventID accessor): `Reachable` is the closure of
  `init` under the executable `step` function the driver runs, for any number of threads, any op list per thread, any
  clock readings (non-decreasing), any resolver / key-client fault pattern and any Go map iteration order.

  What the model cannot exhibit (the property is claimed PARTIAL for these): the Go memory model (torn reads,
  reordering), the real scheduler and timers.  The granularity is the atomic region (lock … unlock, channel receive,
  unlocked oracle call); the schedule-for-schedule correspondence check ties it to the code.

  Findings of this property (all fixed in /repo, kept as regression guards / documented lemmas):
  * (fixed in /repo bcd0619) NewDNSCache(size ≤ 0, …): the first miss spun forever with the mutex held
    (`dns_evict_spins_of_size_le_zero` is the lemma about the loop; `dns_disabled_of_size_le_zero`,
    `dns_lookup_terminates` are the theorems about the fixed code; ops `conc.dns_size0`).
  * (fixed in /repo 69aec98) eventV2.EventID() used to write EventIDRaw on first use without a lock; the ID is now
    computed at construction and the accessor is read-only: `event_accessors_read_only`.
  * (fixed in /repo 3755557) KeyRing.VerifyJSONs ended with `StoreKeys(keysFetched)` — everything it held, including the
    entries it had only READ from the database: of two concurrent calls on one database, the one whose fetch failed
    wrote the stale entry it had read back over the fresh entry the other one had fetched and stored in between (a lost
    update; no sequential order of the two calls leaves the stale entry).  `verify_store_only_fetched`,
    `verify_no_lost_update`, `verify_serializable_one_writer` are the theorems about the fixed code; ops `conc.verify2`.
-/
import VProofs.ConcDns
import VProofs.ConcFetch
import VProofs.ConcVerify
namespace V.C19
open V.Conc V.Conc.Dns

/-! ## DNS cache -/

/-- The cache never holds more entries than its configured size — for EVERY size: a cache with `size ≤ 0` holds nothing. -/
theorem dns_size_bounded {c : Cfg} {todos : List (List Op)} {t0 : Int} {s : State}
    (h : Reachable c todos t0 s) : (s.entries.length : Int) ≤ max c.size 0 := (invC_reachable h).size

/-- With `size ≤ 0` the locked store path (Lock, eviction loop, insert) is never entered and the map stays empty:
    the cache is disabled, every lookup resolves (/repo bcd0619). -/
theorem dns_disabled_of_size_le_zero {c : Cfg} {todos : List (List Op)} {t0 : Int} {s : State} (hc : c.size ≤ 0)
    (h : Reachable c todos t0 s) :
    s.entries = [] ∧ s.mutex = none ∧ ∀ th ∈ s.threads, (∀ n a, th.pc ≠ .store n a) ∧ (∀ n a, th.pc ≠ .evict n a) := by
  have ic := invC_reachable h
  have hthr : ∀ th ∈ s.threads, ¬ atStore th := fun th hth hat => Int.not_lt.2 hc (ic.thr th hth hat)
  refine ⟨List.eq_nil_of_length_eq_zero (by have := ic.size; omega), ?_, fun th hth =>
    ⟨fun n a hpc => hthr th hth (.inl ⟨n, a, hpc⟩), fun n a hpc => hthr th hth (.inr ⟨n, a, hpc⟩)⟩⟩
  cases hm : s.mutex with
  | none => rfl
  | some i =>
    obtain ⟨th, hth, hev⟩ := ((invA_reachable h).owner i).1 hm
    exact absurd (.inr hev) (hthr th (List.mem_of_getElem? hth))

/-- The map never holds two entries for one host name. -/
theorem dns_no_dup_keys {c : Cfg} {todos : List (List Op)} {t0 : Int} {s : State}
    (h : Reachable c todos t0 s) : (s.entries.map (·.1)).Nodup := (invA_reachable h).nodup

/-- A step that returns a cached entry (`hit`) at clock value `m.t` has `m.t < entry.expires`, and the entry is the one
    stored under that name. -/
theorem dns_no_stale_served {c : Cfg} {s s' : State} {m : Move} {th th' : Thread} {n : Name} {e : Entry}
    (h : step c s m = some s') (hth : s.threads[m.tid]? = some th) (hth' : s'.threads[m.tid]? = some th')
    (hret : th'.rets = .hit n e :: th.rets) : m.t < e.expires ∧ (n, e) ∈ s.entries := by
  obtain ⟨-, th0, th0', es', mx', hth0, hreg, rfl⟩ := step_region h
  rw [hth] at hth0; cases hth0
  simp only [Lists.get_set hth, if_true] at hth'; cases hth'
  exact hreg.served hret

/-- If the resolver's successful answers are a function `ans` of the host name, every entry stored under `h` holds
    `ans h`, and every lookup of `h` that returned an entry (cached or fresh) returned `ans h`: never one host's
    addresses for another. -/
theorem dns_right_host {c : Cfg} {ans : Name → Addrs} (hres : ∀ n k a, c.resolver n k = some a → a = ans n)
    {todos : List (List Op)} {t0 : Int} {s : State} (h : Reachable c todos t0 s) :
    (∀ p ∈ s.entries, p.2.addrs = ans p.1) ∧
    (∀ th ∈ s.threads, ∀ r ∈ th.rets, ∀ n e, (r = .hit n e ∨ r = .miss n e) → e.addrs = ans n) := by
  have inv := invL_reachable hres h
  refine ⟨inv.host, fun th hth => ?_⟩
  obtain ⟨i, hi⟩ := List.getElem?_of_mem hth
  obtain ⟨_, _, _, _, _, hex, _⟩ := inv.hist i th hi
  exact hex.addrs

/-- Every caller gets a result the SEQUENTIAL specification of its own op allows (`Spec.okRet`): in every reachable state the
    ops of each thread split into finished ones, at most one in flight, and the rest; the finished ones explain the
    thread's results one by one: a lookup of `n` returned `ans n` (cached or fresh), or failed — and then the resolver
    call made for that very lookup failed; a delete returned nothing.
    PARTIAL as a linearizability statement: the `cached` flag and the map contents are NOT claimed to be those of one
    sequential execution under the same clock — two concurrent misses of one name both call the resolver and both
    return `cached = false`, which a sequential run (second lookup hits) would not do; callers cannot observe the
    difference in the addresses they get.  What is missing for full linearizability is a sequential witness order for
    the flags; it does not exist for the code as written. -/
theorem linearizable_lookup_partial {c : Cfg} {ans : Name → Addrs} (hres : ∀ n k a, c.resolver n k = some a → a = ans n)
    {todos : List (List Op)} {t0 : Int} {s : State} (h : Reachable c todos t0 s) {i : Nat} {th : Thread}
    (hth : s.threads[i]? = some th) :
    ∃ ops doneRev infl, todos[i]? = some ops ∧ ops = doneRev.reverse ++ infl ++ th.todo ∧ infl.length ≤ 1 ∧
      Spec.Explained c ans doneRev th.rets := by
  obtain ⟨ops, h1, doneRev, infl, h2, h3, h4⟩ := (invL_reachable hres h).hist i th hth
  refine ⟨ops, doneRev, infl, h1, h2, ?_, h3⟩
  cases hpc : th.pc <;> rw [hpc] at h4 <;> simp only at h4
  · subst h4; simp
  · subst h4; simp
  · obtain ⟨_, h4, _⟩ := h4; subst h4; simp
  · obtain ⟨_, h4, _⟩ := h4; subst h4; simp

/-- The mutex is held between steps exactly by a thread inside the eviction loop (mutual exclusion of the locked regions). -/
theorem dns_mutex_owner {c : Cfg} {todos : List (List Op)} {t0 : Int} {s : State} (h : Reachable c todos t0 s) (i : Nat) :
    s.mutex = some i ↔ ∃ th, s.threads[i]? = some th ∧ ∃ n a, th.pc = .evict n a := (invA_reachable h).owner i

/-- Lockset discipline: every access of every step to `entries` happens with `c.mutex` held.  In the eviction loop the
    lock set is read off the state in which the access happens; region 1 and `del` take and release the mutex inside one
    step, and `accesses` tags them with the lock set of the state it builds itself (`mutex := some tid`). -/
theorem dns_lockset_discipline (c : Cfg) (s : State) (m : Move) : ∀ a ∈ accesses c s m, a.disciplined = true := by
  intro a ha
  -- the case structure of `accesses` (that of `step`), branch by branch: each branch is a literal list of accesses
  unfold accesses at ha
  split at ha
  · simp at ha
  · split at ha
    · split at ha
      · simp at ha
      · split at ha
        · simp at ha
        · split at ha
          · split at ha <;> simp at ha <;> (try rcases ha with rfl | rfl) <;> (try subst ha) <;>
              simp [Access.disciplined, guardOf, heldBy]
          · simp at ha; subst ha; simp [Access.disciplined, guardOf, heldBy]
      · split at ha
        · simp at ha
        · simp at ha; subst ha; simp [Access.disciplined, guardOf, heldBy]
    · simp at ha
    · simp at ha
    · split at ha
      · simp at ha
      · rename_i hmx
        have hmx' : s.mutex = some m.tid := by simpa using hmx
        simp at ha
        rcases ha with rfl | rfl <;> simp [Access.disciplined, guardOf, heldBy, hmx']

/-- No deadlock: in every reachable state in which some thread still has something to do, some move is enabled. -/
theorem dns_no_deadlock {c : Cfg} {todos : List (List Op)} {t0 : Int} {s : State} (h : Reachable c todos t0 s)
    (hw : ∃ th ∈ s.threads, ¬ (th.pc = .idle ∧ th.todo = [])) : ∃ m s', step c s m = some s' := by
  have inv := invA_reachable h
  -- a thread that can run can run at the current clock value
  have run : ∀ {i : Nat} {th : Thread}, s.threads[i]? = some th → Enabled ⟨i, s.now, 0⟩ s.mutex th → ∃ m s', step c s m = some s' :=
    fun hth hen => ⟨_, step_enabled.2 ⟨Int.le_refl _, _, hth, hen⟩⟩
  cases hmx : s.mutex with
  | some i =>
    -- the mutex holder is inside the eviction loop: its next iteration, or its store, is enabled
    obtain ⟨⟨_, td, rs⟩, hth, n, a, rfl⟩ := (inv.owner i).1 hmx
    exact run hth hmx
  | none =>
    obtain ⟨⟨pc, td, rs⟩, hmem, hwork⟩ := hw
    obtain ⟨i, hth⟩ := List.getElem?_of_mem hmem
    cases pc with
    | idle => exact run hth ⟨fun htd => hwork ⟨rfl, htd⟩, hmx⟩
    | resolve n sel => exact run hth trivial
    | store n a => exact run hth hmx
    | evict n a =>
      have := (inv.owner i).2 ⟨_, hth, n, a, rfl⟩
      rw [hmx] at this; cases this

/-- Termination of the eviction loop (what makes `lookup` return): with `0 < size`, once the clock value read in the
    loop is strictly later than every stored entry's timestamp (`expires < t + duration`), the loop of the thread holding
    the mutex ends within `len(entries) + 2` iterations, the entry is stored and the mutex released. -/
theorem dns_evict_terminates {c : Cfg} (hc : 0 < c.size) {g : Nat} {t : Int} {th : Thread} {n : Name} {a : Addrs} {s : State}
    (hth : s.threads[g]? = some th) (hpc : th.pc = .evict n a) (hmx : s.mutex = some g) (hnow : s.now ≤ t)
    (hold : ∀ p ∈ s.entries, p.2.expires < t + c.dur) :
    ∃ s', evictLoop c g t (s.entries.length + 2) s = some s' ∧ ∃ th', s'.threads[g]? = some th' ∧ th'.pc = .idle ∧ s'.mutex = none :=
  evictLoop_terminates hc _ s hth hpc hmx hnow hold (Nat.lt_succ_self _)

/-- In every reachable state the stored timestamps are not in the future (`expires ≤ now + duration`): so a clock read
    STRICTLY later than the current one satisfies the hypothesis `hold` of `dns_evict_terminates`. -/
theorem dns_expiry_bounded {c : Cfg} {todos : List (List Op)} {t0 : Int} {s : State} (h : Reachable c todos t0 s) :
    ∀ p ∈ s.entries, p.2.expires ≤ s.now + c.dur := (invA_reachable h).expiry

/-- `lookup` terminates for EVERY configured size: its only loop is the eviction loop (the other regions are single
    steps), and in a REACHABLE state with a thread inside it the hypotheses `0 < size` and `hmx` of
    `dns_evict_terminates` hold, and `hold` does as soon as the clock value the loop reads is strictly later than the last
    one read (a real monotonic clock after one tick).  Like that theorem it speaks of `evictLoop`: iteration order 0 and
    one clock value for all iterations. -/
theorem dns_lookup_terminates {c : Cfg} {todos : List (List Op)} {t0 : Int} {s : State} (h : Reachable c todos t0 s)
    {g : Nat} {t : Int} {th : Thread} {n : Name} {a : Addrs}
    (hth : s.threads[g]? = some th) (hpc : th.pc = .evict n a) (ht : s.now < t) :
    ∃ s', evictLoop c g t (s.entries.length + 2) s = some s' ∧ ∃ th', s'.threads[g]? = some th' ∧ th'.pc = .idle ∧ s'.mutex = none := by
  have hc : 0 < c.size := (invC_reachable h).thr th (List.mem_of_getElem? hth) (Or.inr ⟨n, a, hpc⟩)
  have hmx : s.mutex = some g := ((invA_reachable h).owner g).2 ⟨th, hth, n, a, hpc⟩
  exact dns_evict_terminates hc hth hpc hmx (Int.le_of_lt ht)
    (fun p hp => Int.lt_of_le_of_lt (dns_expiry_bounded h p hp) (Int.add_lt_add_right ht _))

/-- Lemma about `evictLoop` as a definition (the reason for the guard `if c.size <= 0` added in /repo bcd0619): run with
    `size ≤ 0` the loop never ends, for every amount of fuel.  Since the fix no reachable state has a thread inside the
    loop when `size ≤ 0` (`dns_disabled_of_size_le_zero`); before it, the first miss spun forever holding the mutex. -/
theorem dns_evict_spins_of_size_le_zero {c : Cfg} (hc : c.size ≤ 0) {g : Nat} {t : Int} {th : Thread} {n : Name} {a : Addrs} {s : State}
    (hth : s.threads[g]? = some th) (hpc : th.pc = .evict n a) (hmx : s.mutex = some g) (hnow : s.now ≤ t) :
    ∀ fuel, evictLoop c g t fuel s = none := by
  intro fuel
  induction fuel generalizing s with
  | zero => rfl
  | succ fuel ih =>
    rw [evictLoop_succ hth hpc hmx hnow, if_pos (Int.le_trans hc (Int.natCast_nonneg _))]
    exact ih hth hmx (Int.le_refl t)

/-- The precondition "strictly later clock" is needed: while the clock does not advance, a full cache whose entries
    were all stored at the current clock value has no entry strictly older than `now + duration`; nothing is evicted
    and the loop spins (harmless with a real clock: it ticks). -/
theorem dns_evict_spins_while_clock_frozen {c : Cfg} {g : Nat} {t : Int} {th : Thread} {n : Name} {a : Addrs} {s : State}
    (hth : s.threads[g]? = some th) (hpc : th.pc = .evict n a) (hmx : s.mutex = some g) (hnow : s.now ≤ t)
    (hlen : (s.entries.length : Int) ≥ c.size) (hfresh : ∀ p ∈ s.entries, ¬ p.2.expires < t + c.dur)
    (hkey : ∀ p ∈ s.entries, p.1 ≠ "") : ∀ fuel, evictLoop c g t fuel s = none := by
  intro fuel
  induction fuel generalizing s with
  | zero => rfl
  | succ fuel ih =>
    rw [evictLoop_succ hth hpc hmx hnow, if_pos hlen]
    have hs : scan (iterOrder s.entries 0) (t + c.dur) = ("", t + c.dur) :=
      foldl_scan_none (fun p hp => hfresh p (mem_iterOrder.1 hp))
    rw [hs, erase, List.filter_eq_self.2 (fun p hp => by simpa using hkey p hp)]
    exact ih hth hmx (Int.le_refl t) hlen hfresh hkey

/-! ### concrete instances (non-vacuity) -/

/-- resolver of the examples: a function of the name, every selector but 0 fails -/
def exResolver : Name → Nat → Option Addrs := fun n k => if k = 0 then some [n.length] else none
def exCfg (size : Int) : Cfg := ⟨size, 100, exResolver⟩

/-- a reachable state with a full cache of size 1 in which thread 1 holds the mutex inside the eviction loop while
    thread 0 has already returned: thread 0 looked up "a", thread 1 looked up "bb" concurrently. -/
def exState : State :=
  ⟨[("a", ⟨[1], 103⟩)], some 1, 5, [⟨.idle, [], [.miss "a" ⟨[1], 103⟩]⟩, ⟨.evict "bb" [2], [], []⟩]⟩

theorem exState_reachable : Reachable (exCfg 1) [[.lookup "a" 0], [.lookup "bb" 0]] 0 exState := by
  -- g0 region 1 (miss), g1 region 1 (miss), g0 resolver, g1 resolver, g0 Lock, g0 stores "a" and returns, g1 Lock
  exact reachable_run .init [⟨0, 1, 0⟩, ⟨1, 2, 0⟩, ⟨0, 2, 0⟩, ⟨1, 2, 0⟩, ⟨0, 3, 0⟩, ⟨0, 3, 0⟩, ⟨1, 5, 0⟩] rfl

example : (exState.entries.length : Int) ≤ max (exCfg 1).size 0 := dns_size_bounded exState_reachable
example : Spec.Explained (exCfg 1) (fun n => [n.length]) [.lookup "a" 0] [.miss "a" ⟨[1], 103⟩] :=
  .cons ⟨rfl, rfl⟩ .nil
example : ∀ p ∈ exState.entries, p.2.addrs = [p.1.length] :=
  (dns_right_host (ans := fun n => [n.length]) (by intro n k a h; simp [exCfg, exResolver] at h; exact h.2.symm) exState_reachable).1
/-- from `exState`, thread 1 evicts "a" (clock 6 is strictly later), stores "bb" and returns -/
example : (evictLoop (exCfg 1) 1 6 3 exState).map (fun s' => s'.entries.map (·.1)) = some ["bb"] := rfl
/-- `evictLoop` run with `size = 0` spins for every fuel (unreachable since the fix: next example) -/
example : ∀ fuel, evictLoop (exCfg 0) 0 7 fuel
    ⟨[], some 0, 3, [⟨.evict "a" [1], [], []⟩]⟩ = none :=
  dns_evict_spins_of_size_le_zero (by decide) (th := ⟨.evict "a" [1], [], []⟩) rfl rfl rfl (by decide)
/-- with `size = 0` the lookup returns right after the resolver call, nothing is stored -/
example : Reachable (exCfg 0) [[.lookup "a" 0]] 0 ⟨[], none, 2, [⟨.idle, [], [.miss "a" ⟨[1], 102⟩]⟩]⟩ :=
  reachable_run .init [⟨0, 1, 0⟩, ⟨0, 2, 0⟩] rfl
/-- from the reachable `exState` the loop of thread 1 terminates for any strictly later clock value -/
example : ∃ s', evictLoop (exCfg 1) 1 6 (exState.entries.length + 2) exState = some s' ∧
    ∃ th', s'.threads[1]? = some th' ∧ th'.pc = .idle ∧ s'.mutex = none :=
  dns_lookup_terminates exState_reachable (th := ⟨.evict "bb" [2], [], []⟩) rfl rfl (by decide)
/-- frozen clock: thread 1 reads the same clock value 3 at which "a" was stored: nothing qualifies -/
example : ∀ fuel, evictLoop (exCfg 1) 1 3 fuel ⟨[("a", ⟨[1], 103⟩)], some 1, 3, [⟨.idle, [], []⟩, ⟨.evict "bb" [2], [], []⟩]⟩ = none :=
  dns_evict_spins_while_clock_frozen (th := ⟨.evict "bb" [2], [], []⟩) rfl rfl rfl (by decide) (by decide)
    (by intro p hp; simp at hp; subst hp; decide) (by intro p hp; simp at hp; subst hp; decide)

/-! ## DirectKeyFetcher.FetchKeys -/

section Fetch
open V.Conc.Fetch

/-- Parallel key fetching returns exactly the union of the local entries and of the per-server answers that succeeded
    (direct, else notary), whatever the interleaving of the workers, the order of the queue (`order` = Go's iteration
    order over `byServer`, any list with the same elements) and the fault pattern of the key client.
    No disjointness hypothesis is needed: it is a THEOREM of the model (`answer_spec`) that a server's answer only
    contains keys of that server, because CheckKeys rejects a response whose `server_name` differs from the queried
    server and mapServerKeysToPublicKeyLookupResult keys every entry by that `server_name`; and local server names
    never enter `byServer`. -/
theorem fetch_union {c : Fetch.Cfg} {order : List Server} (horder : ∀ x, x ∈ order ↔ x ∈ byServerKeys c)
    {s : Fetch.State} (h : Fetch.Reachable c order s) (hd : s.mainDone = true) :
    ∀ k, rget k s.results = specGet c k := by
  intro k
  have inv := finv_reachable h
  have hloc : ∀ x ∈ order, c.isLocal x = false := fun x hx => by
    obtain ⟨_, _, hl⟩ := mem_byServerKeys.1 ((horder x).1 hx); exact hl
  have hw : live s.workers = 0 := by rw [← inv.cnt]; exact inv.done hd
  have hall : ∀ pc ∈ s.workers, pc = .exited := by
    unfold live at hw
    rw [List.countP_eq_zero] at hw
    intro pc hpc
    simpa using hw pc hpc
  have hfin : ∀ x ∈ order, x ∈ s.finished := by
    intro x hx
    have hq : s.queue = [] := Classical.byContradiction fun hne => by have := inv.qlive hne; omega
    rcases inv.cover x hx with h | h | ⟨pc, hpc, hin⟩
    · rw [hq] at h; cases h
    · exact h
    · rw [hall pc hpc] at hin
      exact hin.elim
  rw [inv.res hloc k]
  exact resultsSpec_eq_specGet (fun x => ⟨fun hf => (horder x).1 (inv.subf x hf), fun hb => hfin x ((horder x).2 hb)⟩) k

/-- the map printed on the driver's specification stream is that union -/
theorem fetch_spec_map (c : Fetch.Cfg) (k : Req) : rget k (specMap c) = specGet c k := by
  have fold : ∀ (l fin : List Server) (m : RMap), (∀ x ∈ l, c.isLocal x = false) → (∀ k, rget k m = resultsSpec c fin k) →
      ∀ k, rget k (l.foldl (fun acc s => mergeInto acc (answer c s)) m) = resultsSpec c (l.reverse ++ fin) k := by
    intro l
    induction l with
    | nil => exact fun _ _ _ hm => hm
    | cons x xs ih =>
      intro fin m hl hm
      have := ih (x :: fin) _ (fun y hy => hl y (List.mem_cons_of_mem _ hy)) (merge_answer_spec hm (hl x List.mem_cons_self))
      simpa using this
  rw [specMap, fold _ [] _ (fun x hx => let ⟨_, _, h⟩ := mem_byServerKeys.1 hx; h) (localResults_spec c)]
  exact resultsSpec_eq_specGet (by simp) k

/-- No deadlock: as long as FetchKeys has not returned, some move is enabled (a worker can run, or every worker has
    called wait.Done() and main's wait.Wait() returns). -/
theorem fetch_no_deadlock {c : Fetch.Cfg} {order : List Server} {s : Fetch.State} (h : Fetch.Reachable c order s)
    (hd : s.mainDone = false) : ∃ m s', Fetch.step c s m = some s' := by
  have inv := finv_reachable h
  by_cases hw : live s.workers = 0
  · refine ⟨.main, { s with mainDone := true }, ?_⟩
    have : s.wait = 0 := by rw [inv.cnt]; exact hw
    simp [Fetch.step, hd, this]
  · obtain ⟨pc, hpc, hne⟩ := live_pos.1 (Nat.pos_of_ne_zero hw)
    obtain ⟨i, hi⟩ := List.getElem?_of_mem hpc
    -- a live worker's step is defined whatever the queue holds and whatever the key client answers
    suffices hs : (Fetch.step c s (.worker i)).isSome from ⟨.worker i, Option.isSome_iff_exists.1 hs⟩
    cases pc <;> simp only [Fetch.step, hi]
    case recv => cases s.queue <;> rfl
    case fetch srv => cases fetchDirect c srv <;> rfl
    case notary srv => cases fetchNotary c srv <;> rfl
    case merge srv res => simp [inv.mx]
    case exited => exact absurd rfl hne

/-- Termination: every step strictly decreases `5·|queue| + Σ weight(worker pc) + [main not returned]`, so no schedule
    is infinite.  (The bound `measure (init …)` on its length and, with `fetch_no_deadlock`, that a maximal one ends with
    FetchKeys returned are not stated: the model has no `run`.) -/
theorem fetch_terminates {c : Fetch.Cfg} {s s' : Fetch.State} {m : Fetch.Move} (h : Fetch.step c s m = some s') :
    Fetch.measure s' < Fetch.measure s := by
  cases m with
  | main => obtain ⟨hd, -, rfl⟩ := step_main h; simp [Fetch.measure, hd]
  | worker i =>
    obtain ⟨old, new, q, fin, res, hw, hst, rfl⟩ := step_worker h
    have h1 := wsum_set (new := new) hw
    have h2 := hst.weight_lt
    simp only [Fetch.measure]
    omega

/-- wait.Done() is never called on a zero counter (no "negative WaitGroup counter" panic), and the counter always equals
    the number of workers that have not exited. -/
theorem fetch_waitgroup_exact {c : Fetch.Cfg} {order : List Server} {s : Fetch.State} (h : Fetch.Reachable c order s) :
    s.negWait = false ∧ s.wait = live s.workers := ⟨(finv_reachable h).neg, (finv_reachable h).cnt⟩

/-- Lockset discipline for `results`: the workers' only access is the merge, inside resultsMutex.  (Main writes the
    local entries before any worker exists and reads the map after wait.Wait(): ordered by goroutine creation and by
    the WaitGroup, not by the lock — these accesses are not in the workers' step relation.) -/
theorem fetch_lockset_discipline (s : Fetch.State) (m : Fetch.Move) : ∀ a ∈ Fetch.accesses s m, a.disciplined = true := by
  intro a ha
  unfold Fetch.accesses at ha
  split at ha
  · simp at ha
  · split at ha
    · split at ha
      · simp at ha
      · simp at ha; subst ha; simp [Access.disciplined, guardOf]
    · simp at ha

/-- the configuration of a concrete run: two remote servers (one answering directly, one only through the notary), one
    local name; `exFetchRun` interleaves two workers; the result is the union -/
def exFetchCfg : Fetch.Cfg :=
  { requests := [("s0", "ed25519:a"), ("s1", "ed25519:a"), ("me", "ed25519:l")],
    isLocal := fun s => s == "me", localKey := 7,
    direct := fun s => if s == "s0" then some ⟨"s0", 1000, [("ed25519:a", 1, .ok)], []⟩ else none,
    notary := fun s => if s == "s1" then some [⟨"other", 5, [], []⟩, ⟨"s1", 2000, [("ed25519:a", 2, .ok)], [("ed25519:o", 3, 99)]⟩] else none }

def exFetchRun : Option Fetch.State :=
  ([.worker 0, .worker 1, .worker 1, .worker 0, .worker 1, .worker 0, .worker 1, .worker 0, .worker 0, .main] : List Fetch.Move).foldlM
    (fun s m => Fetch.step exFetchCfg s m) (Fetch.init exFetchCfg ["s1", "s0"])

example : exFetchRun.map (fun s => (s.mainDone, s.results)) =
    some (true, [(("me", "ed25519:l"), ⟨7, 0, localValidUntil⟩), (("s0", "ed25519:a"), ⟨1, 0, 1000⟩),
                 (("s1", "ed25519:a"), ⟨2, 0, 2000⟩), (("s1", "ed25519:o"), ⟨3, 99, 0⟩)]) := rfl
example : ∀ x, x ∈ ["s1", "s0"] ↔ x ∈ byServerKeys exFetchCfg := by
  have : byServerKeys exFetchCfg = ["s0", "s1"] := rfl
  intro x; rw [this]; simp [or_comm]

/-! ### several concurrent FetchKeys calls on one DirectKeyFetcher -/

/-- Two concurrent calls do not interact: whatever caller A does — any schedule, any fault pattern of ITS client calls,
    its context ending at any moment (from then on its calls fail: the oracle of an A-step is arbitrary) — the state of
    caller B is one that B reaches on its own. -/
theorem fetch_callers_independent {ca0 cb : Fetch.Cfg} {oa ob : List Server} {p : Two.Pair}
    (h : Two.Reachable2 ca0 cb oa ob p) : Fetch.Reachable cb ob p.b := by
  induction h with
  | init => exact .init
  | @step p p' m _ hs ih =>
    cases m with
    | a ca m =>
      simp only [Two.step2, Option.map_eq_some_iff] at hs
      obtain ⟨_, _, rfl⟩ := hs
      exact ih
    | b m =>
      simp only [Two.step2, Option.map_eq_some_iff] at hs
      obtain ⟨b', hb, rfl⟩ := hs
      exact .step m ih hb

/-- **Every caller gets the result a sequential execution gives it.**  A caller whose context stays live returns
    exactly the union of the local entries and of the per-server answers that succeeded — with another call in flight on
    the same fetcher for the same servers, and whether or not that other caller's context ends before the remote
    servers answer.  (A fetcher that shared one request among concurrent callers, a caller taking over the outcome — the
    error — of another caller's request, would have no such theorem: op `conc.fetch2` is the correspondence for this one.) -/
theorem fetch_live_caller_gets_union {ca0 cb : Fetch.Cfg} {oa ob : List Server} (hob : ∀ x, x ∈ ob ↔ x ∈ byServerKeys cb)
    {p : Two.Pair} (h : Two.Reachable2 ca0 cb oa ob p) (hd : p.b.mainDone = true) :
    ∀ k, rget k p.b.results = specGet cb k :=
  fetch_union hob (fetch_callers_independent h) hd

/-- the pair never deadlocks either: while B has not returned, B has an enabled step (whatever state A is in) -/
theorem fetch_live_caller_no_deadlock {ca0 cb : Fetch.Cfg} {oa ob : List Server} {p : Two.Pair}
    (h : Two.Reachable2 ca0 cb oa ob p) (hd : p.b.mainDone = false) : ∃ m p', Two.step2 cb p m = some p' := by
  obtain ⟨m, b', hb⟩ := fetch_no_deadlock (fetch_callers_independent h) hd
  exact ⟨.b m, { p with b := b' }, by simp [Two.step2, hb]⟩

/-- non-vacuity: A is cancelled at once (all its calls fail), B runs to the end and holds the server's key -/
example :
    let c := exFetchCfg
    let run : Option Two.Pair := ([.b (.worker 0), .b (.worker 1), .a (Two.failing c) (.worker 0), .a (Two.failing c) (.worker 0), .b (.worker 1),
        .b (.worker 0), .b (.worker 1), .a (Two.failing c) (.worker 0), .b (.worker 0), .b (.worker 1), .b (.worker 0), .b (.worker 0),
        .b .main] : List Two.Move2).foldlM
      (fun p m => Two.step2 c p m) ⟨Fetch.init c ["s1", "s0"], Fetch.init c ["s1", "s0"]⟩
    run.map (fun p => (p.b.mainDone, rget ("s0", "ed25519:a") p.b.results)) = some (true, some ⟨1, 0, 1000⟩) := rfl

end Fetch

/-! ## several `KeyRing.VerifyJSONs` calls on one key ring with one shared key database

  Model: VModel.ConcVerify — a move lets one caller run to the next of its three barriers (database read, fetcher call,
  database store); what a call computes in between is the sequential model of C12 (`KeyRing.verifyJSONs`).
  `Verify.Reachable` is the closure of the initial state under `Verify.poke`: any number of callers, any requests, any
  per-caller fetcher behaviour, any schedule. -/

section Verify
open V.KeyRing V.Conc.Verify

/-- **A store writes only what its caller fetched.**  Whatever the schedule, an entry that is in the database after a move and
    was not there before is an entry of the answer of one of the moving caller's own fetchers — never an entry the caller
    merely read (which another caller may have replaced since). -/
theorem verify_store_only_fetched {cs : List Caller} {now : Nat} {db0 : KeyMap} {s : Verify.State} (h : Verify.Reachable cs now db0 s)
    (g : Nat) (e : KeyReq × KeyRes) (he : e ∈ (poke cs now s g).1.db) :
    e ∈ s.db ∨ ∃ c, cs[g]? = some c ∧ ∃ m, some m ∈ c.fetchers ∧ e ∈ m := by
  rcases db_poke_fetched h g with h1 | ⟨c, m, hc, h1, hm⟩
  · exact .inl (h1 ▸ he)
  · exact (mem_dbStore (h1 ▸ he)).imp_right fun h2 => ⟨c, hc, hm e h2⟩

/-- the key's entry after a move is the one before, or one a fetcher of the moving caller answered -/
theorem verify_entry_after_move {cs : List Caller} {now : Nat} {db0 : KeyMap} {s : Verify.State} (h : Verify.Reachable cs now db0 s)
    (g : Nat) (q : KeyReq) :
    AList.lookup q (poke cs now s g).1.db = AList.lookup q s.db ∨
      ∃ c v m, cs[g]? = some c ∧ some m ∈ c.fetchers ∧ (q, v) ∈ m ∧ AList.lookup q (poke cs now s g).1.db = some v := by
  rcases db_poke_fetched h g with h1 | ⟨c, m, hc, h1, hm⟩ <;> rw [h1]
  · exact .inl rfl
  · refine (lookup_dbStore s.db m q).imp_right fun ⟨v, hv, h2⟩ => ?_
    obtain ⟨m', hm', hem⟩ := hm _ hv
    exact ⟨c, v, m', hc, hm', hem, h2⟩

/-- **No lost update.**  Let every answer of every caller's fetchers be part of one "world" `W` (the remote side holds one
    key per (server, key ID); individual fetches may fail or come back empty).  Once the database holds the world's entry for
    a key, no move of any caller under any schedule replaces it — in particular not the store of a caller that read the
    database before that entry was written. -/
theorem verify_no_lost_update {cs : List Caller} {now : Nat} {db0 : KeyMap} {s : Verify.State} {W : KeyMap}
    (hW : (W.map Prod.fst).Nodup) (hworld : ∀ c ∈ cs, ∀ m, some m ∈ c.fetchers → ∀ e ∈ m, e ∈ W)
    (h : Verify.Reachable cs now db0 s) (g : Nat) (q : KeyReq) (v : KeyRes) (hq : AList.lookup q W = some v)
    (hs : AList.lookup q s.db = some v) : AList.lookup q (poke cs now s g).1.db = some v := by
  rcases verify_entry_after_move h g q with h1 | ⟨c, v', m, hc, hm, hv', h1⟩
  · rw [h1]; exact hs
  · have hmemW : (q, v') ∈ W := hworld c (List.mem_of_getElem? hc) m hm _ hv'
    have := AList.lookup_of_mem_nodup hW hmemW
    rw [hq] at this
    cases this
    exact h1

/-- … and at every moment every key's entry is the initial one or the world's -/
theorem verify_db_initial_or_world {cs : List Caller} {now : Nat} {db0 : KeyMap} {s : Verify.State} {W : KeyMap}
    (hW : (W.map Prod.fst).Nodup) (hworld : ∀ c ∈ cs, ∀ m, some m ∈ c.fetchers → ∀ e ∈ m, e ∈ W)
    (h : Verify.Reachable cs now db0 s) (q : KeyReq) :
    AList.lookup q s.db = AList.lookup q db0 ∨ AList.lookup q s.db = AList.lookup q W := by
  induction h with
  | init => exact Or.inl rfl
  | step g hr ih =>
    rcases verify_entry_after_move hr g q with h1 | ⟨c, v', m, hc, hm, hv', h1⟩
    · rw [h1]; exact ih
    · right
      have hmemW : (q, v') ∈ W := hworld c (List.mem_of_getElem? hc) m hm _ hv'
      rw [h1, AList.lookup_of_mem_nodup hW hmemW]

/-- **Every interleaving is a sequential execution** when at most one caller (`x`) ever has something to store (`Silent`:
    the other callers' runs hand `StoreKeys` nothing, whatever they read — e.g. their fetches fail).  In any state any
    schedule leads to in which every caller has returned, the results the callers hold (`heldIn`) and the database are
    exactly those of running the calls one after the other, alone, in some order of the callers. -/
theorem verify_serializable_one_writer {cs : List Caller} {now : Nat} {db0 : KeyMap} (x : Nat) (hsil : Silent cs now x)
    {s : Verify.State} (h : Verify.Reachable cs now db0 s) (hall : ∀ g, g < cs.length → ∃ r, s.pcs[g]? = some (PC.done r)) :
    ∃ order : List Nat, order.Perm (List.range cs.length) ∧ serial cs now order db0 = (heldIn s order, s.db) :=
  serializable_of_inv hsil (inv_of_reachable hsil h) hall

/-- callers whose fetchers all fail or answer nothing are `Silent` … -/
theorem verify_silent_of_failing_fetchers {cs : List Caller} {now : Nat} (x : Nat)
    (hfail : ∀ (g : Nat) (c : Caller), g ≠ x → cs[g]? = some c → ∀ f ∈ c.fetchers, f = none ∨ f = some []) : Silent cs now x := by
  intro g c hg hc snap
  have hrun : verifyJSONs c.reqs (some snap) true c.fetchers now = ((localRun c now snap).1, (localRun c now snap).2) := rfl
  exact verifyJSONs_stored_silent hrun (hfail g c hg hc)

/-- … so: **if the fetches of all callers but one fail, every schedule of the calls gives every caller the result, and
    leaves the database in the state, of one sequential execution** (stated for a schedule: a list of moves). -/
theorem verify_interleaving_is_sequential {cs : List Caller} {now : Nat} {db0 : KeyMap} (x : Nat)
    (hfail : ∀ (g : Nat) (c : Caller), g ≠ x → cs[g]? = some c → ∀ f ∈ c.fetchers, f = none ∨ f = some [])
    (sched : List Nat)
    (hall : ∀ g, g < cs.length → ∃ r, (run cs now (Verify.init db0 cs.length) sched).pcs[g]? = some (PC.done r)) :
    ∃ order : List Nat, order.Perm (List.range cs.length) ∧
      serial cs now order db0 =
        (heldIn (run cs now (Verify.init db0 cs.length) sched) order, (run cs now (Verify.init db0 cs.length) sched).db) :=
  verify_serializable_one_writer x (verify_silent_of_failing_fetchers x hfail) (Verify.reachable_run Verify.Reachable.init sched) hall

/-- how far a caller is from returning -/
def verifyRank : PC → Nat
  | .idle => 4 | .atRead => 3 | .atFetch _ => 2 | .atStore _ _ => 1 | .done _ => 0

/-- **No deadlock, and every call returns**: a caller can always move (`poke` is a total function: no move waits for
    another caller), and the program counter a move gives it (`nextPC`, which `poke` applies: `poke_cases`) is strictly
    closer to `done` — the rank starts at 4.  The statement is this one step; none is made about `run`. -/
theorem verify_progress (c : Caller) (now : Nat) (db : KeyMap) (pc : PC) (h : isDone pc = false) :
    verifyRank (nextPC c now db pc) < verifyRank pc := by
  cases pc with
  | idle => simp only [nextPC]; split <;> simp [verifyRank]
  | atRead =>
    simp only [nextPC, afterRead]
    split
    · simp [verifyRank]
    · unfold toStoreBarrier; split <;> simp [verifyRank]
  | atFetch snap =>
    simp only [nextPC, afterFetch]
    unfold toStoreBarrier; split <;> simp [verifyRank]
  | atStore r m => simp [nextPC, verifyRank]
  | done r => cases h

/-! ### the lost-update scenario of the file head (/repo 3755557), kernel-checked on the model of the fixed code -/

def vKid : Bytes := algPrefix ++ [97]
def vGood : Bytes := List.replicate 32 7
def vQ : KeyReq := ⟨[115, 48], vKid⟩
/-- a message signed by s0, to be valid at 4000 under the strict rule -/
def vReq : Request := { server := [115, 48], atTS := 4000, strict := true, listOk := true,
                        sigs := [{ keyID := vKid, reaches := true, verifies := fun k => k == vGood }] }
def vStale : KeyRes := { key := vGood, expiredTS := 0, validUntilTS := 3000 }
def vFresh : KeyRes := { key := vGood, expiredTS := 0, validUntilTS := 9000 }
/-- caller 0: its fetch fails; caller 1: its fetch brings the fresh key; caller 2 (later): its fetch fails -/
def vCallers : List Caller := [⟨[vReq], [none]⟩, ⟨[vReq], [some [(vQ, vFresh)]]⟩, ⟨[vReq], [none]⟩]

/-- the database holds the key past its validity (now = 5000); caller 0 reads it and waits in its fetcher; caller 1 reads,
    fetches and stores the fresh key; caller 0's fetch fails and it stores — nothing; caller 2 then verifies from the
    database alone.  (Before the fix caller 0 wrote the stale entry back: the database ended at `vStale`, caller 2 failed.) -/
example :
    let s := run vCallers 5000 (Verify.init [(vQ, vStale)] 3) [0, 0, 1, 1, 1, 1, 0, 0, 2, 2, 2, 2]
    s.db = [(vQ, vFresh)] ∧ resultOf s 0 = some (.ok [false]) ∧ resultOf s 1 = some (.ok [true]) ∧ resultOf s 2 = some (.ok [true]) := by
  refine ⟨by rfl, by rfl, by rfl, by rfl⟩

/-- … which is the outcome of the sequential execution 0, 1, 2 -/
example : serial vCallers 5000 [0, 1, 2] [(vQ, vStale)] = ([(0, .ok [false]), (1, .ok [true]), (2, .ok [true])], [(vQ, vFresh)]) := by rfl

/-- the hypothesis of `verify_interleaving_is_sequential` holds of it (x = 1) -/
example : ∀ (g : Nat) (c : Caller), g ≠ 1 → vCallers[g]? = some c → ∀ f ∈ c.fetchers, f = none ∨ f = some [] := by
  intro g c hg hc f hf
  match g, hg with
  | 0, _ => simp [vCallers] at hc; subst hc; simp at hf; exact Or.inl hf
  | 2, _ => simp [vCallers] at hc; subst hc; simp at hf; exact Or.inl hf
  | n + 3, _ => simp [vCallers] at hc

end Verify

/-! ## destinationTripper.getTransport / reaper -/

section Transport
open V.Conc.Fetch.Transport

/-- Every call of getTransport / reaper is one region under transportsMutex: a concurrent execution IS the sequential
    execution `trun` of its regions in lock-acquisition order.  The map never holds two transports for one TLS name. -/
theorem transport_no_dup (ms : List TMove) : ((trun tinit ms).transports.map (·.1)).Nodup := by
  have gen : ∀ (ms : List TMove) (s : TState), (s.transports.map (·.1)).Nodup → ((trun s ms).transports.map (·.1)).Nodup := by
    intro ms
    induction ms with
    | nil => exact fun s h => h
    | cons m ms ih =>
      intro s h
      apply ih
      cases m with
      | get tid n =>
        simp only [tstep]
        cases hg : tget n s.transports with
        | some id => exact h
        | none =>
          -- a transport is only created for a name the map does not hold
          have hn : n ∉ s.transports.map (·.1) := Assoc.lookup_eq_none.1 hg
          rw [List.map_append, List.nodup_append]
          refine ⟨h, by simp, fun a ha b hb e => hn ?_⟩
          rw [List.mem_singleton.1 hb] at e
          exact (show a = n from e) ▸ ha
      | reap dead =>
        have := h.sublist (List.filter_sublist (p := fun n => !dead n))
        rwa [List.filter_map] at this
  exact gen ms tinit List.nodup_nil

theorem transport_lockset_discipline (m : TMove) : ∀ a ∈ taccesses m, a.disciplined = true := by
  intro a ha
  cases m <;> simp [taccesses] at ha <;> rcases ha with rfl | rfl <;> simp [Access.disciplined, guardOf]

example : (trun tinit [.get 0 "a", .get 1 "b", .get 2 "a", .reap (· == "a"), .get 1 "a"]).got =
    [(1, "a", 2), (2, "a", 0), (1, "b", 1), (0, "a", 0)] := rfl

/-- `getTransport` returns the cached transport of the name if there is one, a fresh one otherwise, and afterwards the
    name is cached with exactly that transport: what a caller gets is what the sequential run of the regions gives. -/
theorem transport_get_spec (s : TState) (tid : Nat) (n : String) :
    ∃ id, (tstep s (.get tid n)).got.head? = some (tid, n, id) ∧
      tget n (tstep s (.get tid n)).transports = some id ∧
      ((tget n s.transports = some id ∧ (tstep s (.get tid n)).transports = s.transports) ∨
       (tget n s.transports = none ∧ id = s.nextId)) := by
  cases hg : tget n s.transports with
  | some id =>
    refine ⟨id, ?_, ?_, .inl ⟨rfl, ?_⟩⟩ <;> simp [tstep, hg]
  | none =>
    refine ⟨s.nextId, ?_, ?_, .inr ⟨rfl, rfl⟩⟩
    · simp [tstep, hg]
    · simp only [tstep, hg]
      exact (Assoc.lookup_append _ _ n).trans (by rw [show Assoc.lookup s.transports n = none from hg, Assoc.lookup_cons]; simp)

/-- a reaper pass removes exactly the transports it finds idle for longer than the lifetime, and nothing else -/
theorem transport_reap_spec (s : TState) (dead : String → Bool) (p : String × Nat) :
    p ∈ (tstep s (.reap dead)).transports ↔ p ∈ s.transports ∧ dead p.1 = false := by
  simp [tstep, List.mem_filter]

/-- holds of any function: it only records that the model takes every call as ONE region.  That the real regions finish
    is what op `conc.transport` checks on the code (see `sync_skeleton_transport`). -/
theorem transport_run_total (ms : List TMove) (s : TState) : ∃ s', trun s ms = s' := ⟨_, rfl⟩

end Transport

/-! ## eventV2.EventID — a read-only accessor of a shared event

Since commit 69aec98 of /repo the event ID is computed when the event is constructed (`populateEventID`), before the event
can be shared; `EventID()` only reads `EventIDRaw`.  `EventIDRaw` has no lock: its discipline is "written during
construction only, read-only afterwards" (`Access.disciplined` for a variable without a guard = the access is a read),
so the accessor is INCLUDED in the lockset theorem.  (Before the fix `EventID()` wrote the field on first use: the race
detector reported it; op `conc.race_eventid` stays in the thorough tier as a regression guard.) -/
section EventID
open V.Conc.Fetch.EventID

theorem estep_eq {idOf : Nat} {s s' : EState} {i : Nat} (h : estep idOf s i = some s') :
    s' = { s with pcs := s.pcs.set i .returned, rets := (i, s.raw.getD idOf) :: s.rets } := by
  unfold estep at h
  split at h
  · exact (Option.some.inj h).symm
  · cases h

/-- every access of an `EventID()` call is a read: disciplined, and the shared field is never changed by an accessor -/
theorem event_accessors_read_only (idOf : Nat) (s : EState) (i : Nat) :
    (∀ a ∈ eaccesses s i, a.disciplined = true) ∧ (∀ s', estep idOf s i = some s' → s'.raw = s.raw) := by
  refine ⟨fun a ha => ?_, fun s' h => by rw [estep_eq h]⟩
  unfold eaccesses at ha
  split at ha <;> simp at ha <;> subst ha <;> simp [Access.disciplined, guardOf]

/-- the value a call returns depends only on the field — which no accessor changes (`event_accessors_read_only`) — and
    on the event: so all callers get the same ID, whatever the interleaving (one step; the induction along a run is not
    stated) -/
theorem event_id_same_for_all (idOf : Nat) (s s' : EState) (i : Nat) (h : estep idOf s i = some s') :
    s'.rets = (i, s.raw.getD idOf) :: s.rets := by
  rw [estep_eq h]

example : (do let s1 ← estep 42 (construct 42 none 2) 1; let s2 ← estep 42 s1 0; pure (s2.raw, s2.rets)) =
    some (some 42, [(0, 42), (1, 42)]) := rfl

end EventID

/-! ## regenerated obligations: the synchronisation skeleton of the modelled functions

`VGen.conc*` are extracted from /repo's source on every run (tools/extract/conc.go): the calls that delimit the atomic
regions, loop conditions, and the conditions on size / expiry, in source order.  The models above were written against
exactly these skeletons; a change of the locking structure (a dropped Lock, a resolver call moved inside the mutex, a
different loop condition, a write in an event accessor) breaks one of these kernel-checked equalities even if no
explored schedule shows a difference. -/

/-- region 1 (Lock … Unlock, stale entries deleted inside), the resolver call with no lock held, the disabled-cache guard,
    then Lock / deferred Unlock around the eviction loop `for len(c.entries) >= c.size` with its scan and delete -/
theorem sync_skeleton_dns_lookup : VGen.concDnsLookup =
    ["c.mutex.Lock()", "if time.Now().Before(entry.expires)", "c.mutex.Unlock()", "delete(c.entries, name)", "c.mutex.Unlock()",
     "c.resolver.LookupIPAddr(ctx, name)", "if c.size <= 0", "c.mutex.Lock()", "defer c.mutex.Unlock()",
     "for len(c.entries) >= c.size", "range c.entries", "if e.expires.Before(ts)", "delete(c.entries, name)"] := rfl

/-- DialContext deletes the failed entry inside the mutex (the op `del`) -/
theorem sync_skeleton_dns_dialcontext : VGen.concDnsDialContext =
    ["range entry.addrs", "c.mutex.Lock()", "delete(c.entries, host)", "c.mutex.Unlock()"] := rfl

/-- getTransport and reaper are each one region under transportsMutex; lastUsed is an atomic.Value.  The bodies contain no
    call that locks, so neither takes transportsMutex again while it holds it; that the real regions finish is what op
    `conc.transport` checks on the code (every move under a timeout, a reaper pass over an idle transport included). -/
theorem sync_skeleton_transport :
    VGen.concGetTransport = ["f.transportsMutex.Lock()", "defer f.transportsMutex.Unlock()", "transport.lastUsed.Store(time.Now())"] ∧
    VGen.concReaper = ["f.transportsMutex.Lock()", "defer f.transportsMutex.Unlock()", "range f.transports", "transport.lastUsed.Load()",
      "if time.Since(since) > destinationTripperLifetime", "delete(f.transports, serverName)"] := ⟨rfl, rfl⟩

/-- FetchKeys: min(64, len(byServer)) workers, wait.Add before they start, queue filled and closed before they start,
    deferred wait.Done, merge inside resultsMutex, wait.Wait before returning -/
theorem sync_skeleton_fetchkeys : VGen.concFetchKeys =
    ["range requests", "assign numWorkers := 64", "if len(byServer) < numWorkers", "assign numWorkers = len(byServer)",
     "range localServerRequests", "wait.Add(numWorkers)", "range byServer", "close(pending)", "defer wait.Done()", "range ch",
     "resultsMutex.Lock()", "range serverResults", "resultsMutex.Unlock()", "for i < numWorkers", "go worker(pending)",
     "wait.Wait()"] ∧ 0 < VGen.fetchMaxWorkers := ⟨rfl, by decide⟩

/-- eventV2.EventID() contains no assignment to EventIDRaw: a pure read -/
theorem sync_skeleton_eventid : VGen.concEventIDV2 = ["if e.EventIDRaw != \"\""] := rfl

end V.C19
