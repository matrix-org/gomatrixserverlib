/-
  C01 — Canonical JSON is a value-preserving, unique, idempotent normal form.

  The model is VModel.Json:
  byte-level `canonical` (mirrors json.go) and the specification `canonicalSpec = encodeCanon ∘ parse`.
  `parse` serves twice: `valid`, the model of the gate `gjson.Valid`, is `(parse ·).isSome`, and the specification reads
  its value off the same parser.
-/
import VModel.Json
import VProofs.Sort
import VProofs.JsonClosure
import VGen.Versions
namespace V.C01
open V.Json List

/-- Any two presentations of an object that list the same members (distinct keys) in different
    orders have the same canonical bytes. -/
theorem canon_member_order_irrelevant (kvs₁ kvs₂ : List (Bytes × JVal))
    (hp : kvs₁ ~ kvs₂) (hn : NodupKeys kvs₁) :
    encodeCanon (.obj kvs₁) = encodeCanon (.obj kvs₂) := by
  unfold encodeCanon
  simp only [JVal.sorted]
  have hp' : sortedMembers kvs₁ ~ sortedMembers kvs₂ := by
    rw [sortedMembers_eq_map, sortedMembers_eq_map]; exact hp.map _
  have hn' : NodupKeys (sortedMembers kvs₁) := by
    unfold NodupKeys at *; rw [sortedMembers_keys]; exact hn
  rw [sortByKey_unique hp' hn']

/-- The members of a canonical object are in strictly increasing byte order of their keys (`bytesLt`; that this is
    code-point order on valid UTF-8 is not stated in Lean). -/
theorem canon_keys_strictly_sorted (kvs : List (Bytes × JVal)) (hn : NodupKeys kvs) :
    ∃ s, (JVal.obj kvs).sorted = .obj s ∧ StrictSorted s ∧ s ~ sortedMembers kvs := by
  refine ⟨sortByKey (sortedMembers kvs), rfl, ?_, sortByKey_perm _⟩
  apply sortByKey_strict
  unfold NodupKeys at *; rw [sortedMembers_keys]; exact hn

theorem negzero_is_zero : encodeCanon (.num [0x2D, 0x30]) = [0x30] := by decide

theorem other_literals_kept (lit : Bytes) (h : lit ≠ [0x2D, 0x30]) : encodeCanon (.num lit) = lit := by
  simp [encodeCanon, JVal.sorted, encode, encodeNum, h]

/-! ### The enforced variant (room versions with the check) -/

/-- What `numOk` accepts is an integer literal (no `.`, `e`, `E`), not `-0`, of magnitude ≤ 2^53-1:
    every other number literal is refused. -/
theorem numOk_sound (raw : Bytes) (h : numOk raw = true) :
    (∀ c ∈ raw, c ≠ 0x2E ∧ c ≠ 0x65 ∧ c ≠ 0x45) ∧ raw ≠ [0x2D, 0x30] ∧
      natOfDigits (stripSign raw) ≤ 9007199254740991 := by
  unfold numOk maxSafeInt at h
  rcases Guard.ite_cases h with ⟨-, h⟩ | ⟨h1, h⟩
  · cases h
  rcases Guard.ite_cases h with ⟨-, h⟩ | ⟨h2, h⟩
  · cases h
  refine ⟨fun c hc => ?_, by simpa using h2, of_decide_eq_true h⟩
  have : ¬ (c == 0x2E || c == 0x65 || c == 0x45) = true := fun hp => h1 (List.any_eq_true.mpr ⟨c, hc, hp⟩)
  simpa [not_or, and_assoc] using this

example : numOk [0x31, 0x30] = true ∧ numOk [0x31, 0x2E, 0x30] = false ∧ numOk [0x31, 0x45, 0x32] = false
    ∧ numOk [0x2D, 0x30] = false := by decide

/-- A number literal that fails `numOk` fails the check; `enforced_rejects` is the same for a literal nested anywhere. -/
theorem enforced_rejects_leaf (raw : Bytes) (h : numOk raw = false) : (PVal.num raw).numbersOk = false := by
  simp [PVal.numbersOk, h]

/-- The enforced variant accepts exactly when every number passes `numOk`. -/
theorem enforced_iff (t : Bytes) (p : PVal) (hp : parse t = some p) :
    enforcedOk t = some (p.numbers.all numOk) := by
  simp [enforcedOk, hp, numbersOk_eq_all]

/-- …so it rejects every text containing a number that fails `numOk`
    (non-integer literal, `-0`, or magnitude above 2^53-1), wherever it is nested. -/
theorem enforced_rejects (t : Bytes) (p : PVal) (hp : parse t = some p)
    (hbad : ∃ lit ∈ p.numbers, numOk lit = false) : enforcedOk t = some false := by
  obtain ⟨lit, hmem, hno⟩ := hbad
  rw [enforced_iff t p hp, Option.some.injEq, List.all_eq_false]
  exact ⟨lit, hmem, by rw [hno]; exact Bool.false_ne_true⟩

/-- Which registered room versions enforce: regenerated column, stated against the specification
    (room versions 6 and later, i.e. everything except 1–5). -/
theorem enforced_versions :
    (VGen.roomVersions.filter (fun r => r.canonicalJSONCheck == "verifyEnforcedCanonicalJSON")).map (·.key)
      = ["10", "11", "12", "6", "7", "8", "9", "org.matrix.hydra.11", "org.matrix.msc3667",
         "org.matrix.msc3787", "org.matrix.msc4014"]
    ∧ (VGen.roomVersions.filter (fun r => r.canonicalJSONCheck == "noVerifyCanonicalJSON")).map (·.key)
      = ["1", "2", "3", "4", "5"] := by
  decide +kernel

/-! ### model = specification: `CanonicalJSON` computes the canonical encoding of the parsed value

`canonical` is the byte-level model of `CanonicalJSON` (gate on `gjson.Valid`, `CompactJSON`, `SortJSON`);
`encodeCanon p.toJVal` is the specification (`canonicalSpec`): parse, forget every spelling, re-encode with
sorted keys, no whitespace, shortest escapes, `-0` as `0`. -/

/-- The hypothesis the equivalence really needs: the text parses and no string contains a *lone*
    surrogate escape (`CompactJSON` drops those, gjson decodes them as U+FFFD).  Neither UTF-8 validity of
    the raw bytes (they pass through both sides unchanged) nor distinct keys (model and specification use
    the same deterministic sort) are needed. -/
theorem canonical_eq_spec_general (t : Bytes) (p : PVal) (hp : parse t = some p)
    (hs : p.surrogatesOk = true) : canonical t = .ok (encodeCanon p.toJVal) :=
  canonical_of_parse hp hs

/-- **C01, main theorem.** For every valid JSON text (well-formed Unicode, no duplicate object keys)
    the model of `CanonicalJSON` returns exactly the canonical encoding of the value the text denotes. -/
theorem canonical_eq_spec (t : Bytes) (p : PVal) (hp : parse t = some p) (_hd : p.noDupKeys = true)
    (hw : p.wellFormed = true) : canonical t = .ok (encodeCanon p.toJVal) :=
  canonical_of_parse hp (surrogatesOk_of_wellFormed p hw)

/-- The same, phrased with `canonicalSpec`. -/
theorem canonical_eq_canonicalSpec (t : Bytes) (p : PVal) (hp : parse t = some p) (hd : p.noDupKeys = true)
    (hw : p.wellFormed = true) : canonicalSpec t = some (encodeCanon p.toJVal) ∧
      canonical t = .ok (encodeCanon p.toJVal) :=
  ⟨by simp [canonicalSpec, hp], canonical_eq_spec t p hp hd hw⟩

/-- Invalid JSON is rejected. -/
theorem canonical_rejects_invalid (t : Bytes) (h : parse t = none) : canonical t = .error .badJSON := by
  simp [canonical, valid, h]

/-- Any two texts denoting the same value (member order, whitespace, escape spellings and `-0`/`0` aside)
    canonicalise to identical bytes. -/
theorem canonical_unique (t₁ t₂ : Bytes) (p₁ p₂ : PVal) (h₁ : parse t₁ = some p₁) (h₂ : parse t₂ = some p₂)
    (hd₁ : p₁.noDupKeys = true) (hd₂ : p₂.noDupKeys = true) (hw₁ : p₁.wellFormed = true) (hw₂ : p₂.wellFormed = true)
    (he : p₁.toJVal.sorted.normNums = p₂.toJVal.sorted.normNums) : canonical t₁ = canonical t₂ := by
  rw [canonical_eq_spec t₁ p₁ h₁ hd₁ hw₁, canonical_eq_spec t₂ p₂ h₂ hd₂ hw₂]
  unfold encodeCanon
  rw [← encode_normNums p₁.toJVal.sorted, ← encode_normNums p₂.toJVal.sorted, he]

/-- …and only those: texts with the same canonical bytes denote the same value. -/
theorem canonical_unique_conv (t₁ t₂ : Bytes) (p₁ p₂ : PVal) (h₁ : parse t₁ = some p₁) (h₂ : parse t₂ = some p₂)
    (hd₁ : p₁.noDupKeys = true) (hd₂ : p₂.noDupKeys = true) (hw₁ : p₁.wellFormed = true) (hw₂ : p₂.wellFormed = true)
    (he : canonical t₁ = canonical t₂) : p₁.toJVal.sorted.normNums = p₂.toJVal.sorted.normNums := by
  rw [canonical_eq_spec t₁ p₁ h₁ hd₁ hw₁, canonical_eq_spec t₂ p₂ h₂ hd₂ hw₂] at he
  exact encodeCanon_inj _ _ (parse_numsOk h₁) (parse_numsOk h₂) (by simpa using he)

/-- The output is valid JSON denoting the same value: it parses, to the input's value with members sorted
    and `-0` written `0`; it has no duplicate keys and no surrogate escapes. -/
theorem canonical_output_valid (t : Bytes) (p : PVal) (hp : parse t = some p) (hd : p.noDupKeys = true)
    (hw : p.wellFormed = true) :
    ∃ out q, canonical t = .ok out ∧ parse out = some q ∧ q.toJVal = p.toJVal.sorted.normNums ∧
      q.surrogatesOk = true := by
  obtain ⟨h1, h2⟩ := parse_encodeCanon p.toJVal (parse_numsOk hp)
  exact ⟨_, _, canonical_eq_spec t p hp hd hw, h1, h2, ofJVal_surrogatesOk _⟩

/-- Canonicalising twice changes nothing. -/
theorem canonical_idem (t : Bytes) (p : PVal) (hp : parse t = some p) (hd : p.noDupKeys = true)
    (hw : p.wellFormed = true) :
    ∃ out, canonical t = .ok out ∧ canonical out = .ok out :=
  ⟨_, canonical_eq_spec t p hp hd hw,
    canonical_encodeCanon p.toJVal (parse_numsOk hp) ((noDupKeys_toJVal p).trans hd)⟩

/-- Different values have different canonical bytes (what the signing properties rely on).  Number
    literals must be of the JSON grammar (`numsOk`; every parsed value is), strings are arbitrary bytes. -/
theorem encodeCanon_injective (v w : JVal) (hv : v.numsOk = true) (hw : w.numsOk = true)
    (h : encodeCanon v = encodeCanon w) : v.sorted.normNums = w.sorted.normNums :=
  encodeCanon_inj v w hv hw h

/-- Value-level form: serialising a value in any member order and
    canonicalising gives the value's canonical bytes. -/
theorem canonical_of_rendering (v : JVal) (hv : v.numsOk = true) : canonical (encode v) = .ok (encodeCanon v) := by
  rw [canonical_of_parse (parse_encode v hv) (ofJVal_surrogatesOk _), ofJVal_toJVal, encodeCanon_normNums]

/-- `{"b":-0, "a\u00e9":[1.5e3,"x\n\ud83d\ude00\/"], "a":{"k":null}}` -/
def exampleText : Bytes :=
  [0x7B, 0x22, 0x62, 0x22, 0x3A, 0x2D, 0x30, 0x2C, 0x20, 0x22, 0x61, 0x5C, 0x75, 0x30, 0x30, 0x65, 0x39, 0x22, 0x3A, 0x5B, 0x31, 0x2E, 0x35, 0x65, 0x33, 0x2C, 0x22, 0x78, 0x5C, 0x6E, 0x5C, 0x75, 0x64, 0x38, 0x33, 0x64, 0x5C, 0x75, 0x64, 0x65, 0x30, 0x30, 0x5C, 0x2F, 0x22, 0x5D, 0x2C, 0x20, 0x22, 0x61, 0x22, 0x3A, 0x7B, 0x22, 0x6B, 0x22, 0x3A, 0x6E, 0x75, 0x6C, 0x6C, 0x7D, 0x7D]

/-- `{"a":{"k":null},"aé":[1.5e3,"x\n😀/"],"b":0}` -/
def exampleCanon : Bytes :=
  [0x7B, 0x22, 0x61, 0x22, 0x3A, 0x7B, 0x22, 0x6B, 0x22, 0x3A, 0x6E, 0x75, 0x6C, 0x6C, 0x7D, 0x2C, 0x22, 0x61, 0xC3, 0xA9, 0x22, 0x3A, 0x5B, 0x31, 0x2E, 0x35, 0x65, 0x33, 0x2C, 0x22, 0x78, 0x5C, 0x6E, 0xF0, 0x9F, 0x98, 0x80, 0x2F, 0x22, 0x5D, 0x2C, 0x22, 0x62, 0x22, 0x3A, 0x30, 0x7D]

set_option maxRecDepth 10000 in
/-- the example text parses, has distinct keys and well-formed Unicode (hypotheses of `canonical_eq_spec`,
    `canonical_unique`, `canonical_output_valid`, `canonical_idem`) … -/
example : (parse exampleText).any (fun p => p.noDupKeys && p.wellFormed && p.toJVal.numsOk) = true := by decide +kernel

set_option maxRecDepth 10000 in
/-- … and its canonical form is what one expects (members sorted, escapes minimised, `-0` as `0`). -/
example : (canonical exampleText).toOption = some exampleCanon ∧
    (canonical exampleCanon).toOption = some exampleCanon := by decide +kernel

/-- `[1, {"a": 1.5}]` contains the non-integer literal `1.5` (hypothesis of `enforced_rejects`). -/
example : (parse [0x5B, 0x31, 0x2C, 0x20, 0x7B, 0x22, 0x61, 0x22, 0x3A, 0x20, 0x31, 0x2E, 0x35, 0x7D, 0x5D]).any
    (fun p => p.numbers.any (fun lit => !numOk lit)) = true := by decide

/-- Why `surrogatesOk` (implied by `wellFormed`) cannot be dropped from `canonical_eq_spec`: on `"\ud800"`
    (a lone surrogate escape) the specification says `"\uFFFD"` (gjson's decoding) but `CompactJSON` drops
    the escape and the result is `""`.  Confirmed on the Go code (`json.canon 225c756438303022` ↦ `ok:2222`).
    Such texts are outside C01's quantifier ("well-formed Unicode"). -/
example : canonicalSpec [0x22, 0x5C, 0x75, 0x64, 0x38, 0x30, 0x30, 0x22] = some [0x22, 0xEF, 0xBF, 0xBD, 0x22] ∧
    (canonical [0x22, 0x5C, 0x75, 0x64, 0x38, 0x30, 0x30, 0x22]).toOption = some [0x22, 0x22] := by decide

/-- invalid texts exist (hypothesis of `canonical_rejects_invalid`): `{"a":1,}` -/
example : parse [0x7B, 0x22, 0x61, 0x22, 0x3A, 0x31, 0x2C, 0x7D] = none := by decide

end V.C01
