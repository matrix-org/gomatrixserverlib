/-
  C03 — concrete builds and received events: the events the theorems of VProps/C03.lean are not vacuous on, evaluated by
  the kernel (toy hashes; the proto-events are defined in VProps/C03.lean, the received texts in VProps/C04.lean).  The
  builds under the identity as hash function are in VProps/C03VectorsId.lean.
-/
import VProps.C03
namespace V.C03
open V V.Json V.GoJson V.Redact V.EventParse V.RedactProofs V.EventProofs V.BuildProofs

theorem exProto_ok : ProtoOk exProto :=
  ⟨fun c h => by cases h; decide, fun u h => by cases h; decide, fun s h => by cases h⟩

theorem exCreate_ok : ProtoOk exCreate :=
  ⟨fun c h => by cases h; decide, exProto_ok.unsigned, exProto_ok.signatures⟩

example : ProtoOk exProto ∧ ProtoOk exCreate := ⟨exProto_ok, exCreate_ok⟩

/-- whenever `Build` succeeds the three re-parses do: this is `build_roundtrip` -/
theorem roundtrips_of_builds {ver : Bytes} {pe : EventBuild.Proto} (hpe : ProtoOk pe) (h : builds ver pe = true) :
    roundtrips ver pe = true := by
  unfold builds at h
  unfold roundtrips
  cases hb : EventBuild.build C04.H0 ver pe 1000 b!"hs" b!"ed25519:1" b!"abcdefghijklmnop" b!"c2ln" with
  | error x => rw [hb] at h; cases h
  | ok e =>
    obtain ⟨⟨e', hu, _⟩, ht, ⟨hv, hh, ⟨p, hp, hpv⟩, hall⟩, _⟩ := build_roundtrip hpe hb
    simp only [hu, ht, hh, hall _ p hp hpv, isOk, Bool.and_self]

set_option maxRecDepth 100000 in
/-- event format 1 (room version 1), event format 2 without the enforced number check (room version 5),
    with it (room version 10; `-0` would be refused there), and a version-12 create event: the four builds are
    evaluated, the re-parses follow from the theorem -/
example : roundtrips b!"1" exProto = true ∧ roundtrips b!"5" exProto = true ∧
    roundtrips b!"10" { exProto with content := some (.obj [(b!"membership", .str b!"join")]) } = true ∧
    roundtrips b!"12" exCreate = true := by
  have h : (builds b!"1" exProto && builds b!"5" exProto &&
      builds b!"10" { exProto with content := some (.obj [(b!"membership", .str b!"join")]) } &&
      builds b!"12" exCreate) = true := by decide +kernel
  simp only [Bool.and_eq_true] at h
  exact ⟨roundtrips_of_builds exProto_ok h.1.1.1, roundtrips_of_builds exProto_ok h.1.1.2,
    roundtrips_of_builds ⟨fun c h => by cases h; decide, exProto_ok.unsigned, exProto_ok.signatures⟩ h.1.2,
    roundtrips_of_builds exCreate_ok h.2⟩

/-- the received example event of C04 can have its `unsigned` set, be signed and be redacted, and
    parses as trusted input too: the hypotheses of the theorems of VProps/C03.lean are satisfiable -/
example : (match parseUntrusted C04.H0 b!"10" (C04.exText "") with
  | .ok e => isOk (setUnsigned e (.obj [(b!"age", .num b!"7")])) && isOk (signWith e b!"hs" b!"ed25519:1" b!"c2ln") &&
             isOk (redact e) && isOk (eventID C04.H0 e) && isOk (parseTrusted C04.H0 b!"10" false (C04.exText ""))
  | _ => false) = true := by
  rw [C04.exText_eq]
  decide +kernel

/-- `eventID_redact_invariant` on a received event (no `event_id` member: the receiver stripped it): accepted,
    redactable, and its ID is the same after `Redact()` -/
example : (match parseUntrusted C04.H1 b!"10" (C04.exEv "\"event_id\":\"$x\"," "x" "hw") with
  | .ok e => (match redact e, eventID C04.H1 e with
    | .ok e', .ok id => !e.redacted && e'.redacted && (match eventID C04.H1 e' with
      | .ok id' => id' == id && !id.isEmpty
      | _ => false) && (lookupExact e.obj b!"event_id").isNone
    | _, _ => false)
  | _ => false) = true := by
  rw [C04.exEv_eq]
  decide +kernel

/-- same reference hash under the identity as hash function (room version 10), different `hashes.sha256` -/
example : (match rowOf b!"10" with
  | some row =>
    (match referenceID (fun b => b) row b!"10" (.obj (exDupHashes true)), referenceID (fun b => b) row b!"10" (.obj (exDupHashes false)) with
     | .ok a, .ok b => a == b && !a.isEmpty && claimedHash (exDupHashes true) != claimedHash (exDupHashes false)
     | _, _ => false)
  | none => false) = true := by decide +kernel

end V.C03
