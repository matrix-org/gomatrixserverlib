/-
  C11 — State resolution is order-independent and yields well-formed state.

  The model (VModel/StateRes.lean) represents every Go map as an association list in first-insertion order and
  ranges over it in that order; the Go code ranges over its maps in an order that changes from run to run.  The
  theorems below show that the model's answer does not depend on those orders (nor on the order / duplication of
  its inputs): so every run, on every server holding the same events, computes the same room state.

  Hypotheses used (and only where needed):
  * `Input.ids`       — within the supplied events the event ID identifies the event (Go compares events by ID;
                        all events of one resolution have one room version);
  * `Input.oneCreate` — the supplied events contain at most one create event (they belong to one room): the v12
                        creator bonus in the power ordering reads "the" create event with a first-match search.
-/
import VModel.StateRes
import VProofs.StateResOrderIndep
import VProofs.StateResKahnTopo2
import VProofs.StateResV1g
import VProofs.StateResV1Ex
import VProofs.StateResOld
namespace V.C11
open V.StateRes List

def KeysNodup (s : State) : Prop := (s.map (·.1)).Nodup

theorem set_keys (s : State) (t k : Bytes) (e : Event) :
    (s.set t k e).map (·.1) = if (s.find? (fun x => x.1 == (t, k))).isSome then s.map (·.1) else s.map (·.1) ++ [(t, k)] := by
  simp only [State.set_keys, State.isSome_find_iff]

theorem set_keysNodup (s : State) (t k : Bytes) (e : Event) (h : KeysNodup s) : KeysNodup (s.set t k e) :=
  State.set_nodup h t k e

/-- **`applyEvents` keeps at most one event per (type, state_key).** -/
theorem applyEvents_keysNodup (s : State) (evs : List Event) (h : KeysNodup s) : KeysNodup (applyEvents s evs) :=
  applyEvents_ind (P := KeysNodup) h (fun _ hst _ _ _ _ => State.set_nodup hst _ _ _)

/-- **The iterative auth checks keep at most one event per (type, state_key)**, whatever the auth oracle answers. -/
theorem authAndApply_keysNodup (authMap : List Event) (rejected : List ID) (s : State) (evs : List Event)
    (h : KeysNodup s) : KeysNodup (authAndApply authMap rejected s evs) :=
  authAndApply_keys_nodup authMap rejected s evs h

example : KeysNodup ([] : State) := by simp [KeysNodup]

/-! ## The v2 / v2.1 result is well formed -/

/-- The model's answer is the list of event IDs of the resolved state `finalState` (VProofs/StateResStages.lean:
    the `let`s of `resolveV2New`, named). -/
theorem result_eq_finalState (algo : Nat) (sets : List (List Event)) (auth : List Event) (rejected : List ID) :
    (resolveV2New algo sets auth rejected).result = (finalState algo sets auth rejected).map (·.2.eventID) :=
  resolveV2New_result algo sets auth rejected

theorem stateWF_facts {s : State} (h : StateWF s) :
    KeysNodup s ∧ (∀ x ∈ s, x.2.type = x.1.1 ∧ x.2.stateKey = some x.1.2) ∧
    (s.map (·.2)).Pairwise (fun a b => ¬ (a.type = b.type ∧ a.stateKey = b.stateKey)) := by
  refine ⟨h.nodup, fun x hx => ?_, ?_⟩
  · have := hasKey_iff.mp (h.slot x hx); exact ⟨this.2, this.1⟩
  · have hn : ((s.map (·.2)).map keyOf).Nodup := h.map_keyOf ▸ h.nodup
    rw [List.nodup_iff_pairwise_ne, List.pairwise_map] at hn
    exact hn.imp (fun hne ⟨h1, h2⟩ => hne (by unfold keyOf; rw [h1, h2]))

/-- **At most one event per (type, state_key).**  The resolved state has pairwise distinct slots, every entry sits in the
    slot of its event, hence no two resolved events share (type, state_key). -/
theorem result_unique_keys (algo : Nat) (sets : List (List Event)) (auth : List Event) (rejected : List ID) :
    let s := finalState algo sets auth rejected
    KeysNodup s ∧ (∀ x ∈ s, x.2.type = x.1.1 ∧ x.2.stateKey = some x.1.2) ∧
    (s.map (·.2)).Pairwise (fun a b => ¬ (a.type = b.type ∧ a.stateKey = b.stateKey)) :=
  stateWF_facts (finalState_wf algo sets auth rejected)

/-- **Only supplied events.** -/
theorem result_subset_inputs (algo : Nat) (sets : List (List Event)) (auth : List Event) (rejected : List ID) :
    ∀ id ∈ (resolveV2New algo sets auth rejected).result, ∃ e ∈ sets.flatten ++ auth, e.eventID = id := by
  intro id hid
  rw [result_eq_finalState] at hid
  obtain ⟨x, hx, rfl⟩ := List.mem_map.mp hid
  exact ⟨x.2, List.mem_append.mpr (mem_finalState hx), rfl⟩

/-- An event is unconflicted iff it is the only supplied state event of its slot and occurs in every state set
    (`countID` counts its occurrences over all state sets). -/
theorem unconflicted_iff (sets : List (List Event)) (e : Event) :
    e ∈ (splitConflictedUnconflicted false sets).2 ↔
      e ∈ distinctStateEvents sets ∧ ((distinctStateEvents sets).filter (hasKey (keyOf e))).length = 1 ∧
      countID sets e.eventID = sets.length := by
  rw [mem_split_unconflicted]; simp

/-- **All state sets agree on a key ⇒ its event is unconflicted**: the state event `e` is in every state set, listed once
    (by ID), and every supplied event of its slot is `e`. -/
theorem agreed_is_unconflicted {sets : List (List Event)} (hne : sets ≠ []) (hU : IdsIn sets.flatten) {e : Event}
    (hk : e.stateKey.isSome) (he : ∀ s ∈ sets, e ∈ s)
    (hocc : ∀ s ∈ sets, (s.filter (fun x => x.eventID == e.eventID)).length = 1)
    (hslot : ∀ x ∈ sets.flatten, hasKey (keyOf e) x = true → x = e) :
    e ∈ (splitConflictedUnconflicted false sets).2 :=
  agreed_unconflicted hne hU hk he hocc hslot

/-- **Agreed keys are kept.**  For every key on which all state sets agree, the resolved state holds exactly that event in
    that slot (and, slots being distinct, no other event for that key). -/
theorem result_keeps_agreed (algo : Nat) (sets : List (List Event)) (auth : List Event) (rejected : List ID)
    (u : Event) (hu : u ∈ (splitConflictedUnconflicted false sets).2) :
    (finalState algo sets auth rejected).get u.type (u.stateKey.getD []) = some u ∧
    u.eventID ∈ (resolveV2New algo sets auth rejected).result := by
  have h := finalState_keeps_unconflicted algo sets auth rejected hu
  refine ⟨(State.get_eq_some_iff (finalState_wf algo sets auth rejected).nodup).mpr h, ?_⟩
  rw [result_eq_finalState]
  exact List.mem_map.mpr ⟨_, h, rfl⟩

/-- **Equal state sets resolve to themselves.**  If all state sets are rearrangements of one duplicate-free set `S` of
    state events with distinct (type, state_key), the result is exactly `S` (whatever auth events are supplied). -/
theorem resolve_all_equal (algo : Nat) (S : List Event) (hS : IdNodup S) (hkeys : (S.map keyOf).Nodup)
    (hst : ∀ e ∈ S, e.stateKey.isSome) (sets : List (List Event)) (hne : sets ≠ []) (h : ∀ s ∈ sets, s ~ S)
    (auth : List Event) (rejected : List ID) :
    (resolveV2New algo sets auth rejected).result ~ S.map (·.eventID) := by
  rw [result_eq_finalState]
  have := (finalState_all_equal_perm algo S hS hkeys hst sets hne h auth rejected).map (·.eventID)
  rwa [List.map_map] at this

structure Input (sets : List (List Event)) (auth : List Event) : Prop where
  ids : IdsIn (sets.flatten ++ auth)
  oneCreate : OneCreate (· ∈ sets.flatten ++ auth)

theorem Input.setsU {sets : List (List Event)} {auth : List Event} :
    ∀ s ∈ sets, ∀ x ∈ s, x ∈ sets.flatten ++ auth :=
  fun s hs _ hx => List.mem_append_left _ (List.mem_flatten.mpr ⟨s, hs, hx⟩)

theorem SetsEquiv.of_perm {a b : List (List Event)} (h : a ~ b) : SetsEquiv a b := by
  obtain ⟨c, hc, he⟩ := SetsEquiv.refl b
  exact ⟨c, h.trans hc, he⟩

theorem SetsEquiv.of_eachPerm {a b : List (List Event)} (h : EachPerm a b) : SetsEquiv a b := ⟨a, Perm.refl a, h⟩

/-- **The split into conflicted / unconflicted events is order independent.** -/
theorem split_perm_invariant (v1 : Bool) {sets sets' : List (List Event)} (hU : IdsIn sets.flatten) (hs : SetsEquiv sets sets') :
    (splitConflictedUnconflicted v1 sets).1 ~ (splitConflictedUnconflicted v1 sets').1 ∧
    (splitConflictedUnconflicted v1 sets).2 ~ (splitConflictedUnconflicted v1 sets').2 :=
  split_perm_of_setsEquiv hU v1 (fun s hs _ hx => List.mem_flatten.mpr ⟨s, hs, hx⟩) hs

/-- **The auth difference (v2) / auth difference + conflicted subgraph (v2.1) is order independent**: it depends only on
    the sets involved (auth map up to lookups, conflicted events as a set, state sets up to rearrangement).
    `hsets'`, `ham'`, `hcU'` are not used. -/
theorem authDifference_perm_invariant {U : Event → Prop} (hU : EvId U) (algo : Nat) {am am' c c' : List Event}
    {sets sets' : List (List Event)} (hsets : ∀ s ∈ sets, ∀ x ∈ s, U x) (hsets' : ∀ s ∈ sets', ∀ x ∈ s, U x)
    (ham : ∀ x ∈ am, U x) (ham' : ∀ x ∈ am', U x) (hcU : ∀ x ∈ c, U x) (hcU' : ∀ x ∈ c', U x)
    (hm : MapEq am am') (hc : SameSet c c') (hs : SetsSim sets sets') :
    SameSet (authDifferenceNew algo am c sets) (authDifferenceNew algo am' c' sets') :=
  authDifferenceNew_congr hU algo hsets ham hcU hm hc hs

/-- **The full control set is order independent** (closure through the conflicted map from the control roots). -/
theorem controlSet_perm_invariant {cm cm' roots roots' : List Event} (hm : MapEq cm cm') (hr : SameSet roots roots') :
    SameSet (controlIDsOf cm roots) (controlIDsOf cm' roots') := controlIDsOf_sameSet hm hr

/-- **Every stage of `resolveV2New` is order independent**: for state sets permuted (and permuted inside) and an auth list
    with the same events (reordered, entries repeated), the conflicted / unconflicted / auth-difference / control / other
    sets are the same sets, the power ordering and the mainline ordering are the same lists, and the results are
    permutations of each other. -/
theorem stages_perm_invariant (algo : Nat) {sets sets' : List (List Event)} {auth auth' : List Event}
    (hin : Input sets auth) (hs : SetsEquiv sets sets') (ha : SameSet auth auth') (rejected : List ID) :
    let r := resolveV2New algo sets auth rejected
    let r' := resolveV2New algo sets' auth' rejected
    SameSet r.conflicted r'.conflicted ∧ SameSet r.unconflicted r'.unconflicted ∧ SameSet r.authDiff r'.authDiff ∧
    SameSet r.control r'.control ∧ SameSet r.others r'.others ∧
    r.controlOrder = r'.controlOrder ∧ r.othersOrder = r'.othersOrder ∧ r.result ~ r'.result :=
  V.StateRes.stages_perm_invariant hin.ids hin.oneCreate algo Input.setsU (fun _ hx => List.mem_append_right _ hx) hs ha rejected

/-- **Every run of the process.**  Wherever the Go code ranges over a map the model uses first-insertion order.  Replace the
    lists the model obtains that way — conflicted events, unconflicted events, auth map, auth difference — by ANY lists with the
    same contents (`c'`, `d'` the same sets, `u'` a permutation, `am'` answering lookups alike): the resolved state is a
    permutation of the model's.  (The orderings fed to the iterative auth checks are functions of the sets, see "The orderings" below; the
    partial state is read through lookups only.)  `hcU'`, `hdU'` are not used. -/
theorem internal_order_irrelevant (algo : Nat) {sets : List (List Event)} {auth : List Event} (hin : Input sets auth)
    (rejected : List ID) {c' u' am' d' : List Event}
    (hcU' : ∀ x ∈ c', x ∈ sets.flatten ++ auth) (hdU' : ∀ x ∈ d', x ∈ sets.flatten ++ auth)
    (hc : SameSet (prepOf algo sets auth).conflicted c') (hu : (prepOf algo sets auth).unconflicted ~ u')
    (ham : MapEq (prepOf algo sets auth).authMap am') (hd : SameSet (prepOf algo sets auth).authDiff d') :
    stateS4 algo (prepOf algo sets auth) rejected ~ stateS4 algo (mkPrep c' u' am' (prepOf algo sets auth).createEv d') rejected :=
  finalState_internal_order_irrelevant hin.ids algo Input.setsU (fun _ hx => List.mem_append_right _ hx) rejected hc hu ham hd

/-- **C11, main theorem (v2 and v2.1).**  The set of events returned by state resolution is the same for every ordering of
    the state sets, of the events inside each set, of the auth events, and with auth events listed more than once. -/
theorem resolve_perm_invariant (algo : Nat) {sets sets' : List (List Event)} {auth auth' : List Event}
    (hin : Input sets auth) (hs : SetsEquiv sets sets') (ha : SameSet auth auth') (rejected : List ID) :
    (resolveV2New algo sets' auth' rejected).result ~ (resolveV2New algo sets auth rejected).result :=
  (stages_perm_invariant algo hin hs ha rejected).2.2.2.2.2.2.2.symm

theorem resolve_same_ids (algo : Nat) {sets sets' : List (List Event)} {auth auth' : List Event}
    (hin : Input sets auth) (hs : SetsEquiv sets sets') (ha : SameSet auth auth') (rejected : List ID) (id : ID) :
    id ∈ (resolveV2New algo sets' auth' rejected).result ↔ id ∈ (resolveV2New algo sets auth rejected).result :=
  (resolve_perm_invariant algo hin hs ha rejected).mem_iff

/-! ## The orderings

  `kahn lt parents nodes` is Kahn's algorithm exactly as the library writes it (generic in the comparator and in the parent
  relation; `reverseTopoAuth` uses `powerLt` on (sender power desc, timestamp, event ID) with `auth_events`, `reverseTopoPrev` uses
  `otherLt` with `prev_events`); `mainlineOrdering` is a sort by `otherLt`.  `kNodes nodes` is the input with repeated event
  IDs dropped (first occurrence kept): `(kNodes (l.map mk)).map (·.ev) = eventMapFromEvents l`. -/

/-- the comparators are strict total orders on their keys (the key ends with the event ID) -/
theorem powerLt_strictTotal : StrictTotal powerLt := V.StateRes.powerLt_strictTotal
theorem otherLt_strictTotal : StrictTotal otherLt := V.StateRes.otherLt_strictTotal

/-- **Kahn: permutation of the distinct input events** — no acyclicity needed (strays are put in front, the fuel suffices). -/
theorem kahn_perm {κ : Type} (lt : κ → κ → Bool) (parents : Event → List ID) (nodes : List (KNode κ)) :
    kahn lt parents nodes ~ (kNodes nodes).map (·.ev) := V.StateRes.kahn_perm lt parents nodes

/-- **Kahn: topological for acyclic input** (`KAcyclic`: some rank strictly increases from every parent present in the input
    to its child): no event comes before one of its parents, there are no strays … -/
theorem kahn_topological {κ : Type} (lt : κ → κ → Bool) (parents : Event → List ID) (nodes : List (KNode κ))
    (hac : KAcyclic parents nodes) :
    (kahn lt parents nodes).Pairwise (fun a b => b.eventID ∉ parents a) := V.StateRes.kahn_topological lt parents nodes hac

/-- … and every event comes after all of its ancestors present in the input. -/
theorem kahn_topological_ancestors {κ : Type} (lt : κ → κ → Bool) (parents : Event → List ID) (nodes : List (KNode κ))
    (hac : KAcyclic parents nodes) :
    (kahn lt parents nodes).Pairwise (fun a b => ¬ Relation.TransGen (ParentIn parents (kahn lt parents nodes)) b a) :=
  V.StateRes.kahn_topological_ancestors lt parents nodes hac

/-- **Kahn: the output is a function of the SET of input nodes** (any order, any duplication), for a strict total order on
    keys that determine the event ID. -/
theorem kahn_input_order_irrelevant {κ : Type} (lt : κ → κ → Bool) (hlt : StrictTotal lt) (parents : Event → List ID)
    (n1 n2 : List (KNode κ))
    (hids : ∀ a ∈ n1 ++ n2, ∀ b ∈ n1 ++ n2, a.ev.eventID = b.ev.eventID → a = b)
    (hkey : ∀ a ∈ n1, ∀ b ∈ n1, a.key = b.key → a.ev.eventID = b.ev.eventID)
    (hset : SameSet n1 n2) : kahn lt parents n1 = kahn lt parents n2 :=
  V.StateRes.kahn_input_order_irrelevant lt hlt parents n1 n2 hids hkey hset

/-- acyclicity of a list of events w.r.t. a parent relation, by a rank function -/
def Acyclic (parents : Event → List ID) (l : List Event) : Prop :=
  ∃ rk : ID → Nat, ∀ e ∈ l, ∀ p ∈ parents e, p ∈ l.map (·.eventID) → rk p < rk e.eventID

theorem reverseTopoAuth_perm (am : List Event) (ce : Option Event) (l : List Event) :
    reverseTopoAuth am ce l ~ eventMapFromEvents l := V.StateRes.reverseTopoAuth_perm am ce l

theorem reverseTopoAuth_topological (am : List Event) (ce : Option Event) (l : List Event)
    (hac : Acyclic (fun e => e.authEventIDs) l) :
    (reverseTopoAuth am ce l).Pairwise
      (fun a b => ¬ Relation.TransGen (ParentIn (fun e => e.authEventIDs) (reverseTopoAuth am ce l)) b a) := by
  rw [reverseTopoAuth_eq_kahn]
  exact kahn_topological_ancestors _ _ _ (KAcyclic.of_events (powerNode am ce) (fun _ => rfl) hac)

theorem reverseTopoAuth_input_order_irrelevant (am : List Event) (ce : Option Event) {l1 l2 : List Event}
    (hU : IdsIn (l1 ++ l2)) (h : SameSet l1 l2) : reverseTopoAuth am ce l1 = reverseTopoAuth am ce l2 :=
  V.StateRes.reverseTopoAuth_input_order_irrelevant am ce hU h

theorem reverseTopoPrev_perm (l : List Event) : reverseTopoPrev l ~ eventMapFromEvents l := V.StateRes.reverseTopoPrev_perm l

theorem reverseTopoPrev_topological (l : List Event) (hac : Acyclic (fun e => e.prevEventIDs) l) :
    (reverseTopoPrev l).Pairwise
      (fun a b => ¬ Relation.TransGen (ParentIn (fun e => e.prevEventIDs) (reverseTopoPrev l)) b a) := by
  rw [reverseTopoPrev_eq_kahn]
  exact kahn_topological_ancestors _ _ _ (KAcyclic.of_events prevNode (fun _ => rfl) hac)

theorem reverseTopoPrev_input_order_irrelevant {l1 l2 : List Event} (hU : IdsIn (l1 ++ l2)) (h : SameSet l1 l2) :
    reverseTopoPrev l1 = reverseTopoPrev l2 := by
  rw [reverseTopoPrev_eq_kahn, reverseTopoPrev_eq_kahn]
  refine kahn_input_order_irrelevant otherLt otherLt_strictTotal _ _ _
    (mapNode_ids prevNode (fun _ => rfl) hU) ?_ (h.map _)
  intro a ha b hb hk
  obtain ⟨x, _, rfl⟩ := List.mem_map.mp ha
  obtain ⟨y, _, rfl⟩ := List.mem_map.mp hb
  exact congrArg OtherKey.id hk

theorem mainlineOrdering_perm (am ml evs : List Event) : mainlineOrdering am ml evs ~ evs :=
  V.StateRes.mainlineOrdering_perm am ml evs

theorem mainlineOrdering_input_order_irrelevant (am ml : List Event) {l1 l2 : List Event} (hp : l1 ~ l2) (hn : IdNodup l1) :
    mainlineOrdering am ml l1 = mainlineOrdering am ml l2 := V.StateRes.mainlineOrdering_input_order_irrelevant am ml hp hn

/-- `ReverseTopologicalOrdering(input, TopologicalOrderByAuthEvents)` as the public entry point runs it (no auth map; the
    create event is looked up in the input) — what VDriver/Topo.lean ties to the code -/
def publicTopoAuth (input : List Event) : List Event := reverseTopoAuth [] (getCreateEvent input) input

theorem publicTopoAuth_perm (l : List Event) : publicTopoAuth l ~ eventMapFromEvents l := reverseTopoAuth_perm _ _ l

theorem publicTopoAuth_topological (l : List Event) (hac : Acyclic (fun e => e.authEventIDs) l) :
    (publicTopoAuth l).Pairwise (fun a b => ¬ Relation.TransGen (ParentIn (fun e => e.authEventIDs) (publicTopoAuth l)) b a) :=
  reverseTopoAuth_topological _ _ l hac

theorem publicTopoAuth_input_order_irrelevant {l1 l2 : List Event} (hU : IdsIn (l1 ++ l2)) (hC : OneCreate (· ∈ l1 ++ l2))
    (h : SameSet l1 l2) : publicTopoAuth l1 = publicTopoAuth l2 := by
  unfold publicTopoAuth
  rw [getCreateEvent_congr hC (fun x hx => List.mem_append_left _ hx) h]
  exact reverseTopoAuth_input_order_irrelevant _ _ hU h

/-- `LineariseStateResponse`: the auth events and the state events are put into a map keyed by event ID and the map's values
    — `all`, in whatever order the map yields them — are ordered by auth events.  Any two runs see arrangements `all`,
    `all'` of the same events and return the same list: a permutation of the distinct events, ancestors first. -/
theorem linearise_deterministic {all all' : List Event} (hU : IdsIn (all ++ all')) (hC : OneCreate (· ∈ all ++ all'))
    (h : SameSet all all') (hac : Acyclic (fun e => e.authEventIDs) all) :
    publicTopoAuth all = publicTopoAuth all' ∧ publicTopoAuth all ~ eventMapFromEvents all ∧
    (publicTopoAuth all).Pairwise (fun a b => ¬ Relation.TransGen (ParentIn (fun e => e.authEventIDs) (publicTopoAuth all)) b a) :=
  ⟨publicTopoAuth_input_order_irrelevant hU hC h, publicTopoAuth_perm all, publicTopoAuth_topological all hac⟩

/-! ## Version 1 (`ResolveStateConflicts`; `ResolveConflictsNew` for room versions with algorithm 1)

  Precondition of the version-1 resolver: (P1) supplied auth events occupying one slot are equal (`addAuthEvent` keeps the
  last one in caller order); (P3) the candidates of one slot have distinct (depth, SHA-1 of the event ID) — `sha` is an
  arbitrary function of the ID.  Nothing is asked about supplied auth events that occupy the slot of a conflicted event:
  since /repo e1299c1 `resolveAuthBlock` puts the supplied auth event of a slot back once the
  block is resolved (before, a sibling block resolved later no longer saw it — the order dependence reproduced on the real
  code; `V.StateRes.V1Ex.ex_order1/ex_order2/ex_invariant` in VProofs/StateResV1Ex.lean is such an input). -/

theorem v1_result_unique_keys (sha : ID → Bytes) (conflicted auth : List Event) :
    ((resolveV1 sha conflicted auth).map keyOf).Nodup := V.StateRes.v1_result_unique_keys sha conflicted auth

theorem v1_result_subset_inputs {sha : ID → Bytes} {conflicted auth : List Event} {e : Event}
    (h : e ∈ resolveV1 sha conflicted auth) : e ∈ conflicted ∧ e.stateKey.isSome := V.StateRes.v1_result_subset_inputs h

/-- exactly one resolved event per slot occurring among the conflicted state events -/
theorem v1_result_keys_complete (sha : ID → Bytes) (conflicted auth : List Event) (K : Bytes × Bytes) :
    K ∈ (resolveV1 sha conflicted auth).map keyOf ↔ ∃ e ∈ conflicted, e.stateKey.isSome ∧ keyOf e = K :=
  V.StateRes.v1_result_keys_complete sha conflicted auth K

/-- **Sibling blocks are independent** (the deferral of registration in `resolveAndAddAuthBlocks`): one call on two
    arrangements of the same blocks (each block = the candidates of one slot), against well-formed resolver states with equal
    lookups, yields the same winners (up to order) and again states with equal lookups. -/
theorem blocks_order_irrelevant (sha : ID → Bytes) (valid : Bool) {s s' : V1State} {blocks blocks' : List (List Event)}
    (hw : s.WF) (hw' : s'.WF) (hsim : s.Sim s') (heq : SetsEquiv blocks blocks') (hb : BlocksSlots blocks)
    (hdist : blocks.Pairwise (fun b1 b2 => ∀ e1 ∈ b1, ∀ e2 ∈ b2, keyOf e1 ≠ keyOf e2))
    (hinj : ∀ b ∈ blocks, ∀ x ∈ b, ∀ y ∈ b, x.depth = y.depth → sha x.eventID = sha y.eventID → x = y) :
    (resolveAndAddAuthBlocks sha valid s blocks).2 ~ (resolveAndAddAuthBlocks sha valid s' blocks').2 ∧
      (resolveAndAddAuthBlocks sha valid s blocks).1.Sim (resolveAndAddAuthBlocks sha valid s' blocks').1 :=
  let h := V.StateRes.blocks_order_eqv sha valid ⟨hw, hw', hsim⟩ heq hb hdist hinj
  ⟨h.1, h.2.sim⟩

/-- **Version 1 is order independent** (one supplied auth event per slot, distinct sort keys inside a slot). -/
theorem v1_perm_invariant (sha : ID → Bytes) {conflicted conflicted' auth auth' : List Event}
    (hc : conflicted ~ conflicted') (ha : SameSet auth auth')
    (P1 : ∀ a ∈ auth, ∀ b ∈ auth, a.stateKey.isSome → keyOf a = keyOf b → b.stateKey.isSome → a = b)
    (P3 : ∀ a ∈ conflicted, ∀ b ∈ conflicted, a.stateKey.isSome → b.stateKey.isSome → keyOf a = keyOf b →
      a.depth = b.depth → sha a.eventID = sha b.eventID → a = b) :
    resolveV1 sha conflicted auth ~ resolveV1 sha conflicted' auth' :=
  V.StateRes.v1_perm_invariant sha hc ha P1 P3

/-- the version-1 precondition, for an input of `ResolveConflictsNew` -/
structure V1Input (sha : ID → Bytes) (sets : List (List Event)) (auth : List Event) : Prop where
  P1 : ∀ a ∈ auth, ∀ b ∈ auth, a.stateKey.isSome → keyOf a = keyOf b → b.stateKey.isSome → a = b
  P3 : ∀ a ∈ (splitConflictedUnconflicted true sets).1, ∀ b ∈ (splitConflictedUnconflicted true sets).1,
      a.stateKey.isSome → b.stateKey.isSome → keyOf a = keyOf b → a.depth = b.depth → sha a.eventID = sha b.eventID → a = b

/-- the v1 answer of the entry point: unique keys, only supplied state events -/
theorem v1_entry_well_formed (sha : ID → Bytes) (sets : List (List Event)) (auth : List Event) :
    ((v1Resolved sha sets auth).map keyOf).Nodup ∧ (∀ e ∈ v1Resolved sha sets auth, e ∈ sets.flatten ∧ e.stateKey.isSome) :=
  ⟨v1Resolved_unique_keys sha sets auth, fun _ h => v1Resolved_subset_inputs h⟩

/-- both answers are errors, or both are results that are permutations of each other -/
def SameAnswer : Option (List ID) → Option (List ID) → Prop
  | some l, some l' => l ~ l'
  | none, none => True
  | _, _ => False

/-- **C11 for the entry point**: `ResolveConflictsNew` gives the same set of events for every presentation of its input, for
    every room version (algorithm 1 under the version-1 precondition, algorithms 2 and 2.1 unconditionally). -/
theorem resolveConflictsNew_perm_invariant (sha : ID → Bytes) (ver : Bytes) {sets sets' : List (List Event)}
    {auth auth' : List Event} (hin : Input sets auth) (hs : SetsEquiv sets sets') (ha : SameSet auth auth')
    (hv1 : ∀ row, versionRow? ver = some row → row.stateResAlgorithm = 1 → V1Input sha sets auth) (rejected : List ID) :
    SameAnswer (resolveConflictsNew sha ver sets auth rejected) (resolveConflictsNew sha ver sets' auth' rejected) := by
  cases hv : versionRow? ver with
  | none => simp [resolveConflictsNew, hv, SameAnswer]
  | some row =>
    by_cases h1 : row.stateResAlgorithm = 1
    · obtain ⟨P1, P3⟩ := hv1 row hv h1
      obtain ⟨l, l', e1, e2, hp⟩ := resolveConflictsNew_v1_perm_invariant sha ver hv h1 hin.ids rejected rejected
        Input.setsU hs ha P1 P3
      rw [e1, e2]; exact hp
    · have h1' : (row.stateResAlgorithm == 1) = false := by simpa using h1
      unfold resolveConflictsNew
      simp only [hv, h1', Bool.false_eq_true, if_false]
      split
      · exact (resolve_perm_invariant row.stateResAlgorithm hin hs ha rejected).symm
      · trivial

/-! ## The deprecated entry points (`ResolveStateConflictsV2`, `ResolveConflicts`)

  `resolveV2Old conflicted unconflicted auth rejected` takes the split from its caller; `resolveConflictsOld` decides
  "conflicted" by key multiplicity over the distinct input events (= `splitConflictedUnconflicted true [events]`) and then runs
  the version-1 resolver or `resolveV2Old`.  Nothing is returned when the auth events lack a create event. -/

theorem old_result_eq_finalStateOld (c u auth : List Event) (rejected : List ID) :
    resolveV2Old c u auth rejected = (finalStateOld c u auth rejected).map (·.2.eventID) := resolveV2Old_result c u auth rejected

theorem old_result_unique_keys (c u auth : List Event) (rejected : List ID) :
    let s := finalStateOld c u auth rejected
    KeysNodup s ∧ (∀ x ∈ s, x.2.type = x.1.1 ∧ x.2.stateKey = some x.1.2) ∧
    (s.map (·.2)).Pairwise (fun a b => ¬ (a.type = b.type ∧ a.stateKey = b.stateKey)) :=
  stateWF_facts (finalStateOld_wf c u auth rejected)

theorem old_result_subset_inputs (c u auth : List Event) (rejected : List ID) :
    ∀ id ∈ resolveV2Old c u auth rejected, ∃ e ∈ c ++ u ++ auth, e.eventID = id := by
  intro id hid
  rw [old_result_eq_finalStateOld] at hid
  obtain ⟨x, hx, rfl⟩ := List.mem_map.mp hid
  refine ⟨x.2, ?_, rfl⟩
  simp only [List.mem_append]
  rcases mem_finalStateOld hx with h | h | h
  · exact Or.inl (Or.inl h)
  · exact Or.inl (Or.inr h)
  · exact Or.inr h

/-- the unconflicted events (distinct slots) are kept, provided the auth events contain a create event -/
theorem old_result_keeps_unconflicted (c : List Event) {u auth : List Event} (rejected : List ID)
    (hd : (u.map keyOf).Nodup) (hcr : (getCreateEvent auth).isSome) {e : Event} (he : e ∈ u) (hk : e.stateKey.isSome) :
    e.eventID ∈ resolveV2Old c u auth rejected := by
  rw [old_result_eq_finalStateOld]
  exact List.mem_map.mpr ⟨_, finalStateOld_keeps_unconflicted c rejected (distinctSlots_of_keys hd) hcr he hk, rfl⟩

/-- **`ResolveStateConflictsV2` is order independent**: conflicted events as a set, unconflicted events (distinct slots) in
    any order, auth events as a set (reordered, repeated). -/
theorem old_perm_invariant {c c' u u' auth auth' : List Event} (hU : IdsIn (c ++ u ++ auth))
    (hc : SameSet c c') (hu : u ~ u') (hd : (u.map keyOf).Nodup) (ha : SameSet auth auth') (rejected : List ID) :
    resolveV2Old c' u' auth' rejected ~ resolveV2Old c u auth rejected := by
  rw [old_result_eq_finalStateOld, old_result_eq_finalStateOld]
  have hcU : ∀ x ∈ c, x ∈ c ++ u ++ auth := fun x hx => List.mem_append_left _ (List.mem_append_left _ hx)
  exact ((finalStateOld_perm_invariant hU hcU
    (fun x hx => List.mem_append_left _ (List.mem_append_right _ hx)) (fun x hx => List.mem_append_right _ hx)
    hc hu (distinctSlots_of_keys hd) ha rejected).map _).symm

/-- **C11 for the deprecated entry point `ResolveConflicts`**: the same answer for every ordering of the events and every
    presentation of the auth events, for every room version (algorithm 1 under the version-1 precondition). -/
theorem resolveConflictsOld_perm_invariant (sha : ID → Bytes) (ver : Bytes) {events events' auth auth' : List Event}
    (hU : IdsIn (events ++ auth)) (he : events ~ events') (ha : SameSet auth auth')
    (hv1 : ∀ row, versionRow? ver = some row → row.stateResAlgorithm = 1 → V1Input sha [events] auth) (rejected : List ID) :
    SameAnswer (resolveConflictsOld sha ver events auth rejected) (resolveConflictsOld sha ver events' auth' rejected) := by
  cases hv : versionRow? ver with
  | none => simp [resolveConflictsOld, hv, SameAnswer]
  | some row =>
    by_cases h1 : row.stateResAlgorithm = 1
    · obtain ⟨P1, P3⟩ := hv1 row hv h1
      rw [resolveConflictsOld_v1 sha ver events auth rejected hv h1, resolveConflictsOld_v1 sha ver events' auth' rejected hv h1]
      have hU' : IdsIn ([events].flatten ++ auth) := by simpa using hU
      obtain ⟨l, l', e1, e2, hp⟩ := resolveConflictsNew_v1_perm_invariant sha ver hv h1 hU' rejected rejected
        Input.setsU (setsEquiv_singleton he) ha P1 P3
      rw [e1, e2]; exact hp
    · by_cases h23 : row.stateResAlgorithm = 2 ∨ row.stateResAlgorithm = 3
      · rw [resolveConflictsOld_v2 sha ver events auth rejected hv h23, resolveConflictsOld_v2 sha ver events' auth' rejected hv h23]
        exact (finalStateOld_entry_perm_invariant hU (fun x hx => List.mem_append_left _ hx)
          (fun x hx => List.mem_append_right _ hx) he ha rejected).map _
      · rw [resolveConflictsOld_other sha ver events auth rejected hv h1 h23, resolveConflictsOld_other sha ver events' auth' rejected hv h1 h23]
        trivial

/-- the v2 / v2.1 answer of the deprecated entry point: at most one event per slot, only supplied events, and every key with a
    single distinct event keeps it (when the auth events contain a create event) -/
theorem resolveConflictsOld_well_formed (events auth : List Event) (rejected : List ID) :
    let cu := splitConflictedUnconflicted true [events]
    let s := finalStateOld cu.1 cu.2 auth rejected
    KeysNodup s ∧ (∀ x ∈ s, x.2 ∈ events ∨ x.2 ∈ auth) ∧
    ((getCreateEvent auth).isSome → ∀ e ∈ cu.2, (keyOf e, e) ∈ s) := by
  intro cu s
  refine ⟨(finalStateOld_wf _ _ _ _).nodup, ?_, ?_⟩
  · intro x hx
    have sub : ∀ {y : Event}, y ∈ cu.1 ∨ y ∈ cu.2 → y ∈ events := by
      intro y hy
      have := (split_sub true [events] hy).1
      simpa using this
    rcases mem_finalStateOld hx with h | h | h
    · exact Or.inl (sub (Or.inl h))
    · exact Or.inl (sub (Or.inr h))
    · exact Or.inr h
  · intro hcr e he
    exact finalStateOld_keeps_unconflicted _ rejected (distinctSlots_of_keys (split_unconflicted_keys true [events])) hcr he
      (split_sub true [events] (Or.inr he)).2

/-! ## Non-vacuity of the hypotheses: a concrete, non-trivial instance -/

section Examples

private def mkEv (id ty sk : Bytes) (auth : List Bytes) : Event :=
  { ver := b!"10", eventID := id,
    obj := [(b!"type", .str ty), (b!"state_key", .str sk), (b!"auth_events", .arr (auth.map .str))] }

private def eCreate := mkEv b!"$create" b!"m.room.create" [] []
private def eA := mkEv b!"$a" b!"m.room.topic" [] [b!"$create"]
private def eB := mkEv b!"$b" b!"m.room.topic" [] [b!"$create", b!"$a"]
private def eN := mkEv b!"$n" b!"m.room.name" [] [b!"$create"]

private theorem ex_idNodup : IdNodup [eCreate, eA, eB, eN] := by unfold IdNodup; decide

/-- two state sets that disagree on the topic, auth events listed with a repetition: the hypotheses of
    `resolve_perm_invariant` hold -/
example : Input [[eCreate, eA, eN], [eCreate, eB, eN]] [eCreate, eA, eCreate] := by
  constructor
  · refine ex_idNodup.idsIn.mono ?_
    intro x hx; revert hx; simp only [List.flatten_cons, List.flatten_nil, List.cons_append, List.nil_append, List.append_nil,
      List.mem_cons, List.not_mem_nil, or_false]
    rintro (h | h | h | h | h | h | h | h | h) <;> simp [h]
  · intro x y hx hy hxc hyc
    have key : ∀ z, z ∈ [[eCreate, eA, eN], [eCreate, eB, eN]].flatten ++ [eCreate, eA, eCreate] → z.isCreate = true → z = eCreate := by
      intro z hz hzc
      simp only [List.flatten_cons, List.flatten_nil, List.cons_append, List.nil_append, List.append_nil,
        List.mem_cons, List.not_mem_nil, or_false] at hz
      rcases hz with h | h | h | h | h | h | h | h | h <;> subst h <;> first | rfl | (exact absurd hzc (by decide))
    rw [key x hx hxc, key y hy hyc]

example : SetsEquiv [[eCreate, eA, eN], [eCreate, eB, eN]] [[eN, eB, eCreate], [eA, eCreate, eN]] := by
  refine ⟨[[eCreate, eB, eN], [eCreate, eA, eN]], Perm.swap _ _ _, .cons ?_ (.cons ?_ .nil)⟩
  · exact (Perm.swap _ _ _).trans ((Perm.swap _ _ _).cons _ |>.trans (Perm.swap _ _ _))
  · exact Perm.swap _ _ _

example : SameSet [eCreate, eA, eCreate] [eA, eCreate] := by
  intro x; simp only [List.mem_cons, List.not_mem_nil, or_false]
  constructor
  · rintro (h | h | h) <;> simp [h]
  · rintro (h | h) <;> simp [h]

/-- the DAG create ← a ← b (and create ← n) is acyclic: rank = length of the longest chain below; the input lists `b` twice.
    (The parent function is spelled out: `Event.authEventIDs` consults the room-version table through `String.toUTF8`,
    which the kernel does not evaluate.) -/
example : Acyclic (fun e => if e.eventID = b!"$b" then [b!"$create", b!"$a"] else if e.eventID = b!"$create" then [] else [b!"$create"])
    [eB, eN, eA, eCreate, eB] := by
  refine ⟨fun id => if id = b!"$create" then 0 else if id = b!"$a" then 1 else 2, ?_⟩
  intro e he
  simp only [List.mem_cons, List.not_mem_nil, or_false] at he
  rcases he with h | h | h | h | h <;> subst h <;> decide

/-- equal state sets: hypotheses of `resolve_all_equal` -/
example : IdNodup [eCreate, eA, eN] ∧ ([eCreate, eA, eN].map keyOf).Nodup ∧ (∀ e ∈ [eCreate, eA, eN], e.stateKey.isSome) := by
  refine ⟨by unfold IdNodup; decide, by decide, by decide⟩

/-- the version-1 precondition holds for the former witness of the order dependence (two state sets conflicting on the
    memberships of @a:x and @b:x; the auth event `AJ` sits on the conflicted slot of @a:x, which the precondition does
    not exclude) -/
example : V1Input id [[V1Ex.a1, V1Ex.b1], [V1Ex.a2, V1Ex.b2]] [V1Ex.C, V1Ex.AJ] := by
  have sub : ∀ x ∈ (splitConflictedUnconflicted true [[V1Ex.a1, V1Ex.b1], [V1Ex.a2, V1Ex.b2]]).1,
      x ∈ [V1Ex.a1, V1Ex.a2, V1Ex.b1, V1Ex.b2] := by
    intro x hx
    have := (split_sub true _ (Or.inl hx)).1
    simp only [List.flatten_cons, List.flatten_nil, List.cons_append, List.nil_append, List.append_nil,
      List.mem_cons, List.not_mem_nil, or_false] at this ⊢
    rcases this with h | h | h | h <;> simp [h]
  exact ⟨V1Ex.ex_P1, fun a ha b hb => V1Ex.ex_P3 a (sub a ha) b (sub b hb)⟩

/-- and on it both block orders now give the same resolved events (before /repo e1299c1: `[$a2,$b1]` vs `[$b2,$a2]`) -/
example : (resolveV1 id [V1Ex.a1, V1Ex.a2, V1Ex.b1, V1Ex.b2] [V1Ex.C, V1Ex.AJ]).map (·.eventID) = [b!"$a2", b!"$b2"] ∧
    (resolveV1 id [V1Ex.b1, V1Ex.b2, V1Ex.a1, V1Ex.a2] [V1Ex.C, V1Ex.AJ]).map (·.eventID) = [b!"$b2", b!"$a2"] :=
  ⟨V1Ex.ex_order1, V1Ex.ex_order2⟩

end Examples

end V.C11
