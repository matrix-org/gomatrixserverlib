/-
  C13 ∘ C12 — `VerifyHTTPRequest` with the real `KeyRing` (key database + fetchers) as its `JSONVerifier`.

  `VProps/C13.lean` proves what an accepted / refused request means for an arbitrary verifier (and for a key TABLE);
  `VProps/C12.lean` proves what a success of `KeyRing.VerifyJSONs` means.  Here the two are composed, the way
  `VProps/C06Ring.lean` does it for events: `VerifyHTTPRequest` hands the key ring ONE request — the claimed origin,
  the time of receipt, `StrictValiditySignatureCheck`, the request object — and reads results[0].  So the clause
  "refused if the signing key was not valid at the time of receipt" is a statement about the keys the key ring's
  database and FETCHERS return, and about how a fetcher maps a notary's answer: `perspective_last_document_decides`
  says which entry `PerspectiveKeyFetcher.FetchKeys` holds for a key ID after an answer of several documents.
-/
import VProps.C13
import VProps.C12
namespace V.C13Ring
open V.Json V.FedReq

/-- The JSONVerifier of VerifyHTTPRequest when it is a `KeyRing`: one request for the claimed origin at the time of
    receipt under the strict rule.  `msg origin obj sigs` = what the key ring sees of the request object: whether
    `ListKeyIDs` succeeds and the entries of `signatures[origin]` (with, per entry, whether `VerifyJSON` reaches the
    signature check and under which keys the signature verifies).  `msg` is a parameter: nothing here ties its answer to
    `obj` and `sigs`, and the theorems below speak of the entries it returns. -/
def ringRequest (msg : Str → JVal → List (Str × Str) → Bool × List KeyRing.SigInfo)
    (origin : Str) (atTs : Nat) (obj : JVal) (sigs : List (Str × Str)) : KeyRing.Request :=
  { server := origin, atTS := atTs, strict := true, listOk := (msg origin obj sigs).1, sigs := (msg origin obj sigs).2 }

/-- `results, err := keys.VerifyJSONs(…one request…)`; err → 500, `results[0].Error != nil` → 401 -/
def ringVerifier (msg : Str → JVal → List (Str × Str) → Bool × List KeyRing.SigInfo)
    (db : KeyRing.FetchScript) (storeOk : Bool) (fetchers : List KeyRing.FetchScript) (wallclock : Nat) : Verifier :=
  fun origin atTs obj sigs =>
    match (KeyRing.verifyJSONs [ringRequest msg origin atTs obj sigs] db storeOk fetchers wallclock).1 with
    | .error _ => .fatal
    | .ok rs => if rs[0]? = some true then .accepted else .rejected

/-- **Soundness end to end.**  If VerifyHTTPRequest accepts with a key ring as verifier, then some ed25519 signature of
    the reported origin on the request object verifies under a public key that the key database or one of the fetchers
    returned for that (origin, key ID), and that key was valid at the time of receipt in the property's sense: before its
    expired_ts if it is an expired (retired) key, otherwise at or before its valid_until_ts and at most seven days
    ahead of the wall clock. -/
theorem accepted_with_keyring_sound (req : HttpReq) (now : Millis) (destination : Str) (isLocal : Option (Str → Bool))
    (msg : Str → JVal → List (Str × Str) → Bool × List KeyRing.SigInfo)
    (db : KeyRing.FetchScript) (storeOk : Bool) (fetchers : List KeyRing.FetchScript) (wc : Nat) (r : Fields)
    (h : verifyHTTPRequest req now destination isLocal (ringVerifier msg db storeOk fetchers wc) = .ok r) :
    ∃ cv, contentValue r.content = some cv ∧
      ∃ sig ∈ (msg r.origin (signingObject cv r.destination r.method r.origin r.uri) r.signatures).2,
        KeyRing.isAlgorithmSupported sig.keyID = true ∧ ∃ k : KeyRing.KeyRes,
        ((∃ fromDB, db = some fromDB ∧ (⟨r.origin, sig.keyID⟩, k) ∈ fromDB) ∨
         (∃ m, some m ∈ fetchers ∧ (⟨r.origin, sig.keyID⟩, k) ∈ m)) ∧
        sig.verifies k.key = true ∧
        KeyRing.Spec.validAt k now true wc = true ∧
        (k.expiredTS ≠ 0 → now < k.expiredTS) ∧
        (k.expiredTS = 0 → now ≤ k.validUntilTS ∧ now ≤ wc + KeyRing.sevenDaysMs) := by
  obtain ⟨_, _, _, _, _, _, _, _, cv, hcv, hacc⟩ := V.C13.accepted_facts req now destination isLocal _ r h
  refine ⟨cv, hcv, ?_⟩
  unfold ringVerifier at hacc
  split at hacc
  · cases hacc
  · rename_i rs hrs
    split at hacc
    · rename_i h0
      obtain ⟨q, hq, _, sig, hsig, halg, k, hsrc, hv, _, _, hver⟩ := V.C12.success_sound (Prod.ext hrs rfl) 0 h0
      cases hq
      obtain ⟨h1, h2, h3⟩ := V.C12.wasValidAt_forms hv
      exact ⟨sig, hsig, halg, k, hsrc, hver, h1, h2, fun he => h3 he rfl⟩
    · cases hacc

/-- **"Refused if the signing key was not valid at the time of receipt"**, for the key ring: when every key that the
    database or a fetcher holds for the claimed origin fails the validity clause at the time of receipt, the request
    is refused — whatever the signatures are. -/
theorem refused_with_keyring_if_key_invalid (req : HttpReq) (now : Millis) (destination : Str) (isLocal : Option (Str → Bool))
    (msg : Str → JVal → List (Str × Str) → Bool × List KeyRing.SigInfo)
    (db : KeyRing.FetchScript) (storeOk : Bool) (fetchers : List KeyRing.FetchScript) (wc : Nat)
    (hkeys : ∀ a, claimed req = some a → ∀ (kid : Bytes) (k : KeyRing.KeyRes),
      ((∃ fromDB, db = some fromDB ∧ (⟨a.origin, kid⟩, k) ∈ fromDB) ∨ (∃ m, some m ∈ fetchers ∧ (⟨a.origin, kid⟩, k) ∈ m)) →
      KeyRing.Spec.validAt k now true wc = false) :
    ∀ r, verifyHTTPRequest req now destination isLocal (ringVerifier msg db storeOk fetchers wc) ≠ .ok r := by
  intro r hok
  obtain ⟨_, _, sig, _, _, k, hsrc, _, hv, _⟩ :=
    accepted_with_keyring_sound req now destination isLocal msg db storeOk fetchers wc r hok
  obtain ⟨_, _, _, _, ⟨a, hcl, _, ho, _⟩, _⟩ := V.C13.accepted_facts req now destination isLocal _ r hok
  have := hkeys a hcl sig.keyID k (ho ▸ hsrc)
  rw [this] at hv; cases hv

/-! ### What the perspective fetcher holds after an answer of several documents -/

open KeyRing in
/-- folding `m[f e] = g e` over a list: a key that some element writes ends up with the value they (all) write -/
theorem lookup_foldl_insert_mem {γ : Type} (f : γ → KeyReq) (g : γ → KeyRes) (q : KeyReq) (v : KeyRes) (l : List γ) (m : KeyMap)
    (hex : ∃ e ∈ l, f e = q) (hall : ∀ e ∈ l, f e = q → g e = v) :
    AList.lookup q (l.foldl (fun m e => AList.insert (f e) (g e) m) m) = some v := by
  refine Lists.foldl_reaches (Q := fun m => AList.lookup q m = some v) (R := fun e => f e = q) l m (fun m e he h => ?_) (Or.inr hex)
  rw [AList.lookup_insert]
  by_cases hq : f e = q
  · rw [if_pos hq, hall e he hq]
  · rw [if_neg hq]
    exact h.resolve_right hq

open KeyRing in
/-- `mapServerKeysToPublicKeyLookupResult`: a key ID listed under `old_verify_keys` ends up as an EXPIRED entry —
    `expired_ts` as listed, no valid_until_ts — whatever the map held for it before and whether or not the same document
    also lists it under `verify_keys`. -/
theorem mapServerKeys_old_entry (keys : ServerKeys) (acc : KeyMap) (e : OldKeyEntry) (he : e ∈ keys.oldVerifyKeys)
    (huniq : ∀ e' ∈ keys.oldVerifyKeys, e'.keyID = e.keyID → e' = e) :
    AList.lookup ⟨keys.serverName, e.keyID⟩ (mapServerKeys keys acc) =
      some { key := e.key, validUntilTS := 0, expiredTS := e.expiredTS } := by
  unfold mapServerKeys
  apply lookup_foldl_insert_mem (fun (e : OldKeyEntry) => (⟨keys.serverName, e.keyID⟩ : KeyReq))
    (fun e => { key := e.key, validUntilTS := 0, expiredTS := e.expiredTS })
  · exact ⟨e, he, rfl⟩
  · intro e' he' hq
    have : e'.keyID = e.keyID := by
      have := congrArg KeyReq.keyID hq
      simpa using this
    rw [huniq e' he' this]

open KeyRing in
/-- **The last document decides.**  When `PerspectiveKeyFetcher.FetchKeys` succeeds on an answer whose LAST document
    lists key ID `e.keyID` of its server under `old_verify_keys`, the fetcher's result holds that key as expired at
    `e.expired_ts` — however many earlier documents of the answer list the same key ID as a current key with a
    valid_until_ts in the future.  (A fetcher that kept, per key ID, the entry with the highest valid_until_ts would
    keep the retired key valid; the correspondence ops `keyring.perspective_history` compare exactly this.) -/
theorem perspective_last_document_decides (rs : List NotaryResponse) (r : NotaryResponse) (m : KeyMap)
    (h : perspectiveFetch (some (rs ++ [r])) = some m) (e : OldKeyEntry) (he : e ∈ r.keys.oldVerifyKeys)
    (huniq : ∀ e' ∈ r.keys.oldVerifyKeys, e'.keyID = e.keyID → e' = e) :
    AList.lookup ⟨r.keys.serverName, e.keyID⟩ m = some { key := e.key, validUntilTS := 0, expiredTS := e.expiredTS } := by
  unfold perspectiveFetch at h
  simp only at h
  generalize ([] : KeyMap) = acc at h
  induction rs generalizing acc with
  | nil =>
    cases (V.C12.perspectiveLoop_cons h).2.2.2
    exact mapServerKeys_old_entry r.keys acc e he huniq
  | cons a rest ih => exact ih _ (V.C12.perspectiveLoop_cons h).2.2.2

/-- such an entry is not valid at or after its expired_ts (so a request signed only with that key and received then is
    refused when this fetcher's answer is the key ring's only source: `refused_with_keyring_if_key_invalid`) -/
theorem retired_entry_invalid (key : Bytes) (expired t wc : Nat) (h0 : expired ≠ 0) (ht : expired ≤ t) :
    KeyRing.Spec.validAt { key := key, validUntilTS := 0, expiredTS := expired } t true wc = false := by
  unfold KeyRing.Spec.validAt
  simp only [ne_eq, h0, not_false_eq_true, ↓reduceIte, decide_eq_false_iff_not, Nat.not_lt]
  exact ht

open KeyRing in
/-- an answer [older document: key 1 current until 9000; newer document: key 2 current, key 1 retired at 4000]:
    the fetch succeeds and holds key 1 as expired at 4000 -/
example :
    let k1 : Bytes := List.replicate 32 1
    let k2 : Bytes := List.replicate 32 2
    let older : NotaryResponse := { keys := { serverName := [97], validUntilTS := 9000, verifyKeys := [⟨algPrefix ++ [49], k1, true⟩], oldVerifyKeys := [] },
                                    listOk := true, notarySigs := [⟨[110], true, true⟩] }
    let newer : NotaryResponse := { keys := { serverName := [97], validUntilTS := 12000, verifyKeys := [⟨algPrefix ++ [50], k2, true⟩], oldVerifyKeys := [⟨algPrefix ++ [49], k1, 4000⟩] },
                                    listOk := true, notarySigs := [⟨[110], true, true⟩] }
    (perspectiveFetch (some ([older] ++ [newer]))).map (AList.lookup ⟨[97], algPrefix ++ [49]⟩) =
      some (some { key := k1, validUntilTS := 0, expiredTS := 4000 }) := by
  decide +kernel

end V.C13Ring
