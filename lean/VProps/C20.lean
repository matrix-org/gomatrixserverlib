/-
  C20 — Login tokens authenticate the issuing server and user, and expire.

  Model: VModel.Tokens (macaroon = (id, caveats, sig), abstract keyed function, clock parameter).
  The regenerated obligations say that what tokens.go / tokens_handlers.go contain is what the model mirrors.
-/
import VModel.Tokens
import VProofs.Tokens
import VGen.C20
namespace V.C20
open V.Tokens List

/-! ## Regenerated obligations (tools/extract/c20.go → VGen.C20) -/

/-- The clock is read as Unix seconds at issue and at validation (not, e.g., `.Second()`): this is what
    makes the model's `now : Int` with `now' - now` = elapsed seconds the right abstraction. -/
theorem clock_is_unix_seconds :
    VGen.tokensNowExprIssue = "int(time.Now().Unix())" ∧ VGen.tokensNowExprVerify = "int(time.Now().Unix())" :=
  ⟨rfl, rfl⟩

theorem consts_match_model :
    VGen.tokensGenBytes = Gen ∧ VGen.tokensUserPrefixBytes = UserPrefix ∧ VGen.tokensTimePrefixBytes = TimePrefix
    ∧ VGen.tokensDefaultDuration = defaultDuration ∧ VGen.tokensMacaroonVersion = "macaroon.V2"
    ∧ VGen.tokensGen = "gen = 1" ∧ VGen.tokensUserPrefix = "user_id = " ∧ VGen.tokensTimePrefix = "time < " :=
  ⟨rfl, rfl, rfl, rfl, rfl, rfl, rfl, rfl⟩

/-- `verifyCaveats` is, statement for statement, the loop `caveatLoop`/`classify` mirrors: the three
    kinds with bits 1, 2, 4, early return on a failing / unknown caveat, duplicate rejection, `== 7`. -/
theorem verifyCaveats_source : VGen.tokensSkelVerifyCaveats = [
  "var verified uint8",
  "now := int(time.Now().Unix())",
  "for _, caveat := range caveats {",
  "var bit uint8",
  "switch {",
  "case caveat == Gen:",
  "bit = 1",
  "case strings.HasPrefix(caveat, UserPrefix):",
  "if caveat[len(UserPrefix):] != userID {",
  "return errors.New(\"Token was issued for a different user\")",
  "}",
  "bit = 2",
  "case strings.HasPrefix(caveat, TimePrefix):",
  "if !verifyExpiry(caveat[len(TimePrefix):], now) {",
  "return errors.New(\"Token has expired\")",
  "}",
  "bit = 4",
  "default:",
  "return errors.New(\"Unknown caveat present\")",
  "}",
  "if verified&bit != 0 {",
  "return errors.New(\"Duplicate caveat present\")",
  "}",
  "verified |= bit",
  "}",
  "if verified == 7 {",
  "return nil",
  "}",
  "return errors.New(\"Required caveats not present\")"] := rfl

theorem verifyExpiry_source : VGen.tokensSkelVerifyExpiry = [
  "expiry, err := strconv.Atoi(t)",
  "if err != nil {",
  "return false",
  "}",
  "return now < expiry"] := rfl

theorem validate_source : VGen.tokensSkelValidate = [
  "mac, err := deSerializeMacaroon(token)",
  "if err != nil {",
  "return errors.New(\"Token does not represent a valid macaroon\")",
  "}",
  "caveats, err := mac.VerifySignature(op.ServerPrivateKey, nil)",
  "if err != nil {",
  "return errors.New(\"Provided token was not issued by this server\")",
  "}",
  "err = verifyCaveats(caveats, op.UserID)",
  "if err != nil {",
  "return errors.New(\"Provided token not authorized\")",
  "}",
  "return nil"] := rfl

theorem generate_source :
    VGen.tokensSkelGenerate = [
      "if !isValidTokenOptions(op) {",
      "return \"\", errors.New(\"The given TokenOptions is invalid\")",
      "}",
      "mac, err := generateBaseMacaroon(op.ServerPrivateKey, op.ServerName, op.UserID)",
      "if err != nil {",
      "return \"\", err",
      "}",
      "if op.Duration == 0 {",
      "op.Duration = defaultDuration",
      "}",
      "now := int(time.Now().Unix())",
      "expiryCaveat := TimePrefix + strconv.Itoa(now+op.Duration)",
      "err = mac.AddFirstPartyCaveat([]byte(expiryCaveat))",
      "if err != nil {",
      "return \"\", macaroonError(err)",
      "}",
      "urlSafeEncode, err := serializeMacaroon(*mac)",
      "if err != nil {",
      "return \"\", macaroonError(err)",
      "}",
      "return urlSafeEncode, nil"]
    ∧ VGen.tokensSkelBase = [
      "mac, err := macaroon.New(secret, []byte(userID), ServerName, macaroonVersion)",
      "if err != nil {",
      "return nil, macaroonError(err)",
      "}",
      "err = mac.AddFirstPartyCaveat([]byte(Gen))",
      "if err != nil {",
      "return nil, macaroonError(err)",
      "}",
      "err = mac.AddFirstPartyCaveat([]byte(UserPrefix + userID))",
      "if err != nil {",
      "return nil, macaroonError(err)",
      "}",
      "return mac, nil"]
    ∧ VGen.tokensSkelValidOptions = [
      "if op.ServerPrivateKey == nil || op.ServerName == \"\" || op.UserID == \"\" {",
      "return false",
      "}",
      "return true"]
    ∧ VGen.tokensSkelGetUser = [
      "mac, err := deSerializeMacaroon(token)",
      "if err != nil {",
      "return",
      "}",
      "user = string(mac.Id()[:])",
      "return"] :=
  ⟨rfl, rfl, rfl, rfl⟩

section
variable {K : Type} [DecidableEq K] (S : MacScheme K)

/-- **Exact characterisation of acceptance.**  A decoded token validates for `op` at clock reading `now`
    iff its signature is the chain of its own identifier and caveats under `op`'s key, it carries no
    third-party caveat, and its caveats are — in any order, nothing else — `gen = 1`, `user_id = <op.user>`
    and one `time < s` with `s` a decimal int64 strictly after `now`.  (No idealisation needed.) -/
theorem validate_iff (op : TokenOptions) (t : Token K) (now : Int) :
    validate S op (some t) now = .ok () ↔
      t.sig = chain S op.keyBytes t.id (t.caveats.map (·.cid)) ∧ (∀ c ∈ t.caveats, c.vid = []) ∧
      ∃ s e, atoi s = some e ∧ now < e ∧ t.caveats.map (·.cid) ~ [Gen, UserPrefix ++ op.user, TimePrefix ++ s] := by
  unfold validate
  simp only
  constructor
  · intro h
    split at h
    · cases h
    · rename_i conds hs
      obtain ⟨h1, rfl, h3⟩ := (verifySig_iff S _ t conds).1 hs
      split at h
      · cases h
      · rename_i hc
        obtain ⟨s, hx, hp⟩ := (verifyCaveats_iff _ _ _).1 hc
        obtain ⟨e, he, hlt⟩ := (verifyExpiry_iff s now).1 hx
        exact ⟨h3, h1, s, e, he, hlt, hp⟩
  · rintro ⟨h3, h1, s, e, he, hlt, hp⟩
    have hs : verifySig S op.keyBytes t = some (t.caveats.map (·.cid)) := (verifySig_iff S _ t _).2 ⟨h1, rfl, h3⟩
    have hc : verifyCaveats (t.caveats.map (·.cid)) op.user now = .ok () :=
      (verifyCaveats_iff _ _ _).2 ⟨s, (verifyExpiry_iff s now).2 ⟨e, he, hlt⟩, hp⟩
    simp [hs, hc]

theorem undecodable_refused (op : TokenOptions) (now : Int) : validate S op (none : Option (Token K)) now ≠ .ok () := by
  simp [validate]

omit [DecidableEq K] in
/-- what `GenerateLoginToken` issues -/
theorem generate_eq (op : TokenOptions) (now : Int) (hv : validOptions op = true) :
    generate S op now = .ok { id := op.user, caveats := (issuedConds op now).map (fun c => { cid := c }),
                              sig := chain S op.keyBytes op.user (issuedConds op now) } := by
  simp [generate, hv]

omit [DecidableEq K] in
/-- … and nothing else -/
theorem generate_ok {op : TokenOptions} {now : Int} {tok : Token K} (hg : generate S op now = .ok tok) :
    tok = { id := op.user, caveats := (issuedConds op now).map (fun c => { cid := c }),
            sig := chain S op.keyBytes op.user (issuedConds op now) } := by
  unfold generate at hg
  split at hg
  · cases hg
  · cases hg; rfl

theorem wrap64_of_range {x : Int} (hr : minInt64 ≤ x ∧ x ≤ maxInt64) : wrap64 x = x := by
  unfold wrap64; unfold minInt64 maxInt64 at hr; omega

theorem issued_cids (op : TokenOptions) (now : Int) :
    ((issuedConds op now).map (fun c => ({ cid := c } : Caveat))).map (·.cid) = issuedConds op now := by
  simp [issuedConds]

/-- **Issued tokens validate until they expire.**  With valid options and `now + duration` inside int64
    (Go's `now+op.Duration` would wrap otherwise), the token issued at `now` validates under the same
    options at every instant `now'` before `now + duration` (duration 0 = 120 s). -/
theorem issued_validates (op : TokenOptions) (now now' : Int) (hv : validOptions op = true)
    (hr : minInt64 ≤ now + effDuration op ∧ now + effDuration op ≤ maxInt64) (hlt : now' < now + effDuration op) :
    ∃ tok, generate S op now = .ok tok ∧ validate S op (some tok) now' = .ok () := by
  refine ⟨_, generate_eq S op now hv, ?_⟩
  rw [validate_iff]
  refine ⟨by simp only [issued_cids], by simp [issuedConds], itoa (wrap64 (now + effDuration op)), now + effDuration op, ?_, hlt, ?_⟩
  · rw [wrap64_of_range hr]; exact atoi_itoa _ hr.1 hr.2
  · simp only [issued_cids]; exact Perm.refl _

theorem time_caveat_unique {cs : List Bytes} {u s s' : Bytes}
    (hp : cs ~ [Gen, UserPrefix ++ u, TimePrefix ++ s]) (hm : TimePrefix ++ s' ∈ cs) : s' = s := by
  have := hp.mem_iff.1 hm
  simp only [mem_cons, not_mem_nil, or_false] at this
  rcases this with h | h | h
  · exact absurd h (time_ne_gen s')
  · exact absurd h (time_ne_user s' u)
  · exact List.append_cancel_left h

/-- **Expiry.**  Once `duration` seconds have elapsed (`now' ≥ now + duration`) the issued token validates
    under no options at all. -/
theorem expires (op op' : TokenOptions) (now now' : Int) (tok : Token K)
    (hr : minInt64 ≤ now + effDuration op ∧ now + effDuration op ≤ maxInt64)
    (hg : generate S op now = .ok tok) (hge : now' ≥ now + effDuration op) :
    validate S op' (some tok) now' ≠ .ok () := by
  intro h
  cases generate_ok S hg
  rw [validate_iff] at h
  obtain ⟨_, _, s, e, he, hlt, hp⟩ := h
  simp only [issued_cids] at hp
  have hm : TimePrefix ++ itoa (wrap64 (now + effDuration op)) ∈ issuedConds op now := by simp [issuedConds]
  have hs := time_caveat_unique hp hm
  rw [← hs, wrap64_of_range hr, atoi_itoa _ hr.1 hr.2] at he
  cases he
  omega

theorem default_duration (op : TokenOptions) (h : op.duration = 0) : effDuration op = 120 := by
  simp [effDuration, h, defaultDuration]

/-- **Altered signature**: a token whose signature is not the chain of its own content under the
    validating key is refused. -/
theorem altered_sig (op : TokenOptions) (t : Token K) (now : Int)
    (h : t.sig ≠ chain S op.keyBytes t.id (t.caveats.map (·.cid))) : validate S op (some t) now ≠ .ok () := by
  intro hv; exact h ((validate_iff S op t now).1 hv).1

/-- **Altered content** (`IdealMac`): if the signature was computed for (key₀, id₀, conds₀) and anything
    of it differs from the validating key, the token's identifier or its caveat list — a caveat dropped,
    reordered, rewritten, appended without extending the chain, a changed identifier — the token is refused. -/
theorem altered_content (I : IdealMac S) (op : TokenOptions) (t : Token K) (now : Int)
    (k0 id0 : Bytes) (conds0 : List Bytes) (hs : t.sig = chain S k0 id0 conds0)
    (hne : ¬ (k0 = op.keyBytes ∧ id0 = t.id ∧ conds0 = t.caveats.map (·.cid))) :
    validate S op (some t) now ≠ .ok () := by
  intro hv
  have h := ((validate_iff S op t now).1 hv).1
  rw [hs] at h
  exact hne (chain_inj I h)

/-- **Wrong key** (`IdealMac`): a token minted under a key other than the validating one is refused,
    whatever its caveats. -/
theorem wrong_key (I : IdealMac S) (op : TokenOptions) (t : Token K) (now : Int) (k0 : Bytes)
    (hs : t.sig = chain S k0 t.id (t.caveats.map (·.cid))) (hk : k0 ≠ op.keyBytes) :
    validate S op (some t) now ≠ .ok () :=
  altered_content S I op t now k0 t.id _ hs (fun h => hk h.1)

/-- … in particular a token issued by `GenerateLoginToken` under another secret. -/
theorem wrong_key_issued (I : IdealMac S) (op op' : TokenOptions) (now now' : Int) (tok : Token K)
    (hg : generate S op now = .ok tok) (hk : op.keyBytes ≠ op'.keyBytes) :
    validate S op' (some tok) now' ≠ .ok () := by
  cases generate_ok S hg
  exact wrong_key S I op' _ now' op.keyBytes (by simp only [issued_cids]) hk

/-- **Wrong user**: a validating token's `user_id` caveat names the validating user. -/
theorem wrong_user (op : TokenOptions) (t : Token K) (now : Int) (u : Bytes)
    (hm : UserPrefix ++ u ∈ t.caveats.map (·.cid)) (hu : u ≠ op.user) : validate S op (some t) now ≠ .ok () := by
  intro hv
  obtain ⟨_, _, s, e, _, _, hp⟩ := (validate_iff S op t now).1 hv
  have := hp.mem_iff.1 hm
  simp only [mem_cons, not_mem_nil, or_false] at this
  rcases this with h | h | h
  · exact user_ne_gen u h
  · exact hu (List.append_cancel_left h)
  · exact absurd h.symm (time_ne_user s u)

/-- … in particular a token issued for one user never validates for another, under any key, at any time. -/
theorem wrong_user_issued (op op' : TokenOptions) (now now' : Int) (tok : Token K)
    (hg : generate S op now = .ok tok) (hu : op.user ≠ op'.user) : validate S op' (some tok) now' ≠ .ok () := by
  cases generate_ok S hg
  exact wrong_user S op' _ now' op.user (by simp [issuedConds]) hu

/-- What the **additional caveat** clause rests on (`extra_caveat`). -/
theorem exactly_three (op : TokenOptions) (t : Token K) (now : Int) (hv : validate S op (some t) now = .ok ()) :
    t.caveats.length = 3 := by
  obtain ⟨_, _, s, e, _, _, hp⟩ := (validate_iff S op t now).1 hv
  simpa using hp.length_eq

/-- **Additional caveat**: an issued token with any further caveat appended — with the chain properly extended, as any
    holder can do, or with any other signature — is refused under all options at all times (`exactly_three`). -/
theorem extra_caveat (op op' : TokenOptions) (now now' : Int) (tok : Token K) (c : Caveat) (sg : K)
    (hg : generate S op now = .ok tok) :
    validate S op' (some { tok with caveats := tok.caveats ++ [c], sig := sg }) now' ≠ .ok () := by
  intro hv
  have h3 := exactly_three S op' _ now' hv
  cases generate_ok S hg
  simp [issuedConds] at h3

/-- **Unknown caveat**: every caveat of a validating token is one of the three kinds (so a token
    carrying anything else, or a third-party caveat, is refused). -/
theorem unknown_caveat (op : TokenOptions) (t : Token K) (now : Int) (hv : validate S op (some t) now = .ok ()) :
    ∀ c ∈ t.caveats, c.vid = [] ∧
      (c.cid = Gen ∨ c.cid = UserPrefix ++ op.user ∨ ∃ s e, c.cid = TimePrefix ++ s ∧ atoi s = some e ∧ now < e) := by
  obtain ⟨_, h1, s, e, he, hlt, hp⟩ := (validate_iff S op t now).1 hv
  intro c hc
  refine ⟨h1 c hc, ?_⟩
  have := hp.mem_iff.1 (List.mem_map_of_mem (f := (·.cid)) hc)
  simp only [mem_cons, not_mem_nil, or_false] at this
  rcases this with h | h | h
  · exact Or.inl h
  · exact Or.inr (Or.inl h)
  · exact Or.inr (Or.inr ⟨s, e, h, he, hlt⟩)

/-- **Missing caveat**: a validating token carries all three required caveats. -/
theorem missing_caveat (op : TokenOptions) (t : Token K) (now : Int) (hv : validate S op (some t) now = .ok ()) :
    Gen ∈ t.caveats.map (·.cid) ∧ UserPrefix ++ op.user ∈ t.caveats.map (·.cid) ∧
      ∃ s e, TimePrefix ++ s ∈ t.caveats.map (·.cid) ∧ atoi s = some e ∧ now < e := by
  obtain ⟨_, _, s, e, he, hlt, hp⟩ := (validate_iff S op t now).1 hv
  exact ⟨hp.mem_iff.2 (by simp), hp.mem_iff.2 (by simp), s, e, hp.mem_iff.2 (by simp), he, hlt⟩

omit [DecidableEq K] in
/-- **GetUserFromToken** reveals the user the token was issued for. -/
theorem get_user (op : TokenOptions) (now : Int) (tok : Token K) (hg : generate S op now = .ok tok) :
    getUser (some tok) = .ok op.user := by
  cases generate_ok S hg
  rfl

end

/-- **The specification stream of the check is this property.**  `Spec.validOk` — the independent
    definition the driver prints as the third stream (signature provenance established outside, caveats
    counted rather than looped over) — accepts exactly the tokens `validate` accepts, whenever the
    provenance `prov` says truthfully whether the signature is the chain of the token's own content
    under the validating key. -/
theorem spec_validOk_iff {K : Type} [DecidableEq K] (S : MacScheme K) (op : TokenOptions) (t : Token K) (now : Int)
    (prov : Option Bytes)
    (hprov : prov = some op.keyBytes ↔ t.sig = chain S op.keyBytes t.id (t.caveats.map (·.cid))) :
    Spec.validOk op.keyBytes op.user now prov t.id t.caveats = true ↔ validate S op (some t) now = .ok () := by
  rw [validate_iff]
  unfold Spec.validOk
  simp only [Bool.and_eq_true, beq_iff_eq, all_eq_true, List.isEmpty_iff]
  have hc := spec_caveats_iff (t.caveats.map (·.cid)) op.user now
  simp only [length_map] at hc
  constructor
  · rintro ⟨⟨⟨⟨⟨h1, h2⟩, h3⟩, h4⟩, h5⟩, h6⟩
    obtain ⟨s, hs, hp⟩ := hc.1 ⟨h3, h4, h5, h6⟩
    obtain ⟨e, he, hlt⟩ := (verifyExpiry_iff s now).1 hs
    exact ⟨hprov.1 h1, h2, s, e, he, hlt, hp⟩
  · rintro ⟨h1, h2, s, e, he, hlt, hp⟩
    obtain ⟨h3, h4, h5, h6⟩ := hc.2 ⟨s, (verifyExpiry_iff s now).2 ⟨e, he, hlt⟩, hp⟩
    exact ⟨⟨⟨⟨⟨hprov.2 h1, h2⟩, h3⟩, h4⟩, h5⟩, h6⟩

/-! ### Non-vacuity: the hypotheses are satisfiable -/

example : IdealMac toy := toy_ideal

def exOp : TokenOptions := { key := some [1, 2, 3], serverName := [115], user := [64, 97, 58, 98], duration := 0 }
def exOp2 : TokenOptions := { exOp with key := some [9] }
def exOp3 : TokenOptions := { exOp with user := [64, 98, 58, 98] }

example : ∃ tok, generate toy exOp 1700000000 = .ok tok ∧ validate toy exOp (some tok) 1700000119 = .ok () :=
  issued_validates toy exOp 1700000000 1700000119 (by decide) (by decide) (by decide)

example (tok : Token ToyK) (hg : generate toy exOp 1700000000 = .ok tok) : validate toy exOp (some tok) 1700000120 ≠ .ok () :=
  expires toy exOp exOp 1700000000 1700000120 tok (by decide) hg (by decide)

example (tok : Token ToyK) (hg : generate toy exOp 1700000000 = .ok tok) : validate toy exOp2 (some tok) 1700000001 ≠ .ok () :=
  wrong_key_issued toy toy_ideal exOp exOp2 1700000000 1700000001 tok hg (by decide)

example (tok : Token ToyK) (hg : generate toy exOp 1700000000 = .ok tok) : validate toy exOp3 (some tok) 1700000001 ≠ .ok () :=
  wrong_user_issued toy exOp exOp3 1700000000 1700000001 tok hg (by decide)

/-- the old behaviour (bits OR-ed, no duplicate rejection) accepted alice's token with an appended
    `user_id = bob` caveat for bob; the loop as it is now refuses it (`extra_caveat`). -/
example : verifyCaveats [Gen, UserPrefix ++ [97], TimePrefix ++ [57], UserPrefix ++ [98]] [98] 0 = .error .wrongUser := by rfl

end V.C20
