/-
  C16 — Outbound federation goes only where resolution rules and network policy allow.

  Models:
    VModel.Resolve   (spec/servername.go, fclient/resolve.go)   vs  Resolve.Spec   (S2S "Resolving server names")
    VModel.WellKnown (fclient/well_known.go)                    vs  WellKnown.Spec (max-age before Expires)
    VModel.Cidr      (fclient/client.go + net.IPNet.Contains)   vs  Cidr.Spec      (prefix membership, deny/allow)
  What is NOT proved here (partial claims, see props/C16.py): what net/http, the dialer and the DNS
  resolver do at run time (they are the oracles / parameters of the models); `Cidr.parseIP` / `parseCIDR`
  (net.ParseIP, net.ParseCIDR on `List Char`) are modelled, not verified — a second model of net.ParseIP, not
  related to `V.Ident.parseIP` of C17.
-/
import VProofs.Resolve
import VProofs.WellKnown
import VProofs.Cidr
import VGen.C16
namespace V.C16

/-! ### Regenerated facts: the literals the models repeat are the ones in /repo now -/

theorem gen_default_port :
    VGen.resolveServerLiterals = [8448] ∧ VGen.handleNoWellKnownLiterals = [8448] ∧
      Resolve.port8448 = "8448".toList := by decide +kernel

theorem gen_srv_services :
    VGen.lookupSRVCalls = [("matrix-fed", "tcp"), ("matrix", "tcp")] := rfl

theorem gen_wellknown_limits :
    VGen.wellKnownMaxSize = 51200 ∧ WellKnown.maxSize = VGen.wellKnownMaxSize ∧
      VGen.wellKnownReadLimit = WellKnown.maxSize + 1 ∧
      VGen.wellKnownBodyCheck = (">", (WellKnown.maxSize : Int)) ∧
      VGen.wellKnownStatusCheck = ("!=", 200) ∧
      VGen.wellKnownExpiresLayout = "Mon, 02 Jan 2006 15:04:05 MST" ∧
      VGen.wellKnownPath = "/.well-known/matrix/server" := by decide +kernel

theorem gen_control_networks :
    VGen.controlNetworkChecks = [("!=", "tcp4"), ("!=", "tcp6")] := rfl

section Resolution
open Resolve

/-- The code resolves a name exactly as the specification's steps 1-6 prescribe (order of the steps,
    destination, Host header and TLS server name of every target, refusal of invalid names), for every
    name, every well-known outcome and every answer of an SRV resolver whose successful lookups carry at
    least one record — WHATEVER the targets of the records: a record whose target is the root `.` yields no
    target (/repo b4b41b2: before, it yielded the destination ":port"). -/
theorem resolve_eq_spec (o : Oracles) (name : Cidr.Str) (hs : Spec.SrvSane o.srv) :
    resolve o name = Spec.resolve o name := by
  unfold resolve Spec.resolve resolveNoWellKnown
  rw [resolveDirect_eq name]
  unfold Spec.directResult
  cases hk : Spec.classify name with
  | none => rfl
  | some k =>
    simp only []
    cases hd : Spec.direct name k with
    | some ts => rfl
    | none =>
      simp only []
      cases hw : o.wk name with
      | none => simp only []; exact handleNoWellKnown_eq o.srv name hs
      | some d =>
        simp only []
        rw [resolveDirect_eq d]
        unfold Spec.directResult
        cases hkd : Spec.classify d with
        | none => rfl
        | some kd =>
          simp only []
          cases hdd : Spec.direct d kd with
          | some ts => rfl
          | none => simp only []; exact handleNoWellKnown_eq o.srv d hs

/-- non-vacuity: a resolver that finds nothing is sane; so is one that answers one record -/
example : Spec.SrvSane (fun _ _ => .notFound) := by intro _ _ _ h; cases h
example : Spec.SrvSane (fun _ _ => .records [("matrix.otherexample.com.".toList, 4242)]) := by
  intro _ _ rs h
  cases h
  simp

/-- the failing input of /repo b4b41b2: the only SRV record names the root — no target, where the code returned
    the destination ":8448" before -/
example :
    resolve { wk := fun _ => none, srv := fun svc _ => if svc = "matrix-fed".toList then .records [(".".toList, 8448)] else .notFound }
      "hs.example.org".toList = .ok [] := by
  -- `Err` has no decidable equality: a concrete run is compared through `toOption`
  exact Guard.eq_ok_of_toOption (by decide +kernel)

/-- a root record among others is skipped, the others stay -/
example :
    resolve { wk := fun _ => none, srv := fun svc _ => if svc = "matrix-fed".toList then .records [("a.example.".toList, 1), (".".toList, 2)] else .notFound }
      "hs.example.org".toList = .ok [⟨"a.example:1".toList, "hs.example.org".toList, "hs.example.org".toList⟩] :=
  Guard.eq_ok_of_toOption (by decide +kernel)

/-- the worked example of the repository's own test (step 3.3): delegation to a hostname with an SRV record -/
example :
    resolve { wk := fun n => if n = "example.com".toList then some "matrix.example.com".toList else none,
              srv := fun svc _ => if svc = "matrix-fed".toList then .records [("matrix.otherexample.com.".toList, 4242)] else .notFound }
      "example.com".toList
    = .ok [⟨"matrix.otherexample.com:4242".toList, "matrix.example.com".toList, "matrix.example.com".toList⟩] :=
  Guard.eq_ok_of_toOption (by decide +kernel)

/-- Invalid server names are refused: a name ParseAndValidateServerName rejects yields no target,
    whatever the network would answer. -/
theorem invalid_refused (o : Oracles) (name : Cidr.Str) (h : parseAndValidate name = none) :
    resolve o name = .error (.other "invalid-server-name") := by
  simp [resolve, resolveDirect, h]

theorem directOf_ne_invalid (name host : Cidr.Str) (port : Option Nat) :
    directOf name host port ≠ .error (.other "invalid-server-name") := by
  cases host with
  | nil => simp [directOf]
  | cons c0 t =>
    -- on a non-empty host the result is `ok`
    rw [directOf_eq name c0 t port (port.map fun _ => []) _ (by cases port <;> rfl) rfl]
    simp

/-- The names the code rejects are exactly those the specification's reading of the server-name
    grammar rejects. -/
theorem invalid_iff_spec (name : Cidr.Str) : parseAndValidate name = none ↔ Spec.classify name = none := by
  have h := resolveDirect_eq name
  unfold resolveDirect Spec.directResult at h
  constructor
  · intro hn
    rw [hn] at h
    cases hk : Spec.classify name with
    | none => rfl
    | some k => rw [hk] at h; simp at h
  · intro hn
    rw [hn] at h
    cases hp : parseAndValidate name with
    | none => rfl
    | some hp' =>
      rw [hp] at h
      obtain ⟨host, port⟩ := hp'
      exact absurd h (directOf_ne_invalid name host port)

/-- an invalid delegated name is refused too -/
theorem invalid_delegate_refused (o : Oracles) (name d : Cidr.Str) (hd : resolveDirect name = .ok none)
    (hw : o.wk name = some d) (h : parseAndValidate d = none) :
    resolve o name = .error (.other "invalid-server-name") := by
  unfold resolve
  rw [hd]
  simp only [hw]
  unfold resolveNoWellKnown resolveDirect
  rw [h]

/-- The delegated name is resolved without a further well-known lookup: the result depends on the
    well-known oracle only through its answer for the original name. -/
theorem delegated_no_second_wellknown (o o' : Oracles) (name : Cidr.Str)
    (hwk : o.wk name = o'.wk name) (hsrv : o.srv = o'.srv) :
    resolve o name = resolve o' name := by
  unfold resolve resolveNoWellKnown
  rw [hwk, hsrv]

/-- Resolution never succeeds with an empty target list — except when an SRV lookup found records and EVERY one
    of them names the root `.` as its target: the domain declares that the service is not available
    (RFC 2782), there is nowhere to go, and RoundTrip gives up ("no address found"). -/
theorem targets_nonempty_or_error (o : Oracles) (name : Cidr.Str) (hs : Spec.SrvSane o.srv) (ts : List Target)
    (h : resolve o name = .ok ts) :
    ts ≠ [] ∨ ∃ svc n rs, o.srv svc n = .records rs ∧ rs ≠ [] ∧ ∀ r ∈ rs, Spec.rootTarget r = true := by
  rw [resolve_eq_spec o name hs] at h
  by_cases hts : ts = []
  · subst hts
    rcases Spec.resolve_ok h with ⟨hdr, k, hk⟩ | ⟨n, hn⟩
    · exact absurd hk (Spec.direct_ne_nil hdr k)
    · obtain ⟨svc, rs, hrec⟩ := Spec.srvSteps_eq_nil hn.symm
      exact Or.inr ⟨svc, n, rs, hrec⟩
  · exact Or.inl hts

/-- RoundTrip with an empty resolution cache connects only to targets ResolveServer returned for the requested
    name, each with the Host header and TLS server name of that target.  (A run that starts from a filled cache is
    not covered.) -/
theorem roundtrip_uses_only_targets (o : Oracles) (name : Cidr.Str) (reach : Network) (tr : Trip)
    (h : roundTrip o name reach none = .ok tr) :
    ∃ ts, resolve o name = .ok ts ∧ ∀ a ∈ tr.attempts, a.1 ∈ ts := by
  have htry : ∀ (l : List Target) (hist : List (Target × Reach)) a, a ∈ (tryTargets reach hist l).1 → a.1 ∈ l := by
    intro l
    induction l with
    | nil => intro hist a ha; simp [tryTargets] at ha
    | cons t ts ih =>
      intro hist a ha
      unfold tryTargets at ha
      split at ha
      · simp at ha; subst ha; simp
      · simp only [List.mem_cons] at ha
        rcases ha with rfl | ha
        · simp
        · exact List.mem_cons_of_mem _ (ih _ a ha)
  unfold roundTrip at h
  cases hres : resolve o name with
  | error e => simp [hres] at h
  | ok ts =>
    refine ⟨ts, rfl, ?_⟩
    simp only [hres] at h
    split at h
    · cases h
    · split at h
      · simp only [Except.ok.injEq] at h; subst h
        intro a ha; exact htry ts _ a ha
      · simp only [Except.ok.injEq] at h; subst h
        intro a ha
        simp only [List.mem_append] at ha
        rcases ha with ha | ha <;> exact htry ts _ a ha

/-- Against ANY network — including one whose answers depend on what was
    attempted before, e.g. a server that fails once — every connection attempt RoundTrip makes for a name with
    an empty resolution cache, in the first pass and in the retry pass, goes to a target the SPECIFICATION's
    resolution of the ORIGINAL server name yields, with the Host header and TLS server name the specification
    assigns to that target (a `Target` carries all three).  This is the clause `resolve.roundtrip_props`
    evaluates on the implementation's trace. -/
theorem roundtrip_attempts_are_spec_results (o : Oracles) (hs : Spec.SrvSane o.srv) (name : Cidr.Str) (reach : Network) (tr : Trip)
    (h : roundTrip o name reach none = .ok tr) :
    ∃ ts, Spec.resolve o name = .ok ts ∧ ∀ a ∈ tr.attempts, a.1 ∈ ts := by
  obtain ⟨ts, hr, hall⟩ := roundtrip_uses_only_targets o name reach tr h
  exact ⟨ts, by rw [← resolve_eq_spec o name hs]; exact hr, hall⟩

/-- a non-trivial instance: one SRV target that drops the first connection and answers the second — the retry
    pass goes to the same target, with the Host header and TLS server name of the original name -/
example :
    (roundTrip { wk := fun _ => none, srv := fun svc _ => if svc = "matrix-fed".toList then .records [("t1.test.".toList, 4)] else .notFound }
      "hs.test".toList (fun hist _ => if hist.isEmpty then .dropped else .ok) none).map (fun tr => (tr.attempts, tr.ok))
    = .ok ([(⟨"t1.test:4".toList, "hs.test".toList, "hs.test".toList⟩, .dropped),
            (⟨"t1.test:4".toList, "hs.test".toList, "hs.test".toList⟩, .ok)], true) :=
  Guard.eq_ok_of_toOption (by decide +kernel)

end Resolution

section WellKnownSection
open WellKnown

/-- A well-known reply is honoured exactly when it has status 200, its declared length (if a number)
    and its actual length are at most 50 KiB, and its body decodes to a non-empty m.server; the result
    then carries that name and the specification's cache lifetime. -/
theorem wellknown_honoured_iff (r : Reply) (now : Int) (et : Option Int) (decode : Bytes → Decoded) (res : Result) :
    lookup r now et decode = .ok res ↔
      r.status = 200 ∧ declaredOK r ∧ r.body.length ≤ 51200 ∧
      decode r.body = .ok res.newAddress ∧ res.newAddress ≠ [] ∧ res.cacheExpiresAt = Spec.lifetime r now et := by
  rw [lookup_ok_iff, expiryOf_eq]; rfl

/-- the "only if" the property states -/
theorem wellknown_honoured_only_if (r : Reply) (now : Int) (et : Option Int) (decode : Bytes → Decoded) (res : Result)
    (h : lookup r now et decode = .ok res) :
    r.status = 200 ∧ r.body.length ≤ 50 * 1024 ∧ ∃ a, a ≠ [] ∧ decode r.body = .ok a := by
  obtain ⟨h1, _, h3, h4, h5, _⟩ := (wellknown_honoured_iff r now et decode res).mp h
  exact ⟨h1, h3, res.newAddress, h5, h4⟩

/-- The cache lifetime is taken from max-age in preference to Expires: whenever Cache-Control — ANY of its
    header lines — carries a well-formed max-age the Expires header is irrelevant; otherwise the parsed
    Expires time (else 0) is used. -/
theorem cache_lifetime_prefers_max_age (r : Reply) (now : Int) (et : Option Int) (decode : Bytes → Decoded) (res : Result)
    (h : lookup r now et decode = .ok res) :
    (∀ age, Spec.maxAgeLines r.cacheControl = some age → res.cacheExpiresAt = wrap64 (age + now)) ∧
    (Spec.maxAgeLines r.cacheControl = none → res.cacheExpiresAt = if r.expires.isEmpty then 0 else et.getD 0) := by
  obtain ⟨_, _, _, _, _, h6⟩ := (wellknown_honoured_iff r now et decode res).mp h
  rw [h6]
  unfold Spec.lifetime
  constructor
  · intro age ha; simp [ha]
  · intro hn; simp [hn]

/-- non-vacuity: a reply with both headers; max-age wins -/
example :
    (lookup ⟨200, [], ["public, max-age=3600".toList], "Wed, 21 Oct 2045 07:28:00 GMT".toList, [0x7B, 0x7D]⟩ 1000 (some 2392183680)
      (fun _ => .ok [0x61])).toOption = some ⟨[0x61], 4600⟩ := by decide +kernel

/-- the failing input of /repo 840e4f4: `Cache-Control: no-cache` and, on a SECOND header line,
    `Cache-Control: max-age=100`, plus an Expires header — the lifetime is now + 100, not the Expires time -/
example :
    (lookup ⟨200, [], ["no-cache".toList, "max-age=100".toList], "Wed, 21 Oct 2045 07:28:00 GMT".toList, [0x7B, 0x7D]⟩ 1000 (some 2392183680)
      (fun _ => .ok [0x61])).toOption = some ⟨[0x61], 1100⟩ := by decide +kernel

/-- "names an m.server": with encoding/json's syntax as `parse`, a reply is honoured only if its body is an
    OBJECT with a member whose key is EXACTLY `m.server` — the last such member being a non-empty string, the
    name delegated to.  Members whose keys merely fold to `m.server` play no part (`decodeDoc_exact_key`). -/
theorem wellknown_names_mserver (r : Reply) (now : Int) (et : Option Int) (parse : Bytes → Option Json.PVal) (res : Result)
    (h : lookup r now et (decodeBody parse) = .ok res) :
    ∃ kvs raw, parse r.body = some (.obj kvs) ∧ (mServerMembers kvs).getLast? = some (.str raw res.newAddress) ∧
      res.newAddress ≠ [] := by
  obtain ⟨_, _, _, h4, h5, _⟩ := (wellknown_honoured_iff r now et _ res).mp h
  unfold decodeBody at h4
  cases hp : parse r.body with
  | none => rw [hp] at h4; cases h4
  | some p =>
    rw [hp] at h4
    obtain ⟨kvs, raw, rfl, hl⟩ := (decodeDoc_ok_iff h5).mp h4
    exact ⟨kvs, raw, rfl, hl, h5⟩

/-- only the members named exactly `m.server` matter: dropping every other member — `M.SERVER`, `m.ſerver`
    included — changes nothing -/
theorem decodeDoc_exact_key (kvs : List (Bytes × Bytes × Json.PVal)) :
    decodeDoc (.obj kvs) = decodeDoc (.obj (kvs.filter (fun kv => kv.2.1 == mServerKey))) := by
  simp only [decodeDoc, mServerMembers, List.filter_filter, Bool.and_self]

/-- for documents with at most one member named `m.server` (the property's quantifier) the decoder honours
    exactly what the specification's `namesServer` names -/
theorem decodeDoc_names (kvs : List (Bytes × Bytes × Json.PVal)) (hone : (mServerMembers kvs).length ≤ 1) (a : Bytes) :
    (decodeDoc (.obj kvs) = .ok a ∧ a ≠ []) ↔ Spec.namesServer (.obj kvs) = some a := by
  constructor
  · rintro ⟨h, ha⟩
    obtain ⟨kvs', raw, he, hl⟩ := (decodeDoc_ok_iff ha).mp h
    cases he
    -- at most one member: the last is the only one
    have : mServerMembers kvs = [.str raw a] := by
      match hm : mServerMembers kvs, hone, hl with
      | [x], _, hl => simpa using hl
      | _ :: _ :: _, hone, _ => simp at hone
    simp [Spec.namesServer, this, ha]
  · intro h
    simp only [Spec.namesServer] at h
    split at h
    · rename_i raw dec hm
      obtain ⟨hne, he⟩ := Option.ite_none_left_eq_some.mp h
      cases he
      have ha : a ≠ [] := by simpa using hne
      exact ⟨(decodeDoc_ok_iff ha).mpr ⟨kvs, raw, rfl, by rw [hm]; rfl⟩, ha⟩
    · cases h

/-- the failing inputs of /repo 2d8b001: a case variant of the key delegates nothing, and cannot
    override the real one (keys and values as byte lists: `M.SERVER` / `m.server`, `evil` / `good`) -/
example :
    decodeDoc (.obj [([], [0x4D, 0x2E, 0x53, 0x45, 0x52, 0x56, 0x45, 0x52], .str [] [0x65, 0x76, 0x69, 0x6C])]) = .ok [] ∧
    decodeDoc (.obj [([], [0x6D, 0x2E, 0x73, 0x65, 0x72, 0x76, 0x65, 0x72], .str [] [0x67, 0x6F, 0x6F, 0x64]),
                     ([], [0x4D, 0x2E, 0x53, 0x45, 0x52, 0x56, 0x45, 0x52], .str [] [0x65, 0x76, 0x69, 0x6C])]) = .ok [0x67, 0x6F, 0x6F, 0x64] := by
  decide +kernel

end WellKnownSection

section Policy
open Cidr

/-- IPNet.Contains (as net.ParseCIDR builds the network) is prefix membership: same address family —
    IPv4-mapped IPv6 forms counted as IPv4 — and the same leading `ones` bits. -/
theorem contains_iff_prefix (c : CIDR) (ip16 : Nat) (hc : c.WF) (hip : ip16 < 2 ^ 128) :
    contains (ipNetOf c) ip16 = true ↔ Spec.mem (normalise ip16) (Spec.rangeOf c) :=
  contains_iff_mem c ip16 hc hip

/-- isAllowed: in no denied range and in at least one allowed range (over the parsable entries; an
    unparsable entry names no range and hides no later entry). -/
theorem isAllowed_iff_permitted (ip16 : Nat) (allow deny : List (Option CIDR))
    (ha : ∀ c ∈ Spec.parsable allow, c.WF) (hd : ∀ c ∈ Spec.parsable deny, c.WF) (hip : ip16 < 2 ^ 128) :
    isAllowed ip16 allow deny = true ↔ Spec.permitted (normalise ip16) allow deny := by
  have hdeny : (∀ d ∈ Spec.parsable deny, ¬ Spec.mem (normalise ip16) (Spec.rangeOf d)) ↔ ¬ inRange ip16 deny = true := by
    rw [inRange_iff ip16 deny hd hip]; simp
  unfold isAllowed Spec.permitted
  rw [hdeny, ← inRange_iff ip16 allow ha hip]
  cases inRange ip16 deny <;> cases inRange ip16 allow <;> simp

/-- The dialer control function permits a connection iff the network is tcp4 or tcp6, the address is
    an IP literal with a port, and the IP is permitted — for configured lists given as texts
    (parsed by net.ParseCIDR), by whatever name the address was reached. -/
theorem control_permits_iff (allow deny : List Str) (network : Str) (split : Option Str) :
    Cidr.control (allow.map parseCIDR) (deny.map parseCIDR) network split = .ok ↔
      (network = "tcp4".toList ∨ network = "tcp6".toList) ∧
      ∃ host ip16, split = some host ∧ parseIP host = some ip16 ∧
        Spec.permitted (normalise ip16) (allow.map parseCIDR) (deny.map parseCIDR) := by
  have hwf : ∀ (l : List Str), ∀ c ∈ Spec.parsable (l.map parseCIDR), c.WF := by
    intro l c hc
    simp only [Spec.parsable, List.mem_filterMap, List.mem_map, id] at hc
    obtain ⟨oc, ⟨s, _, hs⟩, hoc⟩ := hc
    subst hoc
    exact parseCIDR_wf s c hs
  rw [control_ok_iff]
  refine and_congr_right fun _ => exists_congr fun host => exists_congr fun ip16 => and_congr_right fun _ => ?_
  exact and_congr_right fun hp =>
    isAllowed_iff_permitted ip16 _ _ (hwf allow) (hwf deny) (parseIP_lt host ip16 hp)

example : Cidr.control (["0.0.0.0/0".toList].map parseCIDR) (["10.0.0.0/8".toList, "garbage".toList, "192.168.0.0/16".toList].map parseCIDR)
    "tcp4".toList (some "192.168.1.1".toList) = .denied := by decide +kernel
example : Cidr.control (["0.0.0.0/0".toList].map parseCIDR) (["10.0.0.0/8".toList, "garbage".toList, "192.168.0.0/16".toList].map parseCIDR)
    "tcp4".toList (some "8.8.8.8".toList) = .ok := by decide +kernel
/-- the IPv4-mapped spelling of a denied IPv4 address is denied as well -/
example : Cidr.control (["0.0.0.0/0".toList, "::/0".toList].map parseCIDR) (["10.0.0.0/8".toList].map parseCIDR)
    "tcp6".toList (some "::ffff:10.1.2.3".toList) = .denied := by decide +kernel

/-! #### Where a client with allow / deny lists connects (/repo 469c200, 1aabc90) -/

theorem dialVia_permits (ctl : Str → Bool) (n : Resolve.Policy.Net) (host port ip : Str)
    (h : Resolve.Policy.dialVia ctl n host port = some ip) : ctl ip = true := by
  unfold Resolve.Policy.dialVia at h
  have := List.mem_of_mem_head? h
  have := (List.mem_filter.mp this).2
  simp only [Bool.and_eq_true] at this
  exact this.1

open Resolve.Policy in
/-- every dialer of the client — with or without a DNS cache — lets through exactly what `permittedBy` lets through -/
theorem fedDial_eq (c : Config) (n : Net) (host port : Str) : fedDial c n host port = dialVia (permittedBy c) n host port := by
  unfold fedDial permittedBy
  cases c.cache <;> simp [Bool.and_comm]

open Resolve.Policy in
/-- The well-known fetch dials under the same control: a client with no lists and no cache permits everything. -/
theorem wkDial_eq (c : Config) (n : Net) (host port : Str) : wkDial c n host port = dialVia (permittedBy c) n host port := by
  unfold wkDial
  cases hr : restricted c
  · have hp : permittedBy c = fun _ => true := by
      simp only [restricted, Bool.or_eq_false_iff, Bool.not_eq_false'] at hr
      funext ip
      simp [permittedBy, clientControl, hr.1, hr.2]
    simp [hp]
  · simp [fedDial_eq]

open Resolve.Policy in
theorem wkFetch_permitted (c : Config) (n : Net) (fuel : Nat) (host : Str) :
    ∀ a ∈ (wkFetch c n fuel host).1, permittedBy c a.1 = true := by
  induction fuel generalizing host with
  | zero => intro a ha; simp [wkFetch] at ha
  | succ k ih =>
    intro a ha
    unfold wkFetch at ha
    cases hd : wkDial c n host "443".toList with
    | none => rw [hd] at ha; simp at ha
    | some ip =>
      rw [hd] at ha
      have hip := dialVia_permits _ n host _ ip (wkDial_eq c n host _ ▸ hd)
      cases hdoc : n.wkDoc (host.map Char.toLower) with
      | none => rw [hdoc] at ha; simp at ha; rw [ha]; exact hip
      | server d => rw [hdoc] at ha; simp at ha; rw [ha]; exact hip
      | redirect h2 =>
        rw [hdoc] at ha
        simp only [List.mem_cons] at ha
        rcases ha with rfl | ha
        · exact hip
        · exact ih h2 a ha

open Resolve Resolve.Policy in
theorem tryDial_permitted (c : Config) (n : Net) (ts : List Target) :
    ∀ a ∈ (tryDial c n ts).1, permittedBy c a.1 = true := by
  induction ts with
  | nil => intro a ha; simp [tryDial] at ha
  | cons t rest ih =>
    intro a ha
    unfold tryDial at ha
    cases hd : fedDial c n (splitDest t.dest).1 (splitDest t.dest).2 with
    | some ip =>
      simp only [hd] at ha
      have : a = (ip, (splitDest t.dest).2) := by simpa using ha
      rw [this]
      exact dialVia_permits _ n _ _ ip (fedDial_eq c n _ _ ▸ hd)
    | none =>
      simp only [hd] at ha
      exact ih a ha

open Resolve Resolve.Policy in
/-- C16, last sentence: whatever the server name, the DNS answers, the
    well-known documents and redirects, the listeners — EVERY connection a client makes for a request
    (federation targets, through the DNS cache or not, the well-known fetch and the redirects it follows)
    goes to an address the client's dialer control (its allow / deny lists, when it has any) lets through
    and, when the client has a DNS cache, the cache's lists let through as well. -/
theorem policy_connections_permitted (c : Config) (n : Net) (name : Str) :
    ∀ a ∈ (request c n name).arrivals, permittedBy c a.1 = true := by
  intro a ha
  unfold request at ha
  rcases Bool.eq_false_or_eq_true c.wellKnown with ht | hf
  · simp only [ht, if_true] at ha
    have hwk : ∀ x ∈ (match resolveDirect name with
        | .ok none => (wkFetch c n 11 name).1
        | _ => []), permittedBy c x.1 = true := by
      intro x hx
      split at hx
      · exact wkFetch_permitted c n 11 name x hx
      · cases hx
    split at ha
    · exact hwk a ha
    · rename_i ts hres
      simp only [List.mem_append] at ha
      rcases ha with ha | ha
      · exact hwk a ha
      · exact tryDial_permitted c n ts a ha
  · simp only [hf, Bool.false_eq_true, if_false] at ha
    exact tryDial_permitted c n _ a ha

open Resolve.Policy in
/-- the lists' verdict is the specification's: in no denied range and in at least one allowed range -/
theorem listsPermit_iff_permitted (allow deny : List Str) (ip : Str) (a : Nat) (hp : Cidr.parseIP ip = some a) (hip : a < 2 ^ 128)
    (ha : ∀ c ∈ Spec.parsable (allow.map parseCIDR), c.WF) (hd : ∀ c ∈ Spec.parsable (deny.map parseCIDR), c.WF) :
    listsPermit allow deny ip = true ↔ Spec.permitted (normalise a) (allow.map parseCIDR) (deny.map parseCIDR) := by
  unfold listsPermit
  rw [hp]
  exact isAllowed_iff_permitted a _ _ ha hd hip

open Resolve Resolve.Policy in
/-- the failing inputs of /repo 1aabc90 and 469c200 (deny 127.0.0.0/8; h1 is 127.16.1.1, listened on at
    ports 443 and 5): the well-known fetch makes no connection; a DNS cache with open lists makes none either -/
example :
    let n : Net := { addrs := fun h => if h = "h1.example.com".toList then ["127.16.1.1".toList] else [],
                     listening := fun ip p => ip = "127.16.1.1".toList && (p = "443".toList || p = "5".toList),
                     wkDoc := fun _ => .none }
    let all := ["0.0.0.0/0".toList, "::/0".toList]
    let deny := ["127.0.0.0/8".toList]
    (request ⟨true, false, all, deny, all, deny⟩ n "h1.example.com".toList).arrivals = [] ∧
    (request ⟨false, true, all, deny, all, []⟩ n "h1.example.com:5".toList).arrivals = [] ∧
    -- control: without the deny entry the connections are made
    (request ⟨true, false, all, [], all, []⟩ n "h1.example.com".toList).arrivals = [("127.16.1.1".toList, "443".toList)] ∧
    (request ⟨false, true, all, [], all, []⟩ n "h1.example.com:5".toList).arrivals = [("127.16.1.1".toList, "5".toList)] := by
  decide +kernel

end Policy

end V.C16
