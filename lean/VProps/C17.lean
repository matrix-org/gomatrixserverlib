/-
  C17 — Identifiers, size limits and per-version traits follow the specification.

  Every theorem is about the functions the driver runs against the Go code.  Each model has its specification in a
  `Spec` namespace of its own: `Spec.` below is `Ident.Spec`, `Limits.Spec` or `Vertable.Spec`, by section.
-/
import VProofs.IdentIP6Top
import VProofs.B64
import VProofs.Limits
import VModel.Vertable

namespace V.C17
open V.Ident

/-! ## Identifiers: an accepted identifier reports parts that re-concatenate to the input -/

theorem userID_parts_concat {s lp d : BS} {hist : Bool} (h : parseUserID s hist = some (lp, d)) :
    0x40 :: lp ++ 0x3A :: d = s :=
  (mem_userIDParsesWith (mem_of_parseUserID h)).symm

theorem roomID_parts_concat {s o dom : BS} (h : parseRoomID s = some (o, some dom)) :
    0x21 :: o ++ 0x3A :: dom = s :=
  (mem_roomIDParsesWith (mem_of_parseRoomID h)).2.1.symm

theorem roomID_parts_concat_domainless {s o : BS} (h : parseRoomID s = some (o, none)) :
    0x21 :: o = s ∧ o.length = 43 :=
  have := (mem_roomIDParsesWith (mem_of_parseRoomID h)).2
  ⟨by rw [this.1]; simp, this.2 rfl⟩

theorem splitServerName_spec (s : BS) :
    (splitServerName s = (s, none)) ∨
    (∃ h ds p, splitServerName s = (h, some p) ∧ s = h ++ 0x3A :: ds ∧ parseUint16 ds = some p) := by
  unfold splitServerName
  split
  · left; rfl
  · rename_i pre post hcl
    split
    · left; rfl
    · rename_i p hp
      right
      exact ⟨pre, post, p, rfl, (cutLast_spec hcl).1, hp⟩

theorem serverName_parts_concat {s h : BS} {p : Option Nat} (hs : parseServerName s = some (h, p)) :
    (p = none ∧ h = s) ∨ (∃ ds n, p = some n ∧ s = h ++ 0x3A :: ds ∧ parseUint16 ds = some n) := by
  unfold parseServerName at hs
  split at hs
  · cases hs
  · simp only at hs
    split at hs
    · simp only [Option.some.injEq] at hs
      rcases splitServerName_spec s with h1 | ⟨h', ds, n, h1, h2, h3⟩
      · rw [h1] at hs; cases hs; left; exact ⟨rfl, rfl⟩
      · rw [h1] at hs; cases hs; right; exact ⟨ds, n, rfl, h2, h3⟩
    · cases hs

theorem splitID_parts_concat {sigil : UInt8} {id l d : BS} (h : splitID sigil id = .ok l d) :
    sigil :: l ++ 0x3A :: d = id := by
  unfold splitID at h
  split at h
  · cases h
  · rename_i c rest
    split at h
    · cases h
    · rename_i hsig
      have hc : c = sigil := by simpa using hsig
      split at h
      · cases h
      · rename_i p0 p1 hcut
        obtain ⟨hs, -⟩ := cut_spec hcut
        split at h
        · cases h
        · rename_i x xs
          simp only [SplitIDResult.ok.injEq] at h
          obtain ⟨rfl, rfl⟩ := h
          simp only [List.cons_append, List.cons.injEq] at hs
          rw [hs.2, ← hc, hs.1]; rfl

/-- SplitID cannot panic unless ':' itself is passed as the sigil -/
theorem splitID_no_panic {sigil : UInt8} (hs : sigil ≠ 0x3A) (id : BS) : splitID sigil id ≠ .panic := by
  unfold splitID
  split
  · simp
  · rename_i c rest
    split
    · simp
    · rename_i hsig
      have hc : c = sigil := by simpa using hsig
      split
      · simp
      · rename_i p0 p1 hcut
        split
        · exfalso
          have := (cut_spec hcut).1
          simp only [List.nil_append, List.cons.injEq] at this
          exact hs (hc ▸ this.1)
        · simp

example : parseUserID "@alice:example.org:8448".toUTF8.toList false = some ("alice".toUTF8.toList, "example.org:8448".toUTF8.toList) := by
  decide +kernel
example : parseRoomID "!abc:[::1]:80".toUTF8.toList = some ("abc".toUTF8.toList, some "[::1]:80".toUTF8.toList) := by
  decide +kernel
example : parseServerName "[2001:db8::1]:00443".toUTF8.toList = some ("[2001:db8::1]".toUTF8.toList, some 443) := by
  decide +kernel

/-! ## Identifiers are accepted exactly when they match their grammar

  The three `…_partial` theorems compare everything the library itself does (splitting at the last / first colon, the
  port, brackets, DNS characters, sigils, non-empty parts, length limits, the 43-character domainless form, the
  localpart class) with the grammar, each relative to the test one level down: `parseIP` for server names,
  `parseServerName` for user and room IDs.  `parseIP_accept_iff_literal` closes the bottom.  What remains
  trusted is that `parseIP` models Go's function: tied by the streams `ident.parseip` (16-byte result) and
  `ident.isip` (bounded-exhaustive small alphabets, mutations, random long literals). -/

/-- ParseAndValidateServerName accepts exactly the server-name grammar with `parseIP`, the model of
    `net.ParseIP`, as its recogniser of IP literals. -/
theorem serverName_accept_iff_grammar_partial (s : BS) :
    (parseServerName s).isSome = Spec.isServerNameWith (fun a => (parseIP a).isSome) s := by
  rw [isServerNameWith_eq, parseServerName_isSome, hostValid_eq, any_lastColon]
  unfold splitServerName
  cases hcl : cutLast 0x3A s with
  | none => simp
  | some pp =>
    obtain ⟨pre, post⟩ := pp
    simp only [isPort_eq_isSome]
    cases hpu : parseUint16 post with
    | none => simp
    | some n =>
      -- with a port at the end, the whole text is not itself a host
      have hdig := parseUint16_digits hpu
      have hhost := not_host_of_port_suffix (fun a => (parseIP a).isSome) (pre := pre) hdig.1 hdig.2
      rw [← (cutLast_spec hcl).1] at hhost
      simp [hhost]

theorem userID_accept_iff_grammar_partial (s : BS) (hist : Bool) :
    (parseUserID s hist).isSome =
      !(Spec.userIDParsesWith (fun d => (parseServerName d).isSome) hist s).isEmpty := by
  rw [userIDParses_eq]; cases parseUserID s hist <;> rfl

theorem roomID_accept_iff_grammar_partial (s : BS) :
    (parseRoomID s).isSome = !(Spec.roomIDParsesWith (fun d => (parseServerName d).isSome) s).isEmpty := by
  rw [roomIDParses_eq]; cases parseRoomID s <;> rfl

/-- the dotted-quad parser (also used for the embedded tail of an IPv6 literal) accepts exactly four
    dec-octets ≤ 255 without leading zeros, separated by single dots -/
theorem parseIPv4_accept_iff_dottedQuad (s : BS) : (parseIPv4 s).isSome = Spec.isIPv4 s :=
  parseIPv4_isSome_eq s

example : parseIPv4 "255.0.10.1".toUTF8.toList = some [255, 0, 10, 1] ∧ parseIPv4 "1.2.3.04".toUTF8.toList = none
    ∧ parseIPv4 "1.2.3".toUTF8.toList = none ∧ parseIPv4 "256.1.1.1".toUTF8.toList = none := by decide +kernel

/-- the IPv6 literal parser (netip.parseIPv6 as modelled: groups of 1–4 hex digits, at most one "::" standing
    for at least one group, an optional embedded dotted quad in the place of the last two groups, 8 groups
    in all) accepts exactly the specification's RFC 4291 §2.2 text forms — for ALL byte strings -/
theorem parseIPv6_accept_iff_rfc4291 (s : BS) : (parseIPv6 s).isSome = Spec.isIPv6 s :=
  parseIPv6_isSome_eq s

example : (parseIPv6 "1:2:3:4:5:6:7::".toUTF8.toList).isSome = true ∧ (parseIPv6 "1:2:3:4:5:6:7:8::".toUTF8.toList).isSome = false
    ∧ parseIPv6 "::ffff:1.2.3.4".toUTF8.toList = some [0,0,0,0,0,0,0,0,0,0,0xff,0xff,1,2,3,4]
    ∧ (parseIPv6 "1::2::3".toUTF8.toList).isSome = false ∧ (parseIPv6 "::1.2.3.4:5".toUTF8.toList).isSome = false
    ∧ (parseIPv6 "12345::".toUTF8.toList).isSome = false ∧ (parseIPv6 "1:2:3:4:5:6:1.2.3.4".toUTF8.toList).isSome = true := by
  decide +kernel

/-- net.ParseIP (as modelled) accepts exactly the dotted-quad and RFC 4291 text forms -/
def ParseIPAgrees : Prop := ∀ a : BS, (parseIP a).isSome = Spec.isIPLiteral a

theorem parseIP_accept_iff_literal : ParseIPAgrees := parseIP_isSome_eq

theorem serverName_accept_iff_grammar_of_ParseIPAgrees (hip : ParseIPAgrees) (s : BS) :
    (parseServerName s).isSome = Spec.isServerName s := by
  have : (fun a => (parseIP a).isSome) = Spec.isIPLiteral := funext hip
  rw [serverName_accept_iff_grammar_partial, this]; rfl

/-- ParseAndValidateServerName accepts exactly the server-name grammar (host = DNS name / IPv4 / bracketed
    IP literal, optional port ≤ 65535) -/
theorem serverName_accept_iff_grammar (s : BS) : (parseServerName s).isSome = Spec.isServerName s :=
  serverName_accept_iff_grammar_of_ParseIPAgrees parseIP_accept_iff_literal s

/-- NewUserID (both values of allowHistoricalIDs) accepts exactly the user-ID grammar -/
theorem userID_accept_iff_grammar (s : BS) (hist : Bool) :
    (parseUserID s hist).isSome = Spec.isUserID hist s := by
  have : (fun d => (parseServerName d).isSome) = Spec.isServerName := funext serverName_accept_iff_grammar
  rw [userID_accept_iff_grammar_partial, this]; rfl

/-- NewRoomID accepts exactly the room-ID grammar (with a server name, or the 43-character domainless form) -/
theorem roomID_accept_iff_grammar (s : BS) :
    (parseRoomID s).isSome = Spec.isRoomID s := by
  have : (fun d => (parseServerName d).isSome) = Spec.isServerName := funext serverName_accept_iff_grammar
  rw [roomID_accept_iff_grammar_partial, this]; rfl

/-- the unbracketed IPv4-mapped IPv6 literal that /repo accepted before commit 6383d29 is refused, by the
    parser and by the grammar -/
example : parseServerName "::ffff:1.2.3.4".toUTF8.toList = none ∧ Spec.isServerName "::ffff:1.2.3.4".toUTF8.toList = false := by
  decide +kernel
/-- an empty localpart (accepted with historical IDs before /repo ac9de92) is refused by both -/
example : parseUserID "@:a.b".toUTF8.toList true = none ∧ Spec.isUserID true "@:a.b".toUTF8.toList = false := by
  decide +kernel

/-! ### regenerated facts the identifier model depends on -/

theorem ident_constants_eq_spec :
    VGen.userSigil = 0x40 ∧ VGen.roomSigil = 0x21 ∧ VGen.localDomainSeparator = 0x3A ∧
    VGen.userIDMinLen = 4 ∧ VGen.userIDMaxLen = Spec.maxIDBytes ∧ VGen.roomIDMinLen = 4 ∧ VGen.roomIDMaxLen = Spec.maxIDBytes ∧
    VGen.validUsernameRegex = "^[0-9a-z_\\-=./]+$" ∧ VGen.domainlessRoomIDRegexp = "^[A-Za-z0-9_-]{43}$" := ⟨rfl, rfl, rfl, rfl, rfl, rfl, rfl, rfl, rfl⟩

open V.B64 in
theorem b64_decode_encode_std (bs : B64.BS) : decode (encode bs) = some bs :=
  decode_encode bs

open V.B64 in
theorem b64_decode_encode_url (bs : B64.BS) : decode (encodeWith urlAlphabet bs) = some bs := by
  unfold decode
  cases hany : (encodeWith urlAlphabet bs).any (fun c => c == 0x2D || c == 0x5F) with
  | true => simp only [if_true]; exact decode_encode_with url_good bs
  | false =>
    simp only [Bool.false_eq_true, if_false]
    unfold decodeWith
    rw [decodeLoop_congr (β := urlAlphabet)]
    · exact decode_encode_with url_good bs
    · intro c hc
      obtain ⟨i, rfl⟩ := encodeWith_chars _ _ c hc
      apply url_agrees_std
      rw [List.any_eq_false] at hany
      have := hany _ hc
      unfold Sign.isURLMark
      simpa using this
open V.B64 in
theorem b64_json_roundtrip (bs : B64.BS) : unmarshalJSON (marshalJSON bs) = some bs := by
  unfold unmarshalJSON unmarshalString marshalJSON
  have hplain : (encode bs).all plainJSONChar = true := by
    rw [List.all_eq_true]
    intro c hc
    obtain ⟨i, rfl⟩ := encodeWith_chars _ _ c hc
    exact std_plain i
  have hws : skipWs (0x22 :: encode bs ++ [0x22]) = 0x22 :: (encode bs ++ [0x22]) := by
    simp [skipWs, isWs]
  rw [hws]
  simp only [jsonStringBody_plain _ [] hplain, skipWs, List.isEmpty_nil, if_true]
  exact b64_decode_encode_std bs

open V.B64 in
/-- a value that decodes re-encodes to a text that decodes to the same value (`b64_decode_encode_std`; the hypothesis
    is not used) -/
theorem b64_reencode {s bs : B64.BS} (_h : decode s = some bs) : decode (encode bs) = some bs :=
  b64_decode_encode_std bs

open V.B64 in
example : decode "-_-_".toUTF8.toList = some [0xfb, 0xff, 0xbf] ∧ decode "+/+/".toUTF8.toList = some [0xfb, 0xff, 0xbf]
    ∧ decode "+_".toUTF8.toList = none ∧ decode "QQ\n".toUTF8.toList = some [0x41] ∧ decode "QQ==".toUTF8.toList = none
    ∧ decode "Q".toUTF8.toList = none ∧ decode "QR".toUTF8.toList = some [0x41] := by
  decide +kernel

open V.B64 in
theorem b64_encode_injective {a b : B64.BS} (h : encode a = encode b) : a = b :=
  encodeWith_injective std_good h

open V.B64 in
/-- the two alphabets: 64 distinct characters each, identical except for the last two (+ / versus - _) -/
theorem b64_alphabet_facts :
    stdAlphabet.length = 64 ∧ urlAlphabet.length = 64 ∧ stdAlphabet.Nodup ∧ urlAlphabet.Nodup ∧
    stdAlphabet.take 62 = urlAlphabet.take 62 ∧ stdAlphabet.drop 62 = [0x2B, 0x2F] ∧ urlAlphabet.drop 62 = [0x2D, 0x5F] :=
  ⟨std_nodup.1, url_nodup.1, std_nodup.2, url_nodup.2, by decide +kernel⟩

/-! ## Size limits

  (/repo: CheckFields restructured in 591c527, receipt size check in 38b1ab6, room ID over the byte limit in 4e49c43.)
  ONE gap remains between the code and the property's wording, recorded as a known finding: a room ID that
  exceeds only the 255-byte limit makes the code REFUSE the event, where the property says "too large but
  persistable" (`Exceeds.roomBytesOnly`).  Everything else is proved equal for the parameters `stdParams rc exempt`
  (lenient about the byte limits); `limits_params_eq_spec` shows that every registered version has such parameters. -/

open V.Limits in
/-- the parameters of a registered version: all limits as in the property, lenient -/
def stdParams (rc : RoomCheck) (exempt : Bool) : Params :=
  { maxID := 255, maxEvent := 65536, lenient := true, senderExempt := exempt, roomCheck := rc }

open V.Limits in
def isPrefixOnly : RoomCheck → Bool
  | .prefixOnly => true
  | .checkID => false

open V.Limits in
/-- well-formedness of sender / room ID on the boolean abstraction (`create`: a create event; in the versions with
    domain-less room IDs nothing is demanded of its room_id member); `Spec.wellFormedIDs` on `sizesOf …` unfolds to it,
    which is how the two `…_eq_spec_partial` theorems below hand their `hw` to `limitsX_eq_spec` -/
def wfX (rc : RoomCheck) (exempt create sColon sSigil rColon rSigil rValid roomB : Bool) : Bool :=
  (exempt || (sColon && sSigil)) && ((isPrefixOnly rc && create) || (rSigil && (isPrefixOnly rc || rColon) && (rValid || roomB)))

open V.Limits in
theorem verdictX_room_within {rc : RoomCheck} {exempt create sColon sSigil rColon rSigil rValid : Bool} {x : Exceeds}
    (hwf : wfX rc exempt create sColon sSigil rColon rSigil rValid x.roomB = true) (hcp : x.roomCP = false) (hb : x.roomB = false) :
    some (verdictX true exempt rc create sColon sSigil rColon rSigil rValid x) = specX true x := by
  have hroom : ∀ (rc : RoomCheck) (exempt create sColon sSigil rColon rSigil rValid : Bool),
      wfX rc exempt create sColon sSigil rColon rSigil rValid false = true → roomX rc create rColon rSigil rValid false false = .ok := by
    intro rc; cases rc <;> decide
  rw [hb] at hwf
  rw [← checkFieldsX_eq_specX (Bool.and_eq_true _ _ ▸ hwf).1 hcp hb, verdictX, hcp, hb, hroom _ _ _ _ _ _ _ _ hwf]
  rfl

section
open V.Limits
variable {rc : RoomCheck} {exempt create sColon sSigil rColon rSigil rValid : Bool} {x : Exceeds}

theorem limitsX_eq_spec (hwf : wfX rc exempt create sColon sSigil rColon rSigil rValid x.roomB = true)
    (hrv : rValid = true → x.roomB = false ∧ x.roomCP = false) (hgap : x.roomBytesOnly = false) :
    some (verdictX true exempt rc create sColon sSigil rColon rSigil rValid x).cls = (specX true x).map Outcome.cls := by
  cases hover : x.roomCP || x.roomB
  · obtain ⟨hcp, hb⟩ := Bool.or_eq_false_iff.mp hover
    exact congrArg (Option.map Outcome.cls) (verdictX_room_within hwf hcp hb)
  · rw [verdictX_room_over hover hrv, specX, Exceeds.hard_of_room_over hover hgap]
    rfl

theorem limitsX_gap (hrv : rValid = true → x.roomB = false ∧ x.roomCP = false) (hgap : x.roomBytesOnly = true) :
    (verdictX true exempt rc create sColon sSigil rColon rSigil rValid x).cls = .refused ∧
      specX true x = some .tooLargePersistable := by
  obtain ⟨⟨hcp, hb⟩, hhard⟩ : (x.roomCP = false ∧ x.roomB = true) ∧ x.hard = false := by
    simpa [Exceeds.roomBytesOnly] using hgap
  have hsoft : x.softAny = true := by rw [Exceeds.softAny, hb]; exact Bool.or_true _
  rw [verdictX_room_over (by rw [hcp, hb]; rfl) hrv, specX, hhard, hsoft]
  exact ⟨rfl, rfl⟩
end

open V.Limits in
/-- a room ID that spec.NewRoomID accepts is within both limits -/
theorem roomValid_within (n : Nat) (ty : BS) (sk : Option BS) (se ro : BS)
    (h : (sizesOf n ty sk se ro).roomValid = true) :
    (exceeds 255 65536 (sizesOf n ty sk se ro)).roomB = false ∧ (exceeds 255 65536 (sizesOf n ty sk se ro)).roomCP = false := by
  have hlen : ro.length ≤ 255 := by
    obtain ⟨⟨o, dom⟩, hv⟩ := Option.isSome_iff_exists.mp h
    exact (mem_roomIDParsesWith (mem_of_parseRoomID hv)).1
  have hcp : runeCount ro ≤ ro.length := by unfold runeCount; exact List.length_filter_le _ _
  constructor
  · simp only [exceeds, sizesOf, idSize]; exact decide_eq_false (by omega)
  · simp only [exceeds, sizesOf, idSize]; exact decide_eq_false (by omega)

open V.Limits in
/-- LIMITS on the trusted path and on build (NewEventFromTrustedJSON + CheckFields, the tail of
    EventBuilder.Build), for every kind of registered version (`rc` = which parse function, `exempt` =
    org.matrix.msc4014): for every event with a well-formed sender / room ID the verdict is the one the
    property demands — refused if the JSON exceeds 65 536 bytes or type, state key, sender or room ID
    exceeds 255 code points; too large but persistable if only the 255-byte limit is exceeded; accepted
    otherwise.  `_partial`: except when the ROOM ID is what exceeds the byte limit only (known finding,
    see `limits_roomBytes_gap`). -/
theorem limits_eq_spec_partial (rc : RoomCheck) (exempt : Bool) (n : Nat) (ty : BS) (sk : Option BS) (se ro : BS)
    (hw : Spec.wellFormedIDs (isPrefixOnly rc) exempt (sizesOf n ty sk se ro) = true)
    (hgap : (exceeds 255 65536 (sizesOf n ty sk se ro)).roomBytesOnly = false) :
    some (verdict (stdParams rc exempt) (sizesOf n ty sk se ro)).cls =
      (Spec.verdict (isPrefixOnly rc) exempt (sizesOf n ty sk se ro)).map Outcome.cls := by
  rw [verdict_eq_verdictX, spec_eq_specX, hw]
  exact limitsX_eq_spec hw (roomValid_within n ty sk se ro) hgap

open V.Limits in
/-- LIMITS on receipt (NewEventFromUntrustedJSON): the same, whether or not the content hash matches
    (`checkedLen` = length of the JSON CheckFields sees: the event's own, or its redacted form's, never longer) -/
theorem limits_untrusted_eq_spec_partial (rc : RoomCheck) (exempt : Bool) (n checkedLen : Nat) (ty : BS) (sk : Option BS) (se ro : BS)
    (hle : checkedLen ≤ n)
    (hw : Spec.wellFormedIDs (isPrefixOnly rc) exempt (sizesOf n ty sk se ro) = true)
    (hgap : (exceeds 255 65536 (sizesOf n ty sk se ro)).roomBytesOnly = false) :
    some (verdictUntrusted (stdParams rc exempt) (sizesOf n ty sk se ro) checkedLen).cls =
      (Spec.verdict (isPrefixOnly rc) exempt (sizesOf n ty sk se ro)).map Outcome.cls := by
  have hck : decide (checkedLen > 65536) = true → decide (n > 65536) = true :=
    fun h => decide_eq_true (Nat.lt_of_lt_of_le (of_decide_eq_true h) hle)
  rw [verdictUntrusted_eq_X, verdictUntrustedX_eq_verdictX hck, spec_eq_specX, hw]
  exact limitsX_eq_spec hw (roomValid_within n ty sk se ro) hgap

open V.Limits in
/-- the full-strength statement fails exactly on `roomBytesOnly`: there the code refuses, while the
    property's wording ("persistable when only the 255-byte limit is exceeded") asks for persistable.
    KNOWN FINDING (limits-room-bytes-only-refused). -/
theorem limits_roomBytes_gap (rc : RoomCheck) (exempt : Bool) (n : Nat) (ty : BS) (sk : Option BS) (se ro : BS)
    (hw : Spec.wellFormedIDs (isPrefixOnly rc) exempt (sizesOf n ty sk se ro) = true)
    (hgap : (exceeds 255 65536 (sizesOf n ty sk se ro)).roomBytesOnly = true) :
    (verdict (stdParams rc exempt) (sizesOf n ty sk se ro)).cls = .refused ∧
      Spec.verdict (isPrefixOnly rc) exempt (sizesOf n ty sk se ro) = some .tooLargePersistable := by
  rw [verdict_eq_verdictX, spec_eq_specX, hw]
  exact limitsX_gap (roomValid_within n ty sk se ro) hgap

open V.Limits V.Ident in
/-- the finding's witness: room ID of 126 two-byte characters (256 bytes, 130 code points), everything else small -/
example :
    let room : BS := 0x21 :: (List.replicate 126 [0xC3, 0xA9]).flatten ++ [0x61, 0x3A, 0x62]
    let s := sizesOf 2000 [0x6D] none [0x40, 0x73, 0x3A, 0x62] room
    (exceeds 255 65536 s).roomBytesOnly = true ∧ Spec.wellFormedIDs false false s = true ∧
    verdict (stdParams .checkID false) s = .tooLarge ∧ Spec.verdict false false s = some .tooLargePersistable := by
  decide +kernel

open V.Limits V.Ident in
/-- **Create events of the room versions with domain-less room IDs** (12, org.matrix.hydra.11; /repo 05d0d16): the room of
    such an event is named by its event ID, so nothing is demanded of the form of a `room_id` member it carries anyway —
    but the member is a field of the event: over 255 code points the event is refused, on receipt and on the trusted
    path, as the property says; a short one (here `!junk`, not a room ID) is tolerated.  Before the repair `checkRoomID`
    skipped create events altogether and the first event was accepted. -/
example :
    let create : BS := [0x6D, 0x2E, 0x72, 0x6F, 0x6F, 0x6D, 0x2E, 0x63, 0x72, 0x65, 0x61, 0x74, 0x65]
    let long := sizesOf 2000 create (some []) [0x40, 0x73, 0x3A, 0x62] (0x21 :: List.replicate 300 0x61)
    let junk := sizesOf 2000 create (some []) [0x40, 0x73, 0x3A, 0x62] [0x21, 0x6A, 0x75, 0x6E, 0x6B]
    long.create = true ∧ Spec.wellFormedIDs true false long = true ∧
    verdictUntrusted (stdParams .prefixOnly false) long 2000 = .tooLarge ∧ verdict (stdParams .prefixOnly false) long = .tooLarge ∧
    Spec.verdict true false long = some .tooLarge ∧
    verdictUntrusted (stdParams .prefixOnly false) junk 2000 = .ok ∧ Spec.verdict true false junk = some .ok ∧
    -- the same member on an event that is not a create event: refused as a malformed room ID (outside the sentence)
    verdictUntrusted (stdParams .prefixOnly false) (sizesOf 2000 [0x6D] none [0x40, 0x73, 0x3A, 0x62] [0x21, 0x6A, 0x75, 0x6E, 0x6B]) 2000 = .other := by
  decide +kernel

open V.Limits in
/-- an event within every limit is accepted; one byte more of JSON and it is refused, also on receipt with
    a content hash that does not match (redacted form of 200 bytes); a sender of 256 bytes / 130 code points
    is too large but persistable in org.matrix.msc4014 (`exempt`: only the shape test of the sender is skipped there) -/
example :
    let s (n : Nat) := sizesOf n [0x6D] none [0x40, 0x73, 0x3A, 0x62] [0x21, 0x72, 0x3A, 0x62]
    let sender : Ident.BS := 0x40 :: (List.replicate 126 [0xC3, 0xA9]).flatten ++ [0x61, 0x3A, 0x62]
    verdict (stdParams .checkID false) (s 65536) = .ok ∧ verdict (stdParams .checkID false) (s 65537) = .tooLarge ∧
    verdictUntrusted (stdParams .checkID false) (s 65537) 200 = .tooLarge ∧
    verdict (stdParams .checkID true) (sizesOf 2000 [0x6D] none sender [0x21, 0x72, 0x3A, 0x62]) = .tooLargePersistable := by
  decide +kernel

open V.Limits in
/-- regenerated: the limits are the property's, and every registered version is lenient about the byte
    limits; the parse function decides the room-ID check; only org.matrix.msc4014 is exempt from the shape test of the
    sender (':' present, '@' sigil; its length limits hold in every version) -/
theorem limits_params_eq_spec :
    VGen.maxIDLength = Spec.maxFieldLen ∧ VGen.maxEventLength = Spec.maxEventBytes ∧
    VGen.roomVersions.map (fun r => (r.key, Vertable.limitsParams r.key)) =
      [("1", some (stdParams .checkID false)), ("10", some (stdParams .checkID false)), ("11", some (stdParams .checkID false)),
       ("12", some (stdParams .prefixOnly false)), ("2", some (stdParams .checkID false)), ("3", some (stdParams .checkID false)),
       ("4", some (stdParams .checkID false)), ("5", some (stdParams .checkID false)), ("6", some (stdParams .checkID false)),
       ("7", some (stdParams .checkID false)), ("8", some (stdParams .checkID false)), ("9", some (stdParams .checkID false)),
       ("org.matrix.hydra.11", some (stdParams .prefixOnly false)), ("org.matrix.msc3667", some (stdParams .checkID false)),
       ("org.matrix.msc3787", some (stdParams .checkID false)), ("org.matrix.msc4014", some (stdParams .checkID true))] := by
  decide +kernel

open V.Vertable in
/-- REGENERATED on every run from eventversion.go: every row of `roomVersionMeta`, read semantically, is the
    row the Matrix specification assigns to that version (this is the obligation that breaks when a cell
    of the table is edited) -/
theorem version_table_eq_spec :
    VGen.roomVersions.map (fun r => (r.key, traitsOfRow r)) = Spec.table.map (fun p => (p.1, some p.2)) := by
  decide +kernel

open V.Vertable in
/-- no function-valued column of any row is nil, and each row is registered under its own version string -/
theorem version_table_total :
    (∀ r ∈ VGen.roomVersions, ∀ c ∈ functionColumns r, c ≠ "") ∧ (∀ r ∈ VGen.roomVersions, r.key = r.ver) := by
  decide +kernel

open V.Vertable in
theorem version_table_stable :
    (Spec.table.filter (·.2.stable)).map (·.1) = ["1", "10", "11", "12", "2", "3", "4", "5", "6", "7", "8", "9"] ∧
    (Spec.table.filter (!·.2.stable)).map (·.1) =
      ["org.matrix.hydra.11", "org.matrix.msc3667", "org.matrix.msc3787", "org.matrix.msc4014"] := ⟨rfl, rfl⟩

open V.Vertable in
/-- REGENERATED: the keep lists each redaction function uses are, as sets, the ones the specification gives
    for that generation of the redaction algorithm (top-level keys, and per event type the content keys;
    an empty list = keep everything) -/
theorem redaction_keeplists_eq_spec :
    ([("redactEventJSONV1", 1), ("redactEventJSONV2", 2), ("redactEventJSONV3", 3), ("redactEventJSONV4", 4),
      ("redactEventJSONV5", 5)].all fun p =>
        match keepListsOfName p.1, Spec.keepLists p.2 with
        | some c, some s => c.equiv s
        | _, _ => false) = true := by
  decide +kernel

open V.Vertable in
/-- the format an event built for each version of the specification's table must have, as the line the driver's op
    `built` compares with what `EventBuilder.Build` produces (no model of `Build` occurs here) -/
theorem built_event_format_of_traits :
    (Spec.table.map (fun p => (p.1, builtLine p.2))) =
      [("1", "prev=ref;eid_in_json=1;id=domain"), ("10", "prev=str;eid_in_json=0;id=hash-url"),
       ("11", "prev=str;eid_in_json=0;id=hash-url"), ("12", "prev=str;eid_in_json=0;id=hash-url"),
       ("2", "prev=ref;eid_in_json=1;id=domain"), ("3", "prev=str;eid_in_json=0;id=hash-std"),
       ("4", "prev=str;eid_in_json=0;id=hash-url"), ("5", "prev=str;eid_in_json=0;id=hash-url"),
       ("6", "prev=str;eid_in_json=0;id=hash-url"), ("7", "prev=str;eid_in_json=0;id=hash-url"),
       ("8", "prev=str;eid_in_json=0;id=hash-url"), ("9", "prev=str;eid_in_json=0;id=hash-url"),
       ("org.matrix.hydra.11", "prev=str;eid_in_json=0;id=hash-url"), ("org.matrix.msc3667", "prev=str;eid_in_json=0;id=hash-url"),
       ("org.matrix.msc3787", "prev=str;eid_in_json=0;id=hash-url"), ("org.matrix.msc4014", "prev=str;eid_in_json=0;id=hash-url")] := by
  decide +kernel

end V.C17
