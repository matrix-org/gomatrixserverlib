/-
  C12 — The key ring accepts a signature only from a fetched key valid at that time.

  Model: VModel.KeyRing.  The regenerated obligations say that the source of the mirrored functions is, statement
  for statement, what the model was written against.
-/
import VProofs.KeyRing
import VGen.C12
namespace V.C12
open V.KeyRing List

/-! ## Regenerated obligations (tools/extract/c12.go → VGen.C12) -/

theorem consts_match_model :
    VGen.keyringCapMs = sevenDaysMs ∧ VGen.keyringAlgPrefixBytes = algPrefix ∧ VGen.keyringAlgPrefix = "ed25519:"
    ∧ VGen.keyringPublicKeyNotExpired = 0 ∧ VGen.keyringPublicKeyNotValid = 0 :=
  ⟨rfl, rfl, rfl, rfl, rfl⟩

/-- `WasValidAt`: expired keys by `atTs < ExpiredTS`, the others by the request's rule (mirrored by `wasValidAt`) -/
theorem wasValidAt_source : VGen.keyringSkelWasValidAt = [
  "if r.ExpiredTS != PublicKeyNotExpired {",
  "return atTs < r.ExpiredTS",
  "}",
  "return signatureValidityCheck(atTs, r.ValidUntilTS)"
] := rfl

/-- `StrictValiditySignatureCheck` (mirrored by `strictValidity`): unsigned millisecond counts compared directly,
    the cap being `spec.AsTimestamp(now + 7d)`; no conversion through `time.Time` / int64 -/
theorem strictValidity_source : VGen.keyringSkelStrict = [
  "if validUntil == PublicKeyNotValid {",
  "return false",
  "}",
  "sevenDaysFuture := time.Now().Add(time.Hour * 24 * 7)",
  "validUntilTS := validUntil",
  "if sevenDaysFutureTS := spec.AsTimestamp(sevenDaysFuture); validUntilTS > sevenDaysFutureTS {",
  "validUntilTS = sevenDaysFutureTS",
  "}",
  "if atTs > validUntilTS {",
  "return false",
  "}",
  "return true"
] := rfl

theorem noStrictValidity_source : VGen.keyringSkelNoStrict = [
  "return true"
] := rfl

/-- `Timestamp.Time()` converts through int64 (exact below 2^63 only).  The validity checks above do not use it; its
    one user in the modelled code is `CheckKeys` (`keys.ValidUntilTS.Time().After(now)`), which is why `checkKeys` is
    exact for a `valid_until_ts` below 2^63 only (head of VModel/KeyRing.lean) -/
theorem timestamp_source : VGen.specSkelTimestampTime = [
  "return time.Unix(int64(t)/1000, (int64(t)%1000)*1000000).UTC()"
] := rfl

theorem asTimestamp_source : VGen.specSkelAsTimestamp = [
  "return Timestamp(t.UnixMilli())"
] := rfl

/-- `KeyRing.VerifyJSONs` without its logging statements (mirrored by `verifyJSONs`) -/
theorem verifyJSONs_source : VGen.keyringSkelVerifyJSONs = [
  "results := make([]VerifyJSONResult, len(requests))",
  "keyIDs := make([][]KeyID, len(requests))",
  "numRequests := len(requests)",
  "for i := range requests {",
  "ids, err := ListKeyIDs(string(requests[i].ServerName), requests[i].Message)",
  "if err != nil {",
  "results[i].Error = fmt.Errorf(\"gomatrixserverlib: error extracting key IDs\")",
  "continue",
  "}",
  "for _, keyID := range ids {",
  "if k.isAlgorithmSupported(keyID) {",
  "keyIDs[i] = append(keyIDs[i], keyID)",
  "}",
  "}",
  "if len(keyIDs[i]) == 0 {",
  "results[i].Error = fmt.Errorf(\"gomatrixserverlib: not signed by %q with a supported algorithm\", requests[i].ServerName)",
  "continue",
  "}",
  "results[i].Error = fmt.Errorf(\"gomatrixserverlib: could not download key for %q\", requests[i].ServerName)",
  "}",
  "keyRequests := k.publicKeyRequests(requests, results, keyIDs)",
  "if len(keyRequests) == 0 {",
  "return results, nil",
  "}",
  "keysFromDatabase, err := k.KeyDatabase.FetchKeys(ctx, keyRequests)",
  "if err != nil {",
  "return nil, err",
  "}",
  "keysFetched := map[PublicKeyLookupRequest]PublicKeyLookupResult{}",
  "keysToStore := map[PublicKeyLookupRequest]PublicKeyLookupResult{}",
  "now := spec.AsTimestamp(time.Now())",
  "for req, res := range keysFromDatabase {",
  "if res.ExpiredTS != PublicKeyNotExpired {",
  "keysFetched[req] = res",
  "delete(keyRequests, req)",
  "continue",
  "}",
  "keysFetched[req] = res",
  "if now < res.ValidUntilTS && res.ExpiredTS == PublicKeyNotExpired {",
  "delete(keyRequests, req)",
  "}",
  "}",
  "if len(keysFetched) == numRequests {",
  "k.checkUsingKeys(requests, results, keyIDs, keysFetched)",
  "errored := false",
  "for _, r := range results {",
  "if r.Error != nil {",
  "errored = true",
  "break",
  "}",
  "}",
  "if !errored {",
  "return results, nil",
  "}",
  "}",
  "for _, fetcher := range k.KeyFetchers {",
  "if len(keyRequests) == 0 {",
  "break",
  "}",
  "fetched, err := fetcher.FetchKeys(ctx, keyRequests)",
  "if err != nil {",
  "continue",
  "}",
  "if len(fetched) == 0 {",
  "continue",
  "}",
  "for req, res := range fetched {",
  "if _, requested := keyRequests[req]; !requested {",
  "if _, have := keysFetched[req]; have {",
  "continue",
  "}",
  "}",
  "keysFetched[req] = res",
  "keysToStore[req] = res",
  "delete(keyRequests, req)",
  "}",
  "}",
  "k.checkUsingKeys(requests, results, keyIDs, keysFetched)",
  "if err := k.KeyDatabase.StoreKeys(ctx, keysToStore); err != nil {",
  "return nil, err",
  "}",
  "return results, nil"
] := rfl

/-- `publicKeyRequests` (mirrored by `publicKeyRequests`/`addKeyRequest`) -/
theorem publicKeyRequests_source : VGen.keyringSkelPublicKeyRequests = [
  "keyRequests := map[PublicKeyLookupRequest]spec.Timestamp{}",
  "for i := range requests {",
  "if results[i].Error == nil {",
  "continue",
  "}",
  "for _, keyID := range keyIDs[i] {",
  "k := PublicKeyLookupRequest{requests[i].ServerName, keyID}",
  "maxTS := keyRequests[k]",
  "if maxTS <= requests[i].AtTS {",
  "keyRequests[k] = requests[i].AtTS",
  "}",
  "}",
  "}",
  "return keyRequests"
] := rfl

/-- `checkUsingKeys` (mirrored by `checkUsingKeys`/`checkSigs`) -/
theorem checkUsingKeys_source : VGen.keyringSkelCheckUsingKeys = [
  "for i := range requests {",
  "if results[i].Error == nil {",
  "continue",
  "}",
  "for _, keyID := range keyIDs[i] {",
  "serverKey, ok := keys[PublicKeyLookupRequest{requests[i].ServerName, keyID}]",
  "if !ok {",
  "continue",
  "}",
  "if !serverKey.WasValidAt(requests[i].AtTS, requests[i].ValidityCheckingFunc) {",
  "results[i].Error = fmt.Errorf(\"gomatrixserverlib: key with ID %q for %q not valid at %d\", keyID, requests[i].ServerName, requests[i].AtTS)",
  "continue",
  "}",
  "if err := VerifyJSON(string(requests[i].ServerName), keyID, ed25519.PublicKey(serverKey.Key), requests[i].Message); err != nil {",
  "results[i].Error = err",
  "continue",
  "}",
  "results[i].Error = nil",
  "break",
  "}",
  "}"
] := rfl

theorem isAlgorithmSupported_source : VGen.keyringSkelAlg = [
  "return strings.HasPrefix(string(keyID), \"ed25519:\")"
] := rfl

/-- `VerifyJSON` refuses a public key of the wrong length before calling ed25519.Verify (which would panic):
    `verifyJSON` has no panic outcome.  (The rest of VerifyJSON / ListKeyIDs — JSON decoding, canonical form,
    ed25519 — is abstracted per signature and validated by correspondence.) -/
theorem verifyJSON_length_guard : VGen.signingVerifyJSONLenGuard = true := rfl

/-- `CheckKeys` (mirrored by `checkKeys`) -/
theorem checkKeys_source : VGen.keysSkelCheckKeys = [
  "checks.MatchingServerName = serverName == keys.ServerName",
  "checks.FutureValidUntilTS = keys.ValidUntilTS.Time().After(now)",
  "checks.AllChecksOK = checks.MatchingServerName && checks.FutureValidUntilTS",
  "ed25519Keys = checkVerifyKeys(keys, &checks)",
  "if !checks.AllChecksOK {",
  "ed25519Keys = nil",
  "}",
  "return"
] := rfl

theorem checkVerifyKeys_source : VGen.keysSkelCheckVerifyKeys = [
  "allEd25519ChecksOK := true",
  "checks.Ed25519Checks = map[KeyID]Ed25519Checks{}",
  "verifyKeys := map[KeyID]spec.Base64Bytes{}",
  "for keyID, keyData := range keys.VerifyKeys {",
  "algorithm := strings.SplitN(string(keyID), \":\", 2)[0]",
  "publicKey := keyData.Key",
  "if algorithm == \"ed25519\" {",
  "checks.HasEd25519Key = true",
  "checks.AllEd25519ChecksOK = &allEd25519ChecksOK",
  "entry := Ed25519Checks{ValidEd25519: len(publicKey) == 32}",
  "if entry.ValidEd25519 {",
  "err := VerifyJSON(string(keys.ServerName), keyID, []byte(publicKey), keys.Raw)",
  "entry.MatchingSignature = err == nil",
  "}",
  "checks.Ed25519Checks[keyID] = entry",
  "if entry.MatchingSignature {",
  "verifyKeys[keyID] = publicKey",
  "} else {",
  "allEd25519ChecksOK = false",
  "}",
  "}",
  "}",
  "if checks.AllChecksOK {",
  "checks.AllChecksOK = checks.HasEd25519Key && allEd25519ChecksOK",
  "}",
  "return verifyKeys"
] := rfl

/-- `ServerKeys.PublicKey` (mirrored by `publicKey`) -/
theorem publicKey_source : VGen.keysSkelPublicKey = [
  "if currentKey, ok := keys.VerifyKeys[keyID]; ok && (atTS <= keys.ValidUntilTS) {",
  "return currentKey.Key",
  "}",
  "if oldKey, ok := keys.OldVerifyKeys[keyID]; ok && (atTS < oldKey.ExpiredTS) {",
  "return oldKey.Key",
  "}",
  "return nil"
] := rfl

/-- `mapServerKeysToPublicKeyLookupResult` (mirrored by `mapServerKeys`) -/
theorem mapServerKeys_source : VGen.keyringSkelMapServerKeys = [
  "for keyID, key := range serverKeys.VerifyKeys {",
  "results[PublicKeyLookupRequest{ServerName: serverKeys.ServerName, KeyID: keyID}] = PublicKeyLookupResult{VerifyKey: key, ValidUntilTS: serverKeys.ValidUntilTS, ExpiredTS: PublicKeyNotExpired}",
  "}",
  "for keyID, key := range serverKeys.OldVerifyKeys {",
  "results[PublicKeyLookupRequest{ServerName: serverKeys.ServerName, KeyID: keyID}] = PublicKeyLookupResult{VerifyKey: key.VerifyKey, ValidUntilTS: PublicKeyNotValid, ExpiredTS: key.ExpiredTS}",
  "}"
] := rfl

/-- `DirectKeyFetcher.fetchKeysForServer`: responses are checked against the epoch (mirrored by `directChoice`) -/
theorem fetchKeysForServer_source : VGen.keyringSkelFetchKeysForServer = [
  "ctx, cancel := context.WithTimeout(ctx, time.Second*15)",
  "defer cancel()",
  "keys, err := d.Client.GetServerKeys(ctx, serverName)",
  "if err != nil {",
  "if err != nil {",
  "return nil, err",
  "}",
  "}",
  "checks, _ := CheckKeys(serverName, time.Unix(0, 0), keys)",
  "if !checks.AllChecksOK {",
  "return nil, fmt.Errorf(\"gomatrixserverlib: key response direct from %q failed checks\", serverName)",
  "}",
  "results := map[PublicKeyLookupRequest]PublicKeyLookupResult{}",
  "mapServerKeysToPublicKeyLookupResult(keys, results)",
  "return results, nil"
] := rfl

/-- `DirectKeyFetcher.fetchNotaryKeysForServer` (mirrored by `notaryChoice`): first response naming the server, checked against the epoch -/
theorem fetchNotaryKeysForServer_source : VGen.keyringSkelFetchNotaryKeysForServer = [
  "ctx, cancel := context.WithTimeout(ctx, time.Second*15)",
  "defer cancel()",
  "var keys ServerKeys",
  "allKeys, err := d.Client.LookupServerKeys(ctx, serverName, map[PublicKeyLookupRequest]spec.Timestamp{{serverName, \"\"}: spec.AsTimestamp(time.Now())})",
  "if err != nil {",
  "return nil, err",
  "}",
  "found := false",
  "for _, serverKeys := range allKeys {",
  "if serverKeys.ServerName == serverName {",
  "keys = serverKeys",
  "found = true",
  "break",
  "}",
  "}",
  "if !found {",
  "return nil, fmt.Errorf(\"gomatrixserverlib: notary key response contained no results for %q\", serverName)",
  "}",
  "checks, _ := CheckKeys(serverName, time.Unix(0, 0), keys)",
  "if !checks.AllChecksOK {",
  "return nil, fmt.Errorf(\"gomatrixserverlib: notary key response direct from %q failed checks\", serverName)",
  "}",
  "results := map[PublicKeyLookupRequest]PublicKeyLookupResult{}",
  "mapServerKeysToPublicKeyLookupResult(keys, results)",
  "return results, nil"
] := rfl

/-- `PerspectiveKeyFetcher.FetchKeys` (mirrored by `perspectiveFetch`/`notaryValid`): every response needs a verifying signature under a configured notary key and must pass the checks (against the epoch) -/
theorem perspectiveFetchKeys_source : VGen.keyringSkelPerspectiveFetchKeys = [
  "serverKeys, err := p.Client.LookupServerKeys(ctx, p.PerspectiveServerName, requests)",
  "if err != nil {",
  "return nil, fmt.Errorf(\"gomatrixserverlib: unable to lookup server keys: %w\", err)",
  "}",
  "results := map[PublicKeyLookupRequest]PublicKeyLookupResult{}",
  "for _, keys := range serverKeys {",
  "var valid bool",
  "keyIDs, err := ListKeyIDs(string(p.PerspectiveServerName), keys.Raw)",
  "if err != nil {",
  "return nil, fmt.Errorf(\"gomatrixserverlib: unable to list key IDs: %w\", err)",
  "}",
  "for _, keyID := range keyIDs {",
  "perspectiveKey, ok := p.PerspectiveServerKeys[keyID]",
  "if !ok {",
  "continue",
  "}",
  "if err := VerifyJSON(string(p.PerspectiveServerName), keyID, perspectiveKey, keys.Raw); err != nil {",
  "return nil, fmt.Errorf(\"gomatrixserverlib: unable to verify response: %w\", err)",
  "}",
  "valid = true",
  "break",
  "}",
  "if !valid {",
  "return nil, fmt.Errorf(\"gomatrixserverlib: not signed with a known key for the perspective server\")",
  "}",
  "checks, _ := CheckKeys(keys.ServerName, time.Unix(0, 0), keys)",
  "if !checks.AllChecksOK {",
  "return nil, fmt.Errorf(\"gomatrixserverlib: key response from perspective server failed checks\")",
  "}",
  "mapServerKeysToPublicKeyLookupResult(keys, results)",
  "}",
  "return results, nil"
] := rfl

theorem results_shape {reqs : List Request} {db : FetchScript} {storeOk : Bool} {fetchers : List FetchScript} {now : Nat}
    {rs : List Bool} {tr : Trace} (h : verifyJSONs reqs db storeOk fetchers now = (.ok rs, tr)) :
    rs.length = reqs.length := by
  rcases verifyJSONs_ok h with ⟨_, rfl⟩ | ⟨fromDB, _, ⟨_, rfl⟩ | rfl⟩ <;> exact length_map _

/-- **Results are in request order**: result `i` is about request `i`; it is a success only if the early
    attempt (all keys from the database) or the final attempt found a usable key for one of that request's
    supported signatures. -/
theorem results_index {reqs : List Request} {db : FetchScript} {storeOk : Bool} {fetchers : List FetchScript} {now : Nat}
    {rs : List Bool} {tr : Trace} (h : verifyJSONs reqs db storeOk fetchers now = (.ok rs, tr))
    (i : Nat) (b : Bool) (hi : rs[i]? = some b) :
    ∃ r, reqs[i]? = some r ∧
      (b = true → ∃ fromDB, db = some fromDB ∧
        (okWith (afterDB reqs fromDB now).1 now r = true ∨ okWith (finalState reqs fromDB fetchers now).keysFetched now r = true)) := by
  rcases verifyJSONs_ok h with ⟨_, rfl⟩ | ⟨fromDB, hdb, ⟨_, rfl⟩ | rfl⟩
  all_goals
    rw [getElem?_map, Option.map_eq_some_iff] at hi
    obtain ⟨r, hr, hb⟩ := hi
    refine ⟨r, hr, fun hbt => ?_⟩
    rw [hbt] at hb
  · cases hb
  · exact ⟨fromDB, hdb, Or.inl hb⟩
  · rw [Bool.or_eq_true, Bool.and_eq_true] at hb
    exact ⟨fromDB, hdb, hb.imp And.right id⟩

/-- **Soundness.**  A request is reported successful only if one of its supported (`ed25519:`) signatures
    verifies under a key that the database's answer or some fetcher's answer holds for that (server, key
    ID), the key has the right length, and it was valid at the requested timestamp under the request's rule. -/
theorem success_sound {reqs : List Request} {db : FetchScript} {storeOk : Bool} {fetchers : List FetchScript} {now : Nat}
    {rs : List Bool} {tr : Trace} (h : verifyJSONs reqs db storeOk fetchers now = (.ok rs, tr))
    (i : Nat) (hi : rs[i]? = some true) :
    ∃ r, reqs[i]? = some r ∧ r.listOk = true ∧ ∃ s ∈ r.sigs, isAlgorithmSupported s.keyID = true ∧ ∃ k : KeyRes,
      ((∃ fromDB, db = some fromDB ∧ (⟨r.server, s.keyID⟩, k) ∈ fromDB) ∨ (∃ m, some m ∈ fetchers ∧ (⟨r.server, s.keyID⟩, k) ∈ m)) ∧
      wasValidAt k r.atTS r.strict now = true ∧
      s.reaches = true ∧ k.key.length = publicKeySize ∧ s.verifies k.key = true := by
  obtain ⟨r, hr, hb⟩ := results_index h i true hi
  obtain ⟨fromDB, hdb, hok⟩ := hb rfl
  -- the key map of the successful attempt holds only entries of the database's answer or of a fetcher's
  obtain ⟨keys, hkeys, hsrc⟩ : ∃ keys, okWith keys now r = true ∧
      ∀ x ∈ keys, x ∈ fromDB ∨ ∃ m, some m ∈ fetchers ∧ x ∈ m := by
    rcases hok with hok | hok
    · exact ⟨_, hok, fun x hx => Or.inl (pruneDB_mem_fst hx)⟩
    · refine ⟨_, hok, fun x hx => ?_⟩
      rcases (fetchLoop_prov _ _).fetched x hx with h1 | ⟨idx, m, hm, hxm⟩
      · exact Or.inl (pruneDB_mem_fst h1)
      · exact Or.inr ⟨m, List.mem_of_getElem? (mem_enumFrom hm).1, hxm⟩
  obtain ⟨hlo, s, hs, halg, k, hk, hrest⟩ := okWith_sound hkeys
  refine ⟨r, hr, hlo, s, hs, halg, k, ?_, hrest⟩
  rcases hsrc _ hk with h1 | h1
  · exact Or.inl ⟨fromDB, hdb, h1⟩
  · exact Or.inr h1

/-- **The specification stream's soundness clause follows from `success_sound`** where the answers are Go maps (`hnd`,
    `hnf`: one entry per key).  `Spec.soundAt` — what the driver evaluates on the implementation's observed
    results — then holds of every success the model reports. -/
theorem success_sound_spec {reqs : List Request} {db : FetchScript} {storeOk : Bool} {fetchers : List FetchScript} {now : Nat}
    {rs : List Bool} {tr : Trace} (h : verifyJSONs reqs db storeOk fetchers now = (.ok rs, tr))
    (hnd : ∀ m, db = some m → (m.map Prod.fst).Nodup) (hnf : ∀ m, some m ∈ fetchers → (m.map Prod.fst).Nodup)
    (i : Nat) (hi : rs[i]? = some true) :
    ∃ r, reqs[i]? = some r ∧ Spec.soundAt r (db.getD [] :: fetchers.filterMap id) now = true := by
  obtain ⟨r, hr, hlo, s, hs, halg, k, hsrc, hv, hre, hlen, hver⟩ := success_sound h i hi
  refine ⟨r, hr, ?_⟩
  unfold Spec.soundAt
  rw [List.any_eq_true]
  refine ⟨s, ?_, ?_⟩
  · unfold Spec.edSigs; simp only [hlo, ↓reduceIte, mem_filter]; exact ⟨hs, halg⟩
  · rw [List.any_eq_true]
    have good : Spec.good r s k now = true := by
      rw [good_eq, hv]
      simp only [verifyJSON, hre, hlen, hver, beq_self_eq_true, Bool.and_self]
    rcases hsrc with ⟨fromDB, hdb, hm⟩ | ⟨m, hmf, hm⟩
    · refine ⟨fromDB, by simp [hdb], ?_⟩
      unfold Spec.goodIn
      rw [lookupIn_eq, AList.lookup_of_mem_nodup (hnd fromDB hdb) hm]; exact good
    · refine ⟨m, by simp only [mem_cons, mem_filterMap, id_eq, exists_eq_right]; exact Or.inr hmf, ?_⟩
      unfold Spec.goodIn
      rw [lookupIn_eq, AList.lookup_of_mem_nodup (hnf m hmf) hm]; exact good

/-- **The validity rule is the property's**: before `expired_ts` for an expired key; otherwise, where the
    room version demands strict checking, at or before `valid_until_ts` capped at seven days from now (and
    never for a key without validity); under the lenient rule any unexpired key is accepted. -/
theorem wasValidAt_spec (k : KeyRes) (t : Nat) (strict : Bool) (now : Nat) :
    wasValidAt k t strict now = true ↔
      if k.expiredTS ≠ 0 then t < k.expiredTS
      else (strict = false ∨ (k.validUntilTS ≠ 0 ∧ t ≤ min k.validUntilTS (now + 7 * 24 * 3600 * 1000))) :=
  wasValidAt_iff k t strict now

/-- **No bound on the timestamps.**  Under the strict rule an unexpired key is accepted only for a request
    timestamp at or before BOTH its `valid_until_ts` and seven days from now — for every natural `t`, the values at
    and beyond 2^63 (where a conversion through int64 wraps) included. -/
theorem strict_within_validity (k : KeyRes) (t now : Nat) (hk : k.expiredTS = 0)
    (h : wasValidAt k t true now = true) : k.validUntilTS ≠ 0 ∧ t ≤ k.validUntilTS ∧ t ≤ now + sevenDaysMs := by
  have := (wasValidAt_iff k t true now).1 h
  simp only [hk, ne_eq, not_true_eq_false, ↓reduceIte, Bool.true_eq_false, false_or] at this
  exact ⟨this.1, Nat.le_trans this.2 (Nat.min_le_left _ _), Nat.le_trans this.2 (Nat.min_le_right _ _)⟩

/-- what a key's being valid at `t` means, in the three forms the compositions with C06 and C13 state it -/
theorem wasValidAt_forms {k : KeyRes} {t : Nat} {strict : Bool} {now : Nat} (hv : wasValidAt k t strict now = true) :
    Spec.validAt k t strict now = true ∧ (k.expiredTS ≠ 0 → t < k.expiredTS) ∧
    (k.expiredTS = 0 → strict = true → t ≤ k.validUntilTS ∧ t ≤ now + sevenDaysMs) := by
  refine ⟨(spec_validAt_eq k t strict now).trans hv, fun hne => ?_, fun he hst => ?_⟩
  · have := (wasValidAt_iff k t strict now).1 hv
    rwa [if_pos hne] at this
  · exact (strict_within_validity k t now he (hst ▸ hv)).2

/-- the inputs on which `StrictValiditySignatureCheck` used to answer `true` (it converted through `time.Time`, i.e.
    int64): request timestamps 2^63 and 2^64-1 against a key whose validity ended a year before `now` -/
example : wasValidAt { key := [], expiredTS := 0, validUntilTS := 1758710400000 } 9223372036854775808 true 1790246400000 = false := by decide
example : wasValidAt { key := [], expiredTS := 0, validUntilTS := 1758710400000 } 18446744073709551615 true 1790246400000 = false := by decide
/-- … and, the other way round, a `valid_until_ts` of 2^63 / 2^64-1 is capped at seven days from now like any other -/
example : wasValidAt { key := [], expiredTS := 0, validUntilTS := 9223372036854775808 } 1790246400000 true 1790246400000 = true := by decide
example : wasValidAt { key := [], expiredTS := 0, validUntilTS := 18446744073709551615 } (1790246400000 + sevenDaysMs + 1) true 1790246400000 = false := by decide
/-- `strict_within_validity` is not vacuous -/
example : wasValidAt { key := [], expiredTS := 0, validUntilTS := 9000 } 9000 true 5000 = true := by decide

/-- **Completeness.**  When the call returns results (no database / store error), request `i` succeeds
    whenever, for one of its supported signatures, the key *supplied* for (server, key ID) — the database's
    entry if the database keeps it (expired-marked or inside its validity), else the first fetcher's that
    answers for it, else the database's stale entry — verifies the signature and was valid at the
    requested timestamp.

    Side conditions, and which of them are forced:
    * `hn`: the database's answer has one entry per key — it is a Go map (always true of the code).
    * the result is `.ok` — a failing database or store makes the whole call fail (the property is silent).
    * "the database supplies" means an entry the database *keeps*.  This IS forced: a good database key
      whose `valid_until_ts` is in the past is re-requested, and a fetcher's different answer for it
      replaces it (`stale_db_key_replaced` below, reproduced on the real code by the correspondence
      check: spec outcome `unspecified:excluded:stale-database-key-replaced-by-fetched-key`). -/
theorem success_complete {reqs : List Request} {db : FetchScript} {storeOk : Bool} {fetchers : List FetchScript} {now : Nat}
    {rs : List Bool} {tr : Trace} (h : verifyJSONs reqs db storeOk fetchers now = (.ok rs, tr))
    (fromDB : KeyMap) (hdb : db = some fromDB) (hn : (fromDB.map Prod.fst).Nodup)
    (i : Nat) (r : Request) (hr : reqs[i]? = some r) (hm : Spec.mustSucceed r fromDB fetchers now = true) :
    rs[i]? = some true := by
  have hmem : r ∈ reqs := List.mem_of_getElem? hr
  rcases verifyJSONs_ok h with ⟨hk0, _⟩ | ⟨fromDB', hdb', ⟨hall, hrs⟩ | rfl⟩
  · -- some key of `r` is requested
    obtain ⟨s, hs, _⟩ := List.any_eq_true.1 hm
    have : AList.contains _ (keyRequests0 reqs) = true := publicKeyRequests_contains reqs [] r hmem s hs
    rw [hk0] at this
    cases this
  · -- early return: every result is a success
    obtain ⟨hlt, _⟩ := List.getElem?_eq_some_iff.mp (show rs[i]? = some _ by rw [hrs, getElem?_map, hr]; rfl)
    rw [List.getElem?_eq_getElem hlt]
    exact congrArg some (List.all_eq_true.1 hall _ (List.getElem_mem hlt))
  · cases hdb.symm.trans hdb'
    rw [getElem?_map, hr, Option.map_some, okWith_final_eq_mustSucceed reqs fromDB fetchers now hn r hmem, hm, Bool.or_true]

/-- **Fetchers are consulted only for what is needed and missing.**  Every (key, timestamp) a fetcher is
    asked for is a supported key ID of some request at that request's timestamp, and the database's answer
    either lacks that key or holds it unexpired with `valid_until_ts ≤ now` (past its validity). -/
theorem fetch_minimal {reqs : List Request} {db : FetchScript} {storeOk : Bool} {fetchers : List FetchScript} {now : Nat}
    {out : Except CallErr (List Bool)} {tr : Trace} (h : verifyJSONs reqs db storeOk fetchers now = (out, tr))
    (c : Nat × ReqMap) (hc : c ∈ tr.fetcherCalls) (e : KeyReq × Nat) (he : e ∈ c.2) :
    (∃ r ∈ reqs, ∃ s ∈ supportedSigs r, e = (⟨r.server, s.keyID⟩, r.atTS)) ∧
    ∃ fromDB, db = some fromDB ∧ ∀ k, (e.1, k) ∈ fromDB → k.expiredTS = 0 ∧ k.validUntilTS ≤ now := by
  rcases trace_of h with ⟨h1, _⟩ | ⟨fromDB, hdb, hcalls, _⟩
  · rw [h1] at hc; cases hc
  · rw [hcalls] at hc
    have h3 := ((fetchLoop_prov _ _).asked c hc).resolve_left (nomatch ·) e he
    obtain ⟨h4, h5⟩ := prune_mem_snd now fromDB ([], keyRequests0 reqs) e h3
    refine ⟨(publicKeyRequests_mem _ _ _ h4).resolve_left List.not_mem_nil, fromDB, hdb, fun k hk => ?_⟩
    -- the database does not keep `k`: it is neither marked expired nor inside its validity
    exact ⟨Classical.not_not.mp fun h => h5 k hk (Or.inl h), Nat.le_of_not_lt fun h => h5 k hk (Or.inr h)⟩

/-- **What was fetched is stored.**  Whenever a fetcher was called, `StoreKeys` is called, and the map it is called
    with holds, for every key the fetcher was asked for and answered, the fetcher's answer. -/
theorem stores_fetched {reqs : List Request} {db : FetchScript} {storeOk : Bool} {fetchers : List FetchScript} {now : Nat}
    {out : Except CallErr (List Bool)} {tr : Trace} (h : verifyJSONs reqs db storeOk fetchers now = (out, tr))
    (c : Nat × ReqMap) (hc : c ∈ tr.fetcherCalls) :
    ∃ stored, tr.stored = some stored ∧
      ∀ m, fetchers[c.1]? = some (some m) → ∀ (q : KeyReq) (v : KeyRes), AList.lookup q m = some v →
        AList.contains q c.2 = true → AList.lookup q stored = some v := by
  rcases trace_of h with ⟨h1, _⟩ | ⟨fromDB, _, hcalls, hst⟩
  · rw [h1] at hc; cases hc
  · refine ⟨_, hst, ?_⟩
    rw [hcalls] at hc
    rcases fetchLoop_answered fetchers 0 _ c hc with h1 | ⟨_, h1⟩
    · cases h1
    · exact fun m hm q v hx hcont => congrArg (·.2.2) (h1 m hm q v hx hcont)

/-- **Nothing but what was fetched is stored** ("stores what it fetched" — not what it read).  Every entry `StoreKeys` is called with is
    an entry of the answer of a fetcher that this call consulted.  In particular an entry the call only READ from the
    database is never written back: between the read and the store another call on the same database may have
    replaced it with a newer one (C19: `V.C19.verify_store_only_fetched`, `V.C19.verify_no_lost_update`).

    Until /repo 3755557 the call ended with `StoreKeys(keysFetched)` — everything it held, database entries included —
    and this statement was false of it. -/
theorem stores_only_fetched {reqs : List Request} {db : FetchScript} {storeOk : Bool} {fetchers : List FetchScript} {now : Nat}
    {out : Except CallErr (List Bool)} {tr : Trace} (h : verifyJSONs reqs db storeOk fetchers now = (out, tr))
    (stored : KeyMap) (hs : tr.stored = some stored) (e : KeyReq × KeyRes) (he : e ∈ stored) :
    ∃ c ∈ tr.fetcherCalls, ∃ m, fetchers[c.1]? = some (some m) ∧ e ∈ m :=
  verifyJSONs_stored_mem h stored hs e he

/-- the judgement of the specification stream ("a key that no fetcher supplied … was stored") is `stores_only_fetched` -/
theorem stores_only_fetched_spec {reqs : List Request} {db : FetchScript} {storeOk : Bool} {fetchers : List FetchScript} {now : Nat}
    {out : Except CallErr (List Bool)} {tr : Trace} (h : verifyJSONs reqs db storeOk fetchers now = (out, tr))
    (stored : KeyMap) (hs : tr.stored = some stored) :
    stored.all (fun e => tr.fetcherCalls.any (fun c =>
      match Spec.nth? fetchers c.1 with
      | some (some m) => m.contains e
      | _ => false)) = true := by
  rw [List.all_eq_true]
  intro e he
  obtain ⟨c, hc, m, hm, hem⟩ := stores_only_fetched h stored hs e he
  rw [List.any_eq_true]
  refine ⟨c, hc, ?_⟩
  rw [nth?_eq_getElem?, hm]
  simpa using hem

/-- a failing (or empty-handed) fetcher leaves nothing to store: the database is not written at all -/
theorem stores_nothing_without_answers {reqs : List Request} {db : FetchScript} {storeOk : Bool} {fetchers : List FetchScript} {now : Nat}
    {out : Except CallErr (List Bool)} {tr : Trace} (h : verifyJSONs reqs db storeOk fetchers now = (out, tr))
    (hf : ∀ f ∈ fetchers, f = none ∨ f = some []) : tr.stored = none ∨ tr.stored = some [] :=
  verifyJSONs_stored_silent h hf

/-- **Key responses.**  `CheckKeys` accepts a response (AllChecksOK) iff it names the server asked for, its
    `valid_until_ts` is after the instant given, it has at least one ed25519 key, and every ed25519 key is
    32 bytes long and has signed the response under the server's name. -/
theorem checkKeys_spec (serverName : Bytes) (nowMs : Nat) (keys : ServerKeys) :
    (checkKeys serverName nowMs keys).1.allChecksOK = true ↔
      serverName = keys.serverName ∧ nowMs < keys.validUntilTS ∧
      (∃ e ∈ keys.verifyKeys, algorithmOf e.keyID = ed25519Name) ∧
      ∀ e ∈ keys.verifyKeys, algorithmOf e.keyID = ed25519Name → e.key.length = 32 ∧ e.selfSigned = true := by
  simp only [checkKeys, ed25519Entries, checkEntry, Bool.and_eq_true, beq_iff_eq, decide_eq_true_eq, gt_iff_lt,
    Bool.not_eq_eq_eq_not, Bool.not_true, List.isEmpty_eq_false_iff, ne_eq, map_eq_nil_iff, all_map, all_eq_true, mem_filter,
    Function.comp_apply, and_imp]
  constructor
  · rintro ⟨⟨h1, h2⟩, h3, h4⟩
    refine ⟨h1, h2, ?_, fun e he ha => h4 e he ha⟩
    obtain ⟨e, he⟩ := List.exists_mem_of_ne_nil _ h3
    simp only [mem_filter, beq_iff_eq] at he
    exact ⟨e, he.1, he.2⟩
  · rintro ⟨h1, h2, ⟨e, he, ha⟩, h4⟩
    refine ⟨⟨h1, h2⟩, ?_, fun e he ha => h4 e he ha⟩
    intro hnil
    have : e ∈ filter (fun e => algorithmOf e.keyID == ed25519Name) keys.verifyKeys := by
      simp only [mem_filter, beq_iff_eq]; exact ⟨he, ha⟩
    rw [hnil] at this; cases this

/-- `CheckKeys` returns keys exactly when it accepts the response. -/
theorem checkKeys_keys (serverName : Bytes) (nowMs : Nat) (keys : ServerKeys) :
    (checkKeys serverName nowMs keys).2.isSome = (checkKeys serverName nowMs keys).1.allChecksOK := by
  simp only [checkKeys]
  split
  · rename_i h; rw [h]; rfl
  · rename_i h; rw [(Bool.not_eq_true _).mp h]; rfl

theorem publicKey_eq (keys : ServerKeys) (keyID : Bytes) (t : Nat) :
    publicKey keys keyID t = (Spec.currentKeyAt keys keyID t).or (Spec.oldKeyAt keys keyID t) := by
  unfold publicKey Spec.currentKeyAt Spec.oldKeyAt
  cases keys.verifyKeys.find? (·.keyID == keyID) with
  | none => rfl
  | some cur => 
    simp only
    split
    · rfl
    · rfl

/-- **`ServerKeys.PublicKey` answers with a key valid at the instant**: a key it returns is the response's current
    key of that ID with `t ≤ valid_until_ts`, or its old key of that ID with `t < expired_ts` (BEFORE, not at). -/
theorem publicKey_valid (keys : ServerKeys) (keyID : Bytes) (t : Nat) (k : Bytes) (h : publicKey keys keyID t = some k) :
    (∃ e, keys.verifyKeys.find? (fun e => e.keyID == keyID) = some e ∧ e.key = k ∧ t ≤ keys.validUntilTS) ∨
    (∃ e, keys.oldVerifyKeys.find? (fun e => e.keyID == keyID) = some e ∧ e.key = k ∧ t < e.expiredTS) := by
  rw [publicKey_eq, Option.or_eq_some_iff] at h
  unfold Spec.currentKeyAt Spec.oldKeyAt at h
  rcases h with h | ⟨_, h⟩
  · split at h
    · rename_i e he
      split at h
      · rename_i hle; cases h; exact Or.inl ⟨e, he, rfl, hle⟩
      · cases h
    · cases h
  · split at h
    · rename_i e he
      split at h
      · rename_i hlt; cases h; exact Or.inr ⟨e, he, rfl, hlt⟩
      · cases h
    · cases h

/-- **`ServerKeys.PublicKey` answers whenever there is such a key**: `nil` only if the response has no current key of that ID valid at `t`
    and no old key of that ID valid at `t`; in full, the outcome satisfies the specification `Spec.publicKeyOK`
    (what the property's validity clause says about the entries of a key response). -/
theorem publicKey_spec (keys : ServerKeys) (keyID : Bytes) (t : Nat) :
    Spec.publicKeyOK keys keyID t (publicKey keys keyID t) = true := by
  rw [publicKey_eq]
  unfold Spec.publicKeyOK
  cases Spec.currentKeyAt keys keyID t <;> cases Spec.oldKeyAt keys keyID t <;> simp

/-- where the clause determines the answer (always, unless a current and an old entry of that ID with different
    keys are both valid at `t`), `PublicKey` gives exactly that answer — this is the specification column of the
    `keyring.public_key` correspondence op -/
theorem publicKey_answer (keys : ServerKeys) (keyID : Bytes) (t : Nat) (a : Option Bytes)
    (h : Spec.publicKeyAnswer keys keyID t = some a) : publicKey keys keyID t = a := by
  rw [publicKey_eq]
  unfold Spec.publicKeyAnswer at h
  cases hc : Spec.currentKeyAt keys keyID t with
  | none =>
    rw [hc] at h
    cases ho : Spec.oldKeyAt keys keyID t with
    | none => rw [ho] at h; cases h; rfl
    | some b => rw [ho] at h; cases h; rfl
  | some a' =>
    rw [hc] at h
    cases ho : Spec.oldKeyAt keys keyID t with
    | none => rw [ho] at h; cases h; rfl
    | some b =>
      rw [ho] at h
      simp only at h
      split at h
      · cases h; rfl
      · cases h

def exOldResponse : ServerKeys where
  serverName := [97]
  validUntilTS := 9000
  verifyKeys := [{ keyID := ed25519Name ++ [58, 49], key := List.replicate 32 7, selfSigned := true }]
  oldVerifyKeys := [{ keyID := ed25519Name ++ [58, 48], key := List.replicate 32 5, expiredTS := 1000 }]

/-- the boundary `ServerKeys.PublicKey` used to get wrong (`atTS <= expired_ts`): an old key is returned one
    millisecond before its expired_ts, not at it and not after it; the current key up to and including valid_until_ts -/
example : publicKey exOldResponse (ed25519Name ++ [58, 48]) 999 = some (List.replicate 32 5)
    ∧ publicKey exOldResponse (ed25519Name ++ [58, 48]) 1000 = none
    ∧ publicKey exOldResponse (ed25519Name ++ [58, 48]) 1001 = none
    ∧ publicKey exOldResponse (ed25519Name ++ [58, 49]) 9000 = some (List.replicate 32 7)
    ∧ publicKey exOldResponse (ed25519Name ++ [58, 49]) 9001 = none := by decide +kernel

/-- **What the fetchers accept.**  `DirectKeyFetcher` and `PerspectiveKeyFetcher` call `CheckKeys` with
    `time.Unix(0, 0)`: a response is accepted iff it names the server, has an ed25519 key, all its ed25519
    keys are 32 bytes and self-signed — and its `valid_until_ts` is merely NON-ZERO, not in the future. -/
theorem fetcher_accepts_iff (serverName : Bytes) (keys : ServerKeys) :
    acceptedByFetcher serverName keys = true ↔
      serverName = keys.serverName ∧ 0 < keys.validUntilTS ∧
      (∃ e ∈ keys.verifyKeys, algorithmOf e.keyID = ed25519Name) ∧
      ∀ e ∈ keys.verifyKeys, algorithmOf e.keyID = ed25519Name → e.key.length = 32 ∧ e.selfSigned = true :=
  checkKeys_spec serverName 0 keys

/-- the direct fetcher uses only a response that the server itself (or, failing that, the notary endpoint)
    returned, that names the server asked for and passes the checks -/
theorem direct_accepts (serverName : Bytes) (direct : Option ServerKeys) (notary : Option (List ServerKeys)) (k : ServerKeys)
    (h : directChoice serverName direct notary = some k) :
    acceptedByFetcher serverName k = true ∧ (direct = some k ∨ ∃ l, notary = some l ∧ k ∈ l) := by
  have hn : ∀ k, notaryChoice serverName notary = some k →
      acceptedByFetcher serverName k = true ∧ ∃ l, notary = some l ∧ k ∈ l := by
    intro k hk
    unfold notaryChoice at hk
    cases notary with
    | none => cases hk
    | some l =>
      simp only at hk
      split at hk
      · cases hk
      · rename_i keys hf
        split at hk
        · rename_i hacc; cases hk; exact ⟨hacc, l, rfl, List.mem_of_find?_eq_some hf⟩
        · cases hk
  unfold directChoice at h
  cases direct with
  | none => simp only at h; have := hn k h; exact ⟨this.1, Or.inr this.2⟩
  | some d =>
    simp only at h
    split at h
    · rename_i hacc; cases h; exact ⟨hacc, Or.inl rfl⟩
    · have := hn k h; exact ⟨this.1, Or.inr this.2⟩

theorem notaryValid_true {sigs : List NotarySig} (h : notaryValid sigs = .ok true) : ∃ s ∈ sigs, s.known = true ∧ s.sigOk = true := by
  induction sigs with
  | nil => cases h
  | cons s rest ih =>
    simp only [notaryValid] at h
    split at h
    · obtain ⟨s', hs', h2⟩ := ih h; exact ⟨s', List.mem_cons_of_mem _ hs', h2⟩
    · rename_i hk
      split at h
      · cases h
      · rename_i hs; exact ⟨s, by simp, by simpa using hk, by simpa using hs⟩

theorem perspectiveLoop_cons {r : NotaryResponse} {rest : List NotaryResponse} {acc m : KeyMap}
    (h : perspectiveLoop (r :: rest) acc = some m) :
    r.listOk = true ∧ notaryValid r.notarySigs = .ok true ∧ acceptedByFetcher r.keys.serverName r.keys = true ∧
      perspectiveLoop rest (mapServerKeys r.keys acc) = some m := by
  simp only [perspectiveLoop] at h
  split at h
  · cases h
  · rename_i hl
    split at h
    · cases h
    · cases h
    · rename_i hv
      split at h
      · cases h
      · rename_i ha
        exact ⟨by simpa using hl, hv, by simpa using ha, h⟩

/-- the perspective fetcher returns keys only if EVERY response of the notary carries a signature of the
    notary under a configured key that verifies, and passes the checks for the server it names -/
theorem perspective_accepts (resps : List NotaryResponse) (m : KeyMap) (h : perspectiveFetch (some resps) = some m) :
    ∀ r ∈ resps, r.listOk = true ∧ (∃ s ∈ r.notarySigs, s.known = true ∧ s.sigOk = true) ∧
      acceptedByFetcher r.keys.serverName r.keys = true := by
  unfold perspectiveFetch at h
  simp only at h
  generalize ([] : KeyMap) = acc at h
  induction resps generalizing acc with
  | nil => intro r hr; cases hr
  | cons r rest ih =>
    obtain ⟨hl, hv, ha, hrest⟩ := perspectiveLoop_cons h
    intro r' hr'
    rcases List.mem_cons.1 hr' with rfl | hr'
    · exact ⟨hl, notaryValid_true hv, ha⟩
    · exact ih _ hrest r' hr'

/-! ### Non-vacuity and the forced side condition -/

def exGood : Bytes := List.replicate 32 7
def exBad : Bytes := List.replicate 32 9
def exKid : Bytes := algPrefix ++ [49]
def exSig : SigInfo := { keyID := exKid, reaches := true, verifies := fun k => k == exGood }
def exReqA : Request := { server := [97], atTS := 1000, strict := true, listOk := true, sigs := [exSig] }
def exReqB : Request := { server := [98], atTS := 1000, strict := true, listOk := true, sigs := [exSig] }
def exQA : KeyReq := ⟨[97], exKid⟩
def exFresh : KeyRes := { key := exGood, expiredTS := 0, validUntilTS := 9000 }
def exStale : KeyRes := { key := exGood, expiredTS := 0, validUntilTS := 2000 }
def exWrong : KeyRes := { key := exBad, expiredTS := 0, validUntilTS := 9000 }

/-- the hypotheses of `success_sound` / `success_complete` / `fetch_minimal` / `stores_fetched` are satisfiable:
    the database lacks the key, the first fetcher fails, the second answers; the request succeeds, both
    fetchers were asked for exactly that key, and the answer is stored -/
example :
    verifyJSONs [exReqA] (some []) true [none, some [(exQA, exFresh)]] 5000 =
      (.ok [true], { dbAsked := some [(exQA, 1000)], fetcherCalls := [(0, [(exQA, 1000)]), (1, [(exQA, 1000)])],
                     stored := some [(exQA, exFresh)] }) := by rfl

example : Spec.mustSucceed exReqA [] [none, some [(exQA, exFresh)]] 5000 = true := by decide +kernel

/-- **The side condition of `success_complete` is forced** (`stale_db_key_replaced`): the database holds the
    right key for request A, valid at the requested time (1000 ≤ 2000) but past its validity now (2000 ≤ 5000);
    it is therefore re-requested (together with B's key, which nobody has, so that the all-from-database
    attempt does not apply), the fetcher answers with a different key for A, that answer replaces the
    database's, and A fails — although "the database supplies such a key" read literally. -/
theorem stale_db_key_replaced :
    (verifyJSONs [exReqA, exReqB] (some [(exQA, exStale)]) true [some [(exQA, exWrong)]] 5000).1 = .ok [false, false]
    ∧ Spec.literalDB exReqA [(exQA, exStale)] 5000 = true
    ∧ Spec.mustSucceed exReqA [(exQA, exStale)] [some [(exQA, exWrong)]] 5000 = false := ⟨by rfl, by rfl, by rfl⟩

/-- the old behaviour fixed in /repo (20aee4f): an unrequested answer of a later fetcher no longer replaces
    a key already obtained — fetcher 0 answers A's key, fetcher 1 (asked only for B's) also offers a wrong
    key for A; A succeeds -/
example :
    (verifyJSONs [exReqA, exReqB] (some []) true [some [(exQA, exFresh)], some [(exQA, exWrong)]] 5000).1 = .ok [true, false] := by rfl

/-- the behaviour fixed in /repo (3755557): the database's entry for A is past its validity and the fetcher fails — the
    call uses the stale entry it read, and hands `StoreKeys` NOTHING (it used to write the entry it had read back);
    when the fetcher answers, exactly its answer is stored -/
example :
    (verifyJSONs [{ exReqA with atTS := 3000 }] (some [(exQA, exStale)]) true [none] 5000).2.stored = some [] := by decide +kernel
example :
    (verifyJSONs [{ exReqA with atTS := 3000 }] (some [(exQA, exStale)]) true [some [(exQA, exFresh)]] 5000) =
      (.ok [true], { dbAsked := some [(exQA, 3000)], fetcherCalls := [(0, [(exQA, 3000)])], stored := some [(exQA, exFresh)] }) := by rfl
/-- … and an entry the call only read (B's, inside its validity) stays out of what is stored beside a fetched one -/
example :
    (verifyJSONs [exReqA, exReqB] (some [(⟨[98], exKid⟩, exFresh)]) true [some [(exQA, exFresh)]] 5000).2.stored = some [(exQA, exFresh)] := by rfl

def exPastResponse : ServerKeys where
  serverName := [97]
  validUntilTS := 1
  verifyKeys := [{ keyID := ed25519Name ++ [58, 49], key := exGood, selfSigned := true }]
  oldVerifyKeys := []

/-- **Discrepancy with the property's last clause** ("… with a valid_until_ts in the future"): the fetchers
    accept a properly self-signed response whose `valid_until_ts` is 1 ms after the epoch, i.e. decades in the
    past (reproduced on the real DirectKeyFetcher / PerspectiveKeyFetcher by the correspondence check). -/
theorem past_valid_until_accepted :
    acceptedByFetcher [97] exPastResponse = true ∧ (checkKeys [97] 1700000000000 exPastResponse).1.allChecksOK = false :=
  ⟨by rfl, by rfl⟩

/-- a key of the wrong length is refused by the guard in VerifyJSON (no panic site is reached) -/
example : verifyJSON exSig [1, 2, 3] = false := by rfl

end V.C12
