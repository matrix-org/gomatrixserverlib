/-
  C09 — An auth verdict depends only on the event and the state it needs.

  The reusable checker (`allowerContext`) is a state machine `Ctx` with `update` and `allowed`.
  Main theorem (refinement to the pure function): whatever sequence of providers the context was
  updated with before, `update p` leaves it in exactly the state a fresh context has for `p`;
  `allowed` does not change the context at all (it is a pure function of it).  Hence the verdict of
  every check through a reused context equals the verdict of a fresh `Allowed`.

  Events are compared by pointer identity in Go and structurally (version, event ID and the whole JSON value) in the
  model: `sameEvent a b = true → a = b` (`sameEvent_eq`), so no assumption about event IDs is needed (that
  within the events in play the ID identifies the event is something the trusted constructors do not guarantee).
-/
import VProofs.AuthLookup
import VProofs.AuthNeededProviders
namespace V.C09
open V.Json V.GoJson V.Auth

/-! ### an event that a refresh caches is the provider's, and a refresh from it alone computes the same -/

theorem createInfo_some {e : Option Event} {ce c cr pr} (h : createInfo e = .ok (some ce, c, cr, pr)) : e = some ce := by
  rcases AuthRules.createInfo_ok h with ⟨h', _⟩ | ⟨x, _, he, hx, _⟩
  · cases h'
  · rw [he, hx]

theorem plInfo_some {e : Option Event} {cr pe pl} (h : plInfo e cr = .ok (some pe, pl)) :
    e = some pe ∧ ∀ c', plInfo (some pe) c' = .ok (some pe, pl) := by
  unfold plInfo at h
  cases e with
  | none => simp at h
  | some ev =>
    simp only at h
    cases hp : powerLevelsFromEvent ev with
    | ok pl' =>
      simp only [hp] at h
      cases h
      exact ⟨rfl, fun c' => by simp [plInfo, hp]⟩
    | error v =>
      simp only [hp] at h
      cases v <;> simp at h

theorem jrInfo_some {e : Option Event} {je jr} (h : jrInfo e = (some je, jr)) :
    e = some je ∧ jrInfo (some je) = (some je, jr) := by
  unfold jrInfo at h
  cases e with
  | none => simp at h
  | some ev =>
    simp only at h
    cases hd : decodeJoinRule ev.content with
    | some j =>
      simp only [hd] at h
      cases h
      exact ⟨rfl, by simp [jrInfo, hd]⟩
    | none => simp [hd] at h

theorem plInfo_some_creator (pe : Event) (c1 c2 : Bytes) : plInfo (some pe) c1 = plInfo (some pe) c2 := by
  unfold plInfo; rfl

/-- the invariant holds for every context produced by `update` (so for every reachable context) -/
theorem inv_freshOf (p : Provider) (c : Ctx) (h : freshOf p = .ok c) : Inv c := by
  obtain ⟨_, hci, hpi, hpe, hje, hjr⟩ := AuthRules.freshOf_ok h
  refine ⟨?_, ?_, ?_, ?_⟩
  · intro e he
    rw [he] at hci
    have h' := hci; rw [createInfo_some hci] at h'; exact h'
  · intro e he creator
    rw [he] at hpi
    exact (plInfo_some hpi).2 creator
  · intro e he
    rw [he] at hpi
    rw [hpe, (plInfo_some hpi).1]
    exact plErrOf_none_of_plInfo ((plInfo_some hpi).2 [])
  · intro e he
    rw [hjr]
    exact (jrInfo_some (e := p.joinRules) (je := e) (jr := (jrInfo p.joinRules).2) (by rw [← he, hje])).2

/-- A run of the reused checker: updates and checks interleaved; returns the verdicts of the checks. -/
inductive Step where
  | update (p : Provider)
  | check (e : Event) (sig : Bool)

def run : Ctx → List Step → List (Option Verdict)
  | _, [] => []
  | a, .update p :: rest =>
    match a.update p with
    | .ok a' => run a' rest
    | .error _ => []          -- unmodelled input: the run is cut (outside the model's domain)
  | a, .check e sig :: rest =>
    (match a.allowed e sig with | .ok () => some .ok | .error v => some v) :: run a rest

/-- the same run where every check is answered by a FRESH context for the most recent provider -/
def runFresh : Option Provider → List Step → List (Option Verdict)
  | _, [] => []
  | _, .update p :: rest =>
    match freshOf p with
    | .ok _ => runFresh (some p) rest
    | .error _ => []
  | cur, .check e sig :: rest =>
    (match cur with
     | none => none
     | some p => match freshOf p with
       | .ok c => (match c.allowed e sig with | .ok () => some .ok | .error v => some v)
       | .error _ => none) :: runFresh cur rest

/-- **C09, main theorem.**  The verdict sequence of ANY run of one reused checker — any number of providers
    (same or different create / power-levels / join-rules events, unparseable ones, missing ones, different events
    carrying one event ID), any interleaving of updates and checks — equals the verdicts fresh checks would give.
    Both sides end at the first update that answers `unmodelled` (see `run`). -/
theorem verdicts_history_independent (a : Ctx) (cur : Option Provider) (steps : List Step)
    (hinv : Inv a) (hcur : ∀ p, cur = some p → freshOf p = .ok a)
    (hstart : cur = none → ∀ e sig rest, steps ≠ .check e sig :: rest) :
    run a steps = runFresh cur steps := by
  induction steps generalizing a cur with
  | nil => rfl
  | cons s rest ih =>
    cases s with
    | update p =>
      simp only [run, runFresh]
      rw [update_eq_freshOf a p hinv]
      cases hf : freshOf p with
      | error v => rfl
      | ok a' =>
        simp only
        apply ih a' (some p) (inv_freshOf p a' hf) (fun q hq => by cases hq; exact hf)
        intro h; cases h
    | check e sig =>
      simp only [run, runFresh]
      cases cur with
      | none => exact absurd rfl (hstart rfl e sig rest)
      | some p =>
        simp only [hcur p rfl]
        congr 1
        apply ih a (some p) hinv hcur
        intro h; cases h

/-- Non-vacuity: the empty context satisfies the invariant, and every run starting with an update meets the hypotheses. -/
example (p : Provider) (rest : List Step) :
    run {} (.update p :: rest) = runFresh none (.update p :: rest) :=
  verdicts_history_independent {} none _ inv_empty (fun _ h => by cases h) (fun _ e sig r h => by cases h)

theorem allowedFresh_eq (e : Event) (p : Provider) (sig : Bool) :
    allowedFresh e p sig = if !p.valid then .notAllowed else allowedFreshNoValid e p sig :=
  AuthRules.allowedFresh_eq e p sig

/-- **The reused checker makes the `Valid()` test itself** (32272dd): the check of a context freshly created for `p` —
    which is how the state-resolution model calls the checker — is the standalone `Allowed`.  Before the repair the two
    differed exactly on providers holding events of several rooms.  (Side condition: the auth events are inside the
    modelled domain; on an unmodelled create / power-levels event `update` itself answers `unmodelled`.) -/
theorem allowedFresh_eq_noValid (e : Event) (p : Provider) (sig : Bool)
    (hm : ∀ w, allowedFreshNoValid e p sig ≠ .unmodelled w) :
    allowedFresh e p sig = allowedFreshNoValid e p sig := by
  rw [allowedFresh_eq]
  by_cases hv : (!p.valid) = true
  · rw [if_pos hv]
    rcases AuthRules.allowedFreshNoValid_invalid hv e sig with h | ⟨w, h⟩
    · exact h.symm
    · exact absurd h (hm w)
  · rw [if_neg hv]

/-- A check through a reused checker that was last updated with `p` answers what the standalone `Allowed(e, p)`
    answers — with its `Valid()` gate. -/
theorem check_eq_allowed (p : Provider) (c : Ctx) (h : freshOf p = .ok c) (e : Event) (sig : Bool) :
    (match c.allowed e sig with | .ok () => Verdict.ok | .error v => v) = allowedFresh e p sig := by
  have hv : AuthRules.verdictOf (c.allowed e sig) = (match c.allowed e sig with | .ok () => Verdict.ok | .error v => v) := by
    cases c.allowed e sig with
    | ok u => cases u; rfl
    | error v => rfl
  rw [AuthRules.allowedFresh_freshOf, h, ← hv]
  by_cases hval : (!p.valid) = true
  · rw [if_pos hval, AuthRules.allowed_invalid (by rw [(AuthRules.fresh_of h).provider]; exact hval)]
    rfl
  · rw [if_neg hval]

/-- the same run where every check is answered by the standalone `Allowed` on the most recent provider -/
def runAllowed : Option Provider → List Step → List (Option Verdict)
  | _, [] => []
  | _, .update p :: rest =>
    match freshOf p with
    | .ok _ => runAllowed (some p) rest
    | .error _ => []
  | cur, .check e sig :: rest =>
    (match cur with
     | none => none
     | some p => match freshOf p with
       | .ok _ => some (allowedFresh e p sig)
       | .error _ => none) :: runAllowed cur rest

theorem runFresh_eq_runAllowed (cur : Option Provider) (steps : List Step) : runFresh cur steps = runAllowed cur steps := by
  induction steps generalizing cur with
  | nil => rfl
  | cons s rest ih =>
    cases s with
    | update p =>
      simp only [runFresh, runAllowed]
      cases freshOf p with
      | error v => rfl
      | ok c => exact ih (some p)
    | check e sig =>
      simp only [runFresh, runAllowed]
      congr 1
      · cases cur with
        | none => rfl
        | some p =>
          simp only
          cases hf : freshOf p with
          | error v => rfl
          | ok c =>
            simp only
            have h := check_eq_allowed p c hf e sig
            cases hca : c.allowed e sig with
            | ok u => cases u; rw [hca] at h; rw [← h]
            | error v => rw [hca] at h; rw [← h]
      · exact ih cur

/-- **C09: the verdict is the same whether the event is checked on its own or through a reused checker.**  The verdict
    sequence of any run of one reused checker equals what the standalone `Allowed` (Valid() gate included) answers for the
    provider the checker was last updated with.  (Before 32272dd this held only without the gate: the reused checker
    accepted events against auth events of several rooms.) -/
theorem reused_checker_eq_allowed (a : Ctx) (cur : Option Provider) (steps : List Step)
    (hinv : Inv a) (hcur : ∀ p, cur = some p → freshOf p = .ok a)
    (hstart : cur = none → ∀ e sig rest, steps ≠ .check e sig :: rest) :
    run a steps = runAllowed cur steps := by
  rw [verdicts_history_independent a cur steps hinv hcur hstart, runFresh_eq_runAllowed]

/-! ## The verdict needs only the state StateNeededForAuth names

`stateNeeded e` (VModel/StateRes.lean) is the model of `StateNeededForAuth([]PDU{e})`, `neededPairs` of `Tuples()`,
`selectNeeded p e` of the events `AuthEventReferences` / `AddAuthEvents` select (VModel/AuthNeeded.lean).
`Agree e p q` (written out as the hypothesis `ha` below): the providers answer alike for every needed pair.
`Modelled v`: the verdict is not `unmodelled`. -/

section Needed
open V.StateRes V.AuthNeeded

/-- **The verdict needs only the needed state**, with EQUAL verdict values, for every event that is not a membership event
    with absent / null content (side conditions as in `verdict_needs_only_needed` below) -/
theorem verdict_needs_only_needed_exact (e : Event) (p q : Provider) (sig : Bool) (hc : hasContent e = true)
    (hv : p.valid = q.valid) (ha : ∀ tk ∈ neededPairs (stateNeeded e), p.get tk.1 tk.2 = q.get tk.1 tk.2)
    (hp : Modelled (allowedFresh e p sig)) (hq : Modelled (allowedFresh e q sig)) :
    allowedFresh e p sig = allowedFresh e q sig := by
  rw [AuthRules.allowedFresh_freshOf] at hp hq ⊢
  rw [AuthRules.allowedFresh_freshOf]
  rw [← hv] at hq ⊢
  by_cases hval : (!p.valid) = true
  · simp only [hval, if_true]
  · simp only [hval, if_false, Bool.false_eq_true] at hp hq ⊢
    cases hf1 : C09.freshOf p with
    | error v =>
      obtain ⟨w, rfl⟩ := AuthRules.freshOf_error hf1
      rw [hf1] at hp
      exact absurd rfl (hp w)
    | ok c1 =>
      cases hf2 : C09.freshOf q with
      | error v =>
        obtain ⟨w, rfl⟩ := AuthRules.freshOf_error hf2
        rw [hf2] at hq
        exact absurd rfl (hq w)
      | ok c2 =>
        simp only
        rw [ctx_allowed_congr hf1 hf2 e sig hv ha hc]

/-- **The verdict needs only the needed state.**  For every event `e`, providers `p`, `q` and signature-oracle bit: if
    `p` and `q` have the same Valid() bit and answer alike for every (type, state_key) pair that StateNeededForAuth names
    for `e`, then `Allowed` gives the same verdict (accept / reject) on both.
    Side conditions: the room ID is one the event constructors accept (`e.roomID ≠ []`), and both verdicts are inside the
    modelled domain (the model answers `unmodelled` for IPv6 literals / float levels in the cached create and
    power-levels events, which the check of e.g. a create event never needs).
    The conclusion is equality of `.coarse` and not of the `Verdict` values for ONE reason: for a membership event
    without content StateNeededForAuth names nothing, the check still fails in an order that depends on other state, so
    the error CLASS (NotAllowed vs. another error) can differ; `verdict_needs_only_needed_exact` gives equality of the
    values in every other case. -/
theorem verdict_needs_only_needed (e : Event) (p q : Provider) (sig : Bool) (hr : e.roomID ≠ [])
    (hv : p.valid = q.valid) (ha : ∀ tk ∈ neededPairs (stateNeeded e), p.get tk.1 tk.2 = q.get tk.1 tk.2)
    (hp : Modelled (allowedFresh e p sig)) (hq : Modelled (allowedFresh e q sig)) :
    (allowedFresh e p sig).coarse = (allowedFresh e q sig).coarse := by
  by_cases hcont : hasContent e = true
  · rw [verdict_needs_only_needed_exact e p q sig hcont hv ha hp hq]
  · unfold hasContent at hcont
    by_cases ht : (e.type == b!"m.room.member") = true
    · simp only [ht, if_true] at hcont
      have hc : e.content = none ∨ e.content = some .null := by
        cases hcnt : e.content with
        | none => exact Or.inl rfl
        | some c =>
          cases c with
          | null => exact Or.inr rfl
          | _ => simp [hcnt] at hcont
      rw [no_content_coarse e p sig ht hc hr hp, no_content_coarse e q sig ht hc hr hq]
    · simp [ht] at hcont

/-- **Insertion order is irrelevant.**  Event lists that are permutations of each other, with pairwise distinct
    (type, state_key), give providers that answer every lookup alike, have the same Valid() bit, and hence give EQUAL
    verdicts for every event (no side condition). -/
theorem insertion_order_irrelevant (l1 l2 : List Event) (hp : l1.Perm l2) (hd : DistinctKeys l1) (i1 i2 : Nat) :
    (∀ t k, (Provider.ofEvents l1 i1).get t k = (Provider.ofEvents l2 i2).get t k)
    ∧ (Provider.ofEvents l1 i1).valid = (Provider.ofEvents l2 i2).valid
    ∧ ∀ e sig, allowedFresh e (Provider.ofEvents l1 i1) sig = allowedFresh e (Provider.ofEvents l2 i2) sig := by
  have hg : ∀ t k, (Provider.ofEvents l1 i1).get t k = (Provider.ofEvents l2 i2).get t k := by
    intro t k
    rw [get_ofEvents l1 t k i1, get_ofEvents l2 t k i2]
    exact lastWith_perm hp hd t k
  have hv := valid_sameSet (fun _ => hp.mem_iff) i1 i2
  exact ⟨hg, hv, fun e sig => allowedFresh_gets_congr e _ _ sig hg hv⟩

/-- the key of an event is one of the needed pairs -/
def neededKey (e x : Event) : Bool :=
  (neededPairs (stateNeeded e)).any (fun tk => isKey tk.1 tk.2 x)

/-- **Unrelated state is irrelevant (removed).**  Dropping from a one-room state any events whose (type, state_key) the
    event does not need leaves the verdict unchanged. -/
theorem unrelated_state_irrelevant (e : Event) (l : List Event) (keep : Event → Bool) (sig : Bool) (hr : e.roomID ≠ [])
    (hroom : SameRoom l) (hk : ∀ x, neededKey e x = true → keep x = true)
    (hp : Modelled (allowedFresh e (Provider.ofEvents l) sig))
    (hq : Modelled (allowedFresh e (Provider.ofEvents (l.filter keep)) sig)) :
    (allowedFresh e (Provider.ofEvents l) sig).coarse = (allowedFresh e (Provider.ofEvents (l.filter keep)) sig).coarse := by
  apply verdict_needs_only_needed e _ _ sig hr _ _ hp hq
  · have h1 : (Provider.ofEvents l).valid = true := (valid_ofEvents l).mpr hroom
    have h2 : (Provider.ofEvents (l.filter keep)).valid = true :=
      (valid_ofEvents _).mpr (fun a ha b hb => hroom a (List.mem_filter.mp ha).1 b (List.mem_filter.mp hb).1)
    rw [h1, h2]
  · intro tk htk
    rw [get_ofEvents, get_ofEvents, lastWith_filter]
    intro x hx
    apply hk
    unfold neededKey
    exact List.any_eq_true.mpr ⟨tk, htk, hx⟩

/-- **Unrelated state is irrelevant (added).**  Appending same-room events whose (type, state_key) the event does not
    need leaves the verdict unchanged. -/
theorem unrelated_state_added (e : Event) (l x : List Event) (sig : Bool) (hr : e.roomID ≠ [])
    (hroom : SameRoom (l ++ x)) (hx : ∀ a ∈ x, neededKey e a = false)
    (hp : Modelled (allowedFresh e (Provider.ofEvents l) sig))
    (hq : Modelled (allowedFresh e (Provider.ofEvents (l ++ x)) sig)) :
    (allowedFresh e (Provider.ofEvents l) sig).coarse = (allowedFresh e (Provider.ofEvents (l ++ x)) sig).coarse := by
  apply verdict_needs_only_needed e _ _ sig hr _ _ hp hq
  · have h1 : (Provider.ofEvents (l ++ x)).valid = true := (valid_ofEvents _).mpr hroom
    have h2 : (Provider.ofEvents l).valid = true :=
      (valid_ofEvents _).mpr (fun a ha b hb => hroom a (List.mem_append_left _ ha) b (List.mem_append_left _ hb))
    rw [h1, h2]
  · intro tk htk
    rw [get_ofEvents, get_ofEvents, lastWith_append]
    intro a ha
    have := hx a ha
    unfold neededKey at this
    rw [Bool.eq_false_iff] at this ⊢
    intro hk
    exact this (List.any_eq_true.mpr ⟨tk, htk, hk⟩)

/-- **The auth events `AddAuthEvents` selects are sufficient.**  `selectNeeded p e` is what
    `StateNeededForAuth(e).AuthEventReferences(p)` refers to: the provider's event for every pair of `Tuples()`, pairs
    without an event skipped.  For a valid one-room provider `p`, every server that builds its provider from exactly those
    events reaches the verdict `p` gives. -/
theorem add_auth_events_sufficient (e : Event) (p : Provider) (sig : Bool) (ident : Nat) (hr : e.roomID ≠ [])
    (hv : p.valid = true) (hroom : SameRoom p.events)
    (hp : Modelled (allowedFresh e p sig))
    (hq : Modelled (allowedFresh e (Provider.ofEvents (selectNeeded p e) ident) sig)) :
    (allowedFresh e (Provider.ofEvents (selectNeeded p e) ident) sig).coarse = (allowedFresh e p sig).coarse := by
  apply verdict_needs_only_needed e _ _ sig hr _ _ hq hp
  · rw [hv]
    exact (valid_ofEvents _ ident).mpr (fun a ha b hb => hroom a (select_subset p e a ha) b (select_subset p e b hb))
  · intro tk htk
    exact get_select p e tk.1 tk.2 htk ident

/-- a provider built by `NewAuthEvents` from a one-room list satisfies the hypotheses of `add_auth_events_sufficient` -/
theorem ofEvents_sameRoom (l : List Event) (ident : Nat) (h : SameRoom l) :
    (Provider.ofEvents l ident).valid = true ∧ SameRoom (Provider.ofEvents l ident).events :=
  ⟨(valid_ofEvents l ident).mpr h,
   fun a ha b hb => h a (ofEvents_events_subset l ident a ha) b (ofEvents_events_subset l ident b hb)⟩

/-! ### non-vacuity: a restricted join with an authorising user, unrelated state present -/

/-- a small concrete event of room version 10 (event format 2, room `!r:x`) -/
def mkEv (id type sender : Bytes) (sk : Option Bytes) (content : List (Bytes × JVal)) : Event :=
  { ver := b!"10", eventID := id,
    obj := [(b!"type", .str type), (b!"sender", .str sender), (b!"room_id", .str b!"!r:x"), (b!"content", .obj content),
            (b!"prev_events", .arr [.str b!"$p"])]
           ++ (match sk with | some k => [(b!"state_key", .str k)] | none => []) }

def xCreate : Event := mkEv b!"$c" b!"m.room.create" b!"@c:x" (some []) [(b!"creator", .str b!"@c:x")]
def xJoinRules : Event := mkEv b!"$j" b!"m.room.join_rules" b!"@c:x" (some []) [(b!"join_rule", .str b!"restricted")]
def xPL : Event := mkEv b!"$l" b!"m.room.power_levels" b!"@c:x" (some [])
  [(b!"users", .obj [(b!"@c:x", .num b!"100"), (b!"@auth:x", .num b!"50")]), (b!"invite", .num b!"50")]
def xAuthMember : Event := mkEv b!"$m" b!"m.room.member" b!"@auth:x" (some b!"@auth:x") [(b!"membership", .str b!"join")]
def xName : Event := mkEv b!"$n" b!"m.room.name" b!"@c:x" (some []) [(b!"name", .str b!"n")]
def xZed : Event := mkEv b!"$z" b!"m.room.member" b!"@zed:x" (some b!"@zed:x") [(b!"membership", .str b!"ban")]
/-- the event under test: @a:x joins, authorised by @auth:x -/
def xJoin : Event := mkEv b!"$e" b!"m.room.member" b!"@a:x" (some b!"@a:x")
  [(b!"membership", .str b!"join"), (b!"join_authorised_via_users_server", .str b!"@auth:x")]

def xFull : List Event := [xName, xCreate, xZed, xJoinRules, xPL, xAuthMember]

theorem modelled_ok {v : Verdict} (h : v = .ok) : Modelled v := by
  intro w hw; rw [h] at hw; cases hw

theorem xJoin_accepted : allowedFresh xJoin (Provider.ofEvents xFull) false = .ok := by decide +kernel

/-- the join is accepted against the full state, and what is selected for it are the create, join-rules, power-levels
    events and the authoriser's membership (the sender has no member event; m.room.name and @zed's ban are unrelated) -/
example : allowedFresh xJoin (Provider.ofEvents xFull) false = .ok
    ∧ (selectNeeded (Provider.ofEvents xFull) xJoin).map (·.eventID) = [b!"$c", b!"$j", b!"$l", b!"$m"] :=
  ⟨xJoin_accepted, by decide +kernel⟩

/-- `add_auth_events_sufficient` and `verdict_needs_only_needed` apply to it (hypotheses satisfiable, conclusion non-trivial) -/
example : (allowedFresh xJoin (Provider.ofEvents (selectNeeded (Provider.ofEvents xFull) xJoin)) false).coarse = "ok" := by
  have hs : SameRoom xFull := by
    intro a ha b hb
    have h : ∀ x ∈ xFull, x.roomID = b!"!r:x" := by decide +kernel
    rw [h a ha, h b hb]
  obtain ⟨hv, hroom⟩ := ofEvents_sameRoom xFull 0 hs
  have hok2 : allowedFresh xJoin (Provider.ofEvents (selectNeeded (Provider.ofEvents xFull) xJoin)) false = .ok := by decide +kernel
  rw [add_auth_events_sufficient xJoin (Provider.ofEvents xFull) false 0 (by decide +kernel) hv hroom (modelled_ok xJoin_accepted) (modelled_ok hok2), xJoin_accepted]
  rfl

/-- `insertion_order_irrelevant` and `unrelated_state_irrelevant` on the same state: reversed order, unrelated events dropped -/
example : allowedFresh xJoin (Provider.ofEvents xFull.reverse) false = .ok := by
  have hd : DistinctKeys xFull := by
    unfold DistinctKeys xFull
    decide +kernel
  rw [← (insertion_order_irrelevant xFull xFull.reverse (List.reverse_perm xFull).symm hd 0 0).2.2 xJoin false]
  exact xJoin_accepted

example : (neededKey xJoin xName, neededKey xJoin xZed, neededKey xJoin xAuthMember, neededKey xJoin xCreate)
    = (false, false, true, true) := by decide +kernel

/-- Member names are exact for `StateNeededForAuth` as for the check (the repair "every reader of member content matches
    member names exactly"): of the join whose authorising user is spelled `Join_authorised_via_users_server` the selection
    names no authoriser's membership — and the check, which reads no authorising user either, refuses it against the full
    state and against the selection alike (a folded `StateNeededForAuth` named `@auth:x`, a folded check accepted it). -/
def xJoinVariant : Event := mkEv b!"$e" b!"m.room.member" b!"@a:x" (some b!"@a:x")
  [(b!"membership", .str b!"join"), (b!"Join_authorised_via_users_server", .str b!"@auth:x")]

example : (selectNeeded (Provider.ofEvents xFull) xJoinVariant).map (·.eventID) = [b!"$c", b!"$j", b!"$l"]
    ∧ (allowedFresh xJoinVariant (Provider.ofEvents xFull) false).coarse = "rej"
    ∧ (allowedFresh xJoinVariant (Provider.ofEvents (selectNeeded (Provider.ofEvents xFull) xJoinVariant)) false).coarse = "rej" := by
  decide +kernel

/-- … and a content that says `Membership` only names no join rules: it has no membership. -/
example : (stateNeeded (mkEv b!"$e" b!"m.room.member" b!"@a:x" (some b!"@a:x") [(b!"Membership", .str b!"join")])).joinRules = false
    ∧ (stateNeeded (mkEv b!"$e" b!"m.room.member" b!"@a:x" (some b!"@a:x")
        [(b!"membership", .str b!"leave"), (b!"memberſhip", .str b!"join")])).joinRules = false := by
  decide +kernel

end Needed

end V.C09
