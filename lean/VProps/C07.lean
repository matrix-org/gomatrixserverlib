/-
  C07 — Event authorisation decides exactly what the Matrix auth rules decide.

  `V.AuthRules.rulesAllow d e p sig` (VModel/AuthRules.lean) is the transcription of the authorisation rules with the
  departures `d`; `V.Auth.allowedFresh e p sig` (VModel/Auth.lean) is the model of `Allowed(event, authEvents)`.
-/
import VProofs.AuthRulesEvents
import VProofs.AuthRulesMember
import VProofs.AuthRulesNoPanic
namespace V.C07
open V.Json V.GoJson V.Auth V.AuthRules

/-- the model's verdict as a decision: `none` = panic / outside the modelled domain -/
abbrev decision (v : Verdict) : Option Bool := Verdict.decision v

theorem decision_of_accepts (r : R Unit) (b : Bool) (h : accepts r = some b) : Verdict.decision (verdictOf r) = some b := by
  cases r with
  | ok u => cases u; exact h
  | error v => cases v <;> first | exact h | cases h

theorem inDomain_parts {p : Provider} {e : Event} (h : inDomain p e = true) :
    e.row.isSome = true ∧ e.roomID ≠ [] ∧ (parseUserID? e.sender).isSome = true := by
  unfold inDomain at h
  simp only [Bool.and_eq_true, bne_iff_ne, ne_eq] at h
  exact ⟨h.1.1.1, h.1.1.2, h.1.2⟩

/-! ## Per event class (what `allowed_eq_spec` is assembled from)

Each statement: for a freshly built context `c` of the auth events `p` (`Fresh p c`), an event `e` of the class inside
the modelled domain, the model's check decides exactly the rule's formula.  `lib` = `Departures.library`.  The classes
are stated alike, so some carry hypotheses their proofs do not use (`hf` for create, `hpl` for membership events,
redactions and the other types). -/

/-- rule 1 -/
theorem create_eq_spec (c : Ctx) (p : Provider) (hf : Fresh p c) (e : Event) (sig : Bool) (sv : SpecVersion)
    (hsv : specVersion? e.ver = some sv) (hdom : inDomain p e = true) (ht : (e.type == b!"m.room.create") = true) :
    accepts (c.createEventAllowed e) = some (ruleCreate lib sv e) := by
  obtain ⟨hrowS, _, hsender⟩ := inDomain_parts hdom
  obtain ⟨row, hrow, hri⟩ := rowIs_of_spec hrowS hsv
  unfold inDomain at hdom
  simp only [ht, if_true, Bool.and_eq_true] at hdom
  have hd1 : sv.createRules = 3 ∨ (domainFromID (e.roomID.drop 1)).isSome = true := by
    simpa only [hsv, Option.map_some, Bool.or_eq_true, beq_iff_eq, Option.some.injEq] using hdom.2.1
  exact create_eq c e row sv hrow hri hsender hd1 hdom.2.2

/-- rule 4 (D6: in every version) -/
theorem aliases_eq_spec (c : Ctx) (p : Provider) (hf : Fresh p c) (e : Event) (hdom : inDomain p e = true) :
    accepts (c.aliasEventAllowed e) = some (ruleAliases Departures.library c e) := by
  obtain ⟨_, hroom, hsender⟩ := inDomain_parts hdom
  exact aliases_eq c p hf e hsender hroom

/-- rule 5 -/
theorem member_eq_spec (c : Ctx) (p : Provider) (hf : Fresh p c) (hpl : c.plErr = none) (e : Event) (sig : Bool) (sv : SpecVersion)
    (hsv : specVersion? e.ver = some sv) (hdom : inDomain p e = true) (ht : (e.type == b!"m.room.member") = true) :
    accepts (c.memberEventAllowed e sig) = some (ruleMember lib c p sv e sig) := by
  obtain ⟨hrowS, hroom, hsender⟩ := inDomain_parts hdom
  obtain ⟨row, hrow, hri⟩ := rowIs_of_spec hrowS hsv
  have hd := inDomain_rest hdom (type_ne ht (by decide)) (type_ne ht (by decide))
  simp only [ht, if_true, Bool.and_eq_true, Bool.not_eq_true'] at hd
  exact member_eq c p hf e sig row sv hrow hri hsender hroom hd.1.1.1 hd.1.1.2 hd.1.2 hd.2

/-- the check the model runs after the first-join and third-party special cases -/
def memberCheck (m : MembershipAllower) (i : MemberInputs) : R Unit := if i.selfSent then m.allowedSelf else m.allowedOther

/-- 5.3 join (every join rule, restricted joins with every authoriser state; D9, D16; D12 is in `ruleFirstJoin`) -/
theorem member_join_eq_spec {m : MembershipAllower} {i : MemberInputs} {row : VGen.VersionRow} (h : Rel m i row)
    (hso : i.selfSent = true → i.snd = i.old) (hn : i.new.membership = b!"join") :
    accepts (memberCheck m i) = some (ruleJoin lib i) := by
  rw [memberCheck, byMembership_eq h hso]; simp [ruleByMembership, hn]

/-- 5.4.2–5.4.5 invite (no third-party invite) -/
theorem member_invite_eq_spec {m : MembershipAllower} {i : MemberInputs} {row : VGen.VersionRow} (h : Rel m i row)
    (hso : i.selfSent = true → i.snd = i.old) (hn : i.new.membership = b!"invite") :
    accepts (memberCheck m i) = some (ruleInvite Departures.library i) := by
  rw [memberCheck, byMembership_eq h hso]; simp [ruleByMembership, hn]

/-- 5.5 leave (D1, D10) -/
theorem member_leave_eq_spec {m : MembershipAllower} {i : MemberInputs} {row : VGen.VersionRow} (h : Rel m i row)
    (hso : i.selfSent = true → i.snd = i.old) (hn : i.new.membership = b!"leave") :
    accepts (memberCheck m i) = some (ruleLeave Departures.library i) := by
  rw [memberCheck, byMembership_eq h hso]; simp [ruleByMembership, hn]

/-- 5.6 ban -/
theorem member_ban_eq_spec {m : MembershipAllower} {i : MemberInputs} {row : VGen.VersionRow} (h : Rel m i row)
    (hso : i.selfSent = true → i.snd = i.old) (hn : i.new.membership = b!"ban") :
    accepts (memberCheck m i) = some (ruleBan Departures.library i) := by
  rw [memberCheck, byMembership_eq h hso]; simp [ruleByMembership, hn]

/-- 5.7 knock (D9) -/
theorem member_knock_eq_spec {m : MembershipAllower} {i : MemberInputs} {row : VGen.VersionRow} (h : Rel m i row)
    (hso : i.selfSent = true → i.snd = i.old) (hn : i.new.membership = b!"knock") :
    accepts (memberCheck m i) = some (ruleKnock Departures.library i) := by
  rw [memberCheck, byMembership_eq h hso]; simp [ruleByMembership, hn]

/-- rule 10 (D3, D4, D8, D11, D15; the C08 predicates) -/
theorem power_levels_eq_spec (c : Ctx) (p : Provider) (hf : Fresh p c) (hpl : c.plErr = none) (e : Event) (sig : Bool) (sv : SpecVersion)
    (hsv : specVersion? e.ver = some sv) (hdom : inDomain p e = true) (ht : (e.type == b!"m.room.power_levels") = true) :
    accepts (c.powerLevelsEventAllowed e) = some (rulePowerLevels lib c p sv e) := by
  obtain ⟨hrowS, hroom, hsender⟩ := inDomain_parts hdom
  obtain ⟨row, hrow, hri⟩ := rowIs_of_spec hrowS hsv
  have h3 : (e.type == b!"m.room.member") = false := type_ne ht (by decide)
  have hd := inDomain_rest hdom (type_ne ht (by decide)) (type_ne ht (by decide))
  simp only [ht, h3, if_true, Bool.false_eq_true, if_false, Bool.and_eq_true, Bool.not_eq_true'] at hd
  exact power_levels_eq c p hf hpl e row sv hrow hri hsender hroom hd.1 hd.2

/-- rule 11 (D5, D17) -/
theorem redaction_eq_spec (c : Ctx) (p : Provider) (hf : Fresh p c) (hpl : c.plErr = none) (e : Event) (sig : Bool) (sv : SpecVersion)
    (hsv : specVersion? e.ver = some sv) (hdom : inDomain p e = true) (ht : (e.type == b!"m.room.redaction") = true) :
    accepts (c.redactEventAllowed e) = some (ruleRedaction lib c p e) := by
  obtain ⟨_, hroom, hsender⟩ := inDomain_parts hdom
  exact redaction_eq c p hf e hsender hroom
    (inDomain_other hdom (type_ne ht (by decide)) (type_ne ht (by decide)) (type_ne ht (by decide)))

/-- rules 3, m.federate, 6–9, 12: every other event type -/
theorem default_eq_spec (c : Ctx) (p : Provider) (hf : Fresh p c) (hpl : c.plErr = none) (e : Event) (sig : Bool) (sv : SpecVersion)
    (hsv : specVersion? e.ver = some sv) (hdom : inDomain p e = true)
    (h1 : (e.type == b!"m.room.create") = false) (h2 : (e.type == b!"m.room.aliases") = false)
    (h3 : (e.type == b!"m.room.member") = false) (h4 : (e.type == b!"m.room.power_levels") = false)
    (h5 : (e.type == b!"m.room.redaction") = false) :
    accepts (c.defaultEventAllowed e) = some (ruleCommon lib c p e) := by
  obtain ⟨_, hroom, hsender⟩ := inDomain_parts hdom
  exact default_eq c p hf e hsender hroom (inDomain_other hdom h1 h2 h3)

theorem ctx_dispatchPL_eq_spec (c : Ctx) (p : Provider) (hf : Fresh p c) (hpl : c.plErr = none) (e : Event) (sig : Bool)
    (sv : SpecVersion) (hsv : specVersion? e.ver = some sv) (hdom : inDomain p e = true)
    (h1' : (e.type == b!"m.room.create") = false) (h2' : (e.type == b!"m.room.aliases") = false) :
    accepts (c.dispatchPL e sig) = some (rulesDecisionPL lib c p sv e sig) := by
  unfold Ctx.dispatchPL rulesDecisionPL
  cases h3 : e.type == b!"m.room.member" with
  | true => exact member_eq_spec c p hf hpl e sig sv hsv hdom h3
  | false =>
    cases h4 : e.type == b!"m.room.power_levels" with
    | true => exact power_levels_eq_spec c p hf hpl e sig sv hsv hdom h4
    | false =>
      cases h5 : e.type == b!"m.room.redaction" with
      | true => exact redaction_eq_spec c p hf hpl e sig sv hsv hdom h5
      | false => exact default_eq_spec c p hf hpl e sig sv hsv hdom h1' h2' h3 h4 h5

/-- m.room.create and m.room.aliases are decided without the power levels; for every other event a power-levels auth
    event that cannot be read (`powerLevelsErr` in the code, `plUnusable` in the rules) refuses, and otherwise
    `ctx_dispatchPL_eq_spec` applies. -/
theorem ctx_dispatch_eq_spec (c : Ctx) (p : Provider) (hf : Fresh p c) (e : Event) (sig : Bool) (sv : SpecVersion)
    (hsv : specVersion? e.ver = some sv) (hdom : inDomain p e = true) :
    accepts (c.dispatch e sig) = some (rulesDecision lib c p sv e sig) := by
  unfold Ctx.dispatch rulesDecision
  have hd6 : aliasesRuleApplies lib sv = true := rfl
  cases h1 : e.type == b!"m.room.create" with
  | true => exact create_eq_spec c p hf e sig sv hsv hdom h1
  | false =>
    cases h2 : e.type == b!"m.room.aliases" with
    | true =>
      simp only [if_true, hd6, Bool.and_true, Bool.false_eq_true, if_false]
      exact aliases_eq_spec c p hf e hdom
    | false =>
      simp only [Bool.false_eq_true, if_false, Bool.false_and]
      obtain ⟨hs1, hs2⟩ := plErr_spec hf
      rw [← hs1]
      cases hpe : c.plErr with
      | some v => rcases hs2 v hpe with rfl | rfl <;> rfl
      | none => exact ctx_dispatchPL_eq_spec c p hf hpe e sig sv hsv hdom h1 h2

/-- `allowerContext.allowed`: behind the `Valid()` gate (which the rules have as "auth events from different rooms are
    refused") the dispatch decides what the rules decide. -/
theorem ctx_allowed_eq_spec (c : Ctx) (p : Provider) (hf : Fresh p c) (hv : p.valid = true) (e : Event) (sig : Bool)
    (sv : SpecVersion) (hsv : specVersion? e.ver = some sv) (hdom : inDomain p e = true) :
    accepts (c.allowed e sig) = some (rulesDecision lib c p sv e sig) := by
  unfold Ctx.allowed
  rw [hf.provider, hv]
  exact ctx_dispatch_eq_spec c p hf e sig sv hsv hdom

/-- **C07.**  For every event, room version, set of auth events and signature oracle: whenever the authorisation rules
    — the transcription `rulesAllow` with exactly the documented departures of DESIGN.md §6.1 (`Departures.library`,
    D1–D17) — give an answer, the model of `Allowed` gives the same answer; it neither panics nor leaves the modelled
    domain.  (`rulesAllow … = none`: an unregistered room version, an unmodelled identifier or level in the auth events,
    or an event outside `inDomain`.) -/
theorem allowed_eq_spec (e : Event) (p : Provider) (sig : Bool) (b : Bool)
    (h : rulesAllow Departures.library e p sig = some b) : decision (allowedFresh e p sig) = some b := by
  unfold rulesAllow at h
  unfold decision
  rw [allowedFresh_freshOf]
  rw [update_empty] at h
  by_cases hv : (!p.valid) = true
  · rw [if_pos hv] at h ⊢
    cases h; rfl
  · rw [if_neg hv] at h ⊢
    cases hfo : C09.freshOf p with
    | error v => rw [hfo] at h; cases h
    | ok c =>
      cases hsv : specVersion? e.ver with
      | none => rw [hfo, hsv] at h; cases h
      | some sv =>
        simp only [hfo, hsv] at h ⊢
        split at h
        · cases h
          exact decision_of_accepts _ _ (ctx_allowed_eq_spec c p (fresh_of hfo) (by simpa using hv) e sig sv hsv ‹_›)
        · cases h

/-- **Auth events from different rooms are refused.** -/
theorem different_rooms_refused (e : Event) (p : Provider) (sig : Bool) (h : ¬ p.valid = true) :
    allowedFresh e p sig = .notAllowed := by
  unfold allowedFresh
  simp [h]

/-- … and the REUSED checker refuses them too (32272dd; before, only the entry point `Allowed` asked): whatever
    context state resolution has built up, a check against a provider holding events of several rooms is refused. -/
theorem reused_checker_refuses_different_rooms (c : Ctx) (e : Event) (sig : Bool) (h : ¬ c.provider.valid = true) :
    c.allowed e sig = notAllowed :=
  allowed_invalid (by simpa using h) e sig

/-- **No input makes the model of `Allowed` panic** (given a room ID the event constructors accept): the room-ID
    comparison with the create content and the regenerated version table dominate every nil-create dereference,
    `RoomID.Domain()` and nil-function site of the model. -/
theorem no_panic_allowed (e : Event) (p : Provider) (sig : Bool) (hr : e.roomID ≠ []) (hw : RoomIDWellFormed e) :
    ∀ site, allowedFresh e p sig ≠ .panic site :=
  fun site => allowedFresh_np hr hw p sig site

/-- **Regenerated-table obligation.**  The library's table (VGen.roomVersions, regenerated from eventversion.go on every
    run) registers exactly the versions of the specification's table, and its switches `checkKnockingAllowedFunc`,
    `checkRestrictedJoinAllowedFunc`, `checkCreateEvent`, `parsePowerLevelsFunc`, `checkPowerLevelEvent`,
    `privilegedCreators` are the ones the room-version pages call for: knocking from v7, restricted joins from v8,
    create rules v1–10 / v11 / v12, integer levels from v10, notification levels from v6, creators in v12; unstable
    versions as the comments in eventversion.go define them. -/
theorem version_switches_eq_spec :
    VGen.roomVersions.map (·.key) = specTable.map (·.1) ∧
    VGen.roomVersions.map rowColumns = specTable.map (fun r => expectedColumns r.2) :=
  ⟨table_keys, table_columns⟩

theorem spec_table_stable :
    (specTable.filter (fun r => r.2.knock)).map (·.1) = ["10", "11", "12", "7", "8", "9", "org.matrix.hydra.11", "org.matrix.msc3667", "org.matrix.msc3787", "org.matrix.msc4014"] ∧
    (specTable.filter (fun r => r.2.restricted)).map (·.1) = ["10", "11", "12", "8", "9", "org.matrix.hydra.11", "org.matrix.msc3787", "org.matrix.msc4014"] ∧
    (specTable.filter (fun r => r.2.integerLevels)).map (·.1) = ["10", "11", "12", "org.matrix.hydra.11", "org.matrix.msc3667", "org.matrix.msc4014"] ∧
    (specTable.filter (fun r => r.2.createRules == 2)).map (·.1) = ["11"] ∧
    (specTable.filter (fun r => r.2.createRules == 3)).map (·.1) = ["12", "org.matrix.hydra.11"] ∧
    (specTable.filter (fun r => r.2.creators)).map (·.1) = ["12", "org.matrix.hydra.11"] ∧
    (specTable.filter (fun r => r.2.aliases)).map (·.1) = ["1", "2", "3", "4", "5"] ∧
    (specTable.filter (fun r => !r.2.notifications)).map (·.1) = ["1", "2", "3", "4", "5"] := ⟨rfl, rfl, rfl, rfl, rfl, rfl, rfl, rfl⟩

/-! ## Every departure is real: concrete witnesses -/

/-- a small concrete event (event format 2, room `!r:x`) -/
def mkEv (ver id type sender : Bytes) (sk : Option Bytes) (content : List (Bytes × JVal))
    (prev : List Bytes := [b!"$p"]) (extra : List (Bytes × JVal) := []) : Event :=
  { ver := ver, eventID := id,
    obj := [(b!"type", .str type), (b!"sender", .str sender), (b!"room_id", .str b!"!r:x"), (b!"content", .obj content),
            (b!"prev_events", .arr (prev.map .str))]
           ++ (match sk with | some k => [(b!"state_key", .str k)] | none => []) ++ extra }

def wCreate (ver : Bytes := b!"10") (content : List (Bytes × JVal) := [(b!"creator", .str b!"@c:x")]) : Event :=
  mkEv ver b!"$c" b!"m.room.create" b!"@c:x" (some []) content []
def wMember (u m : Bytes) (ver : Bytes := b!"10") : Event :=
  mkEv ver (b!"$m" ++ u) b!"m.room.member" u (some u) [(b!"membership", .str m)]
def wJoinRule (jr : Bytes) (ver : Bytes := b!"10") : Event :=
  mkEv ver b!"$j" b!"m.room.join_rules" b!"@c:x" (some []) [(b!"join_rule", .str jr)]
def wPL (content : List (Bytes × JVal)) (sender : Bytes := b!"@c:x") (id : Bytes := b!"$pl") (ver : Bytes := b!"10") : Event :=
  mkEv ver id b!"m.room.power_levels" sender (some []) content
def wMemberEv (sender target m : Bytes) (ver : Bytes := b!"10") (more : List (Bytes × JVal) := []) (prev : List Bytes := [b!"$p"]) : Event :=
  mkEv ver b!"$e" b!"m.room.member" sender (some target) ((b!"membership", .str m) :: more) prev
def users (l : List (Bytes × Bytes)) : Bytes × JVal := (b!"users", .obj (l.map (fun kv => (kv.1, .num kv.2))))

def off1 : Departures := { Departures.library with d1_selfLeaveLeave := false }
def off2 : Departures := { Departures.library with d2_creatorMaxLevel := false }
def off3 : Departures := { Departures.library with d3_effectiveValues := false }
def off4 : Departures := { Departures.library with d4_eventEntryDefault := false }
def off5 : Departures := { Departures.library with d5_redactionByCreateContent := false }
def off6 : Departures := { Departures.library with d6_aliasesAllVersions := false }
def off7 : Departures := { Departures.library with d7_thirdPartySynapse := false }
def off8 : Departures := { Departures.library with d8_looseUserKeys := false }
def off9 : Departures := { Departures.library with d9_knockRestrictedEarly := false }
def off10 : Departures := { Departures.library with d10_unbanBanLevelOnly := false }
def off11 : Departures := { Departures.library with d11_notificationsGE := false }
def off12 : Departures := { Departures.library with d12_firstJoinBySelf := false }
def off13 : Departures := { Departures.library with d13_creatorString := false }
def off14 : Departures := { Departures.library with d14_pseudoIDs := false }
def off15 : Departures := { Departures.library with d15_pythonInt := false }
def off16 : Departures := { Departures.library with d16_invitedJoinsAnyRule := false }
def off17 : Departures := { Departures.library with d17_redactsNeedsDomain := false }

/-- (event, auth events, signature oracle) -/
abbrev Witness := Event × List Event × Bool
def Witness.rules (w : Witness) (d : Departures) : Option Bool := rulesAllow d w.1 (Provider.ofEvents w.2.1) w.2.2
def Witness.model (w : Witness) : Option Bool := decision (allowedFresh w.1 (Provider.ofEvents w.2.1) w.2.2)

/-- D1: a user who has left sends `leave` for themselves -/
def wD1 : Witness := (wMemberEv b!"@a:x" b!"@a:x" b!"leave", [wCreate, wMember b!"@a:x" b!"leave"], false)
/-- D2: no power-levels event; the creator gives themselves level 150 -/
def wD2 : Witness := (wPL [users [(b!"@c:x", b!"150")]], [wCreate, wMember b!"@c:x" b!"join"], false)
/-- D3: no power-levels event; the creator sets `ban` to 2^53 -/
def wD3 : Witness := (wPL [(b!"ban", .num b!"9007199254740992")], [wCreate, wMember b!"@c:x" b!"join"], false)
/-- D4: events_default is 75; a level-50 user adds an `events` entry at 10 -/
def wD4 : Witness :=
  (wPL [users [(b!"@a:x", b!"50"), (b!"@c:x", b!"100")], (b!"events_default", .num b!"75"), (b!"events", .obj [(b!"x", .num b!"10")])] b!"@a:x" b!"$e",
   [wCreate, wMember b!"@a:x" b!"join", wPL [users [(b!"@a:x", b!"50"), (b!"@c:x", b!"100")], (b!"events_default", .num b!"75")]], false)
/-- D5: a v10 room whose create content has no room_version: redaction of another server's event by a level-0 member -/
def wD5 : Witness :=
  (mkEv b!"10" b!"$e" b!"m.room.redaction" b!"@a:x" none [] [b!"$p"] [(b!"redacts", .str b!"$x:y")],
   [wCreate, wMember b!"@a:x" b!"join"], false)
/-- D6: a v10 m.room.aliases event from a user who is not in the room -/
def wD6 : Witness := (mkEv b!"10" b!"$e" b!"m.room.aliases" b!"@a:x" (some b!"x") [], [wCreate], false)
/-- D7: a third-party invite (valid signature) whose target is banned -/
def wD7 : Witness :=
  (wMemberEv b!"@c:x" b!"@t:x" b!"invite" b!"10"
     [(b!"third_party_invite", .obj [(b!"signed", .obj [(b!"mxid", .str b!"@t:x"), (b!"token", .str b!"tok"),
        (b!"signatures", .obj [(b!"id", .obj [(b!"ed25519:0", .str b!"sig")])])])])],
   [wCreate, wMember b!"@c:x" b!"join", wMember b!"@t:x" b!"ban",
    mkEv b!"10" b!"$t" b!"m.room.third_party_invite" b!"@c:x" (some b!"tok") [(b!"public_keys", .arr [.obj [(b!"public_key", .str b!"AAAA")]])]], true)
/-- D8: a `users` key with an upper-case localpart -/
def wD8 : Witness := (wPL [users [(b!"@Alice:x", b!"0")]], [wCreate, wMember b!"@c:x" b!"join"], false)
/-- D9: a knock under `knock_restricted` in room version 8 -/
def wD9 : Witness :=
  (wMemberEv b!"@a:x" b!"@a:x" b!"knock" b!"8", [wCreate b!"8", wJoinRule b!"knock_restricted" b!"8"], false)
/-- D10: unban by a user at the ban level of a target with a higher level -/
def wD10 : Witness :=
  (wMemberEv b!"@a:x" b!"@t:x" b!"leave",
   [wCreate, wMember b!"@a:x" b!"join", wMember b!"@t:x" b!"ban", wPL [users [(b!"@a:x", b!"50"), (b!"@t:x", b!"75")]]], false)
/-- D11: a level-50 user lowers the `room` notification level from 50 -/
def wD11 : Witness :=
  (wPL [users [(b!"@a:x", b!"50")], (b!"notifications", .obj [(b!"room", .num b!"40")])] b!"@a:x" b!"$e",
   [wCreate, wMember b!"@a:x" b!"join", wPL [users [(b!"@a:x", b!"50")], (b!"notifications", .obj [(b!"room", .num b!"50")])]], false)
/-- D12: somebody else sends the creator's first join -/
def wD12 : Witness := (wMemberEv b!"@a:x" b!"@c:x" b!"join" b!"10" [] [b!"$c"], [wCreate], false)
/-- D13: a v10 create event with `"creator": null` -/
def wD13 : Witness := (wCreate b!"10" [(b!"creator", .null)], [], false)
/-- D14: pseudo-ID room, m.federate = false: a join whose mxid_mapping names a user on the creator's server -/
def wD14 : Witness :=
  (wMemberEv b!"@a:y" b!"@a:y" b!"join" b!"org.matrix.msc4014"
     [(b!"mxid_mapping", .obj [(b!"user_room_key", .str b!"k"), (b!"user_id", .str b!"@a:x")])],
   [wCreate b!"org.matrix.msc4014" [(b!"creator", .str b!"@c:x"), (b!"m.federate", .bool false)],
    wJoinRule b!"public" b!"org.matrix.msc4014"], false)
/-- D15: a v9 power-levels event with `"ban": "50"` -/
def wD15 : Witness := (wPL [(b!"ban", .str b!"50")] b!"@c:x" b!"$pl" b!"9", [wCreate b!"9", wMember b!"@c:x" b!"join" b!"9"], false)

/-- D16: join rule `private`; an invited user joins -/
def wD16 : Witness := (wMemberEv b!"@a:x" b!"@a:x" b!"join", [wCreate, wJoinRule b!"private", wMember b!"@a:x" b!"invite"], false)
/-- D17: create content without room_version (v1 rules): the creator (maximal level) redacts, `redacts` absent -/
def wD17 : Witness := (mkEv b!"10" b!"$e" b!"m.room.redaction" b!"@c:x" none [], [wCreate, wMember b!"@c:x" b!"join"], false)

/-- **Every documented departure is real**: on its witness, switching the flag off changes the verdict of the rules. -/
theorem spec_delta_documented :
    (wD1.rules .library = some true ∧ wD1.rules off1 = some false) ∧
    (wD2.rules .library = some true ∧ wD2.rules off2 = some false) ∧
    (wD3.rules .library = some false ∧ wD3.rules off3 = some true) ∧
    (wD4.rules .library = some false ∧ wD4.rules off4 = some true) ∧
    (wD5.rules .library = some false ∧ wD5.rules off5 = some true) ∧
    (wD6.rules .library = some true ∧ wD6.rules off6 = some false) ∧
    (wD7.rules .library = some true ∧ wD7.rules off7 = some false) ∧
    (wD8.rules .library = some true ∧ wD8.rules off8 = some false) ∧
    (wD9.rules .library = some true ∧ wD9.rules off9 = some false) ∧
    (wD10.rules .library = some true ∧ wD10.rules off10 = some false) ∧
    (wD11.rules .library = some false ∧ wD11.rules off11 = some true) ∧
    (wD12.rules .library = some false ∧ wD12.rules off12 = some true) ∧
    (wD13.rules .library = some false ∧ wD13.rules off13 = some true) ∧
    (wD14.rules .library = some true ∧ wD14.rules off14 = some false) ∧
    (wD15.rules .library = some true ∧ wD15.rules off15 = some false) ∧
    (wD16.rules .library = some true ∧ wD16.rules off16 = some false) ∧
    (wD17.rules .library = some false ∧ wD17.rules off17 = some true) := by
  decide +kernel

/-- on every one of these witnesses the model decides what the rules (library flags) decide -/
theorem witnesses_model_eq_library :
    [wD1, wD2, wD3, wD4, wD5, wD6, wD7, wD8, wD9, wD10, wD11, wD12, wD13, wD14, wD15, wD16, wD17].all
      (fun w => w.model == w.rules .library) = true := by
  decide +kernel

/-! ### Defects repaired in /repo: the failing inputs -/

/-- join rule `public`; a knocking user joins (fixed: 6fda2cc) -/
def wF1 : Witness := (wMemberEv b!"@a:x" b!"@a:x" b!"join", [wCreate, wJoinRule b!"public", wMember b!"@a:x" b!"knock"], false)
/-- the creator sends an m.room.third_party_invite event whose state_key is another user's ID (fixed: 17893e1) -/
def wF2 : Witness :=
  (mkEv b!"10" b!"$e" b!"m.room.third_party_invite" b!"@c:x" (some b!"@o:x") [], [wCreate, wMember b!"@c:x" b!"join"], false)
/-- a v11 create event with room_version "99" (fixed: 81e30aa) -/
def wF3 : Witness := (wCreate b!"11" [(b!"room_version", .str b!"99")], [], false)
/-- a join in a public room whose content carries a stray `third_party_invite: {}` (fixed: ba68227) -/
def wF4 : Witness :=
  (wMemberEv b!"@a:x" b!"@a:x" b!"join" b!"10" [(b!"third_party_invite", .obj [])], [wCreate, wJoinRule b!"public"], false)
/-- a v10 room with m.federate = false: a user of another server joins with `mxid_mapping.user_id` on the creator's
    server (fixed: c0fa8cc) -/
def wF5 : Witness :=
  (wMemberEv b!"@a:y" b!"@a:y" b!"join" b!"10"
     [(b!"mxid_mapping", .obj [(b!"user_room_key", .str b!"k"), (b!"user_id", .str b!"@a:x")])],
   [wCreate b!"10" [(b!"creator", .str b!"@c:x"), (b!"m.federate", .bool false)], wJoinRule b!"public"], false)

/-- on the five formerly failing inputs the model of the repaired code decides what the rules decide -/
theorem repaired_witnesses :
    (wF1.model = some true ∧ wF1.rules .library = some true) ∧
    (wF2.model = some true ∧ wF2.rules .library = some true) ∧
    (wF3.model = some false ∧ wF3.rules .library = some false) ∧
    (wF4.model = some true ∧ wF4.rules .library = some true) ∧
    (wF5.model = some false ∧ wF5.rules .library = some false) := by
  decide +kernel

/-! ### A1–A4: four further defects repaired in /repo (548eba1, 33ac4f7, d1e42dd, dbee289, in this order): the failing inputs -/

/-- events of a version-12 room whose create event has ID `$c` carry the room ID `!c` -/
def r12 : List (Bytes × JVal) := [(b!"room_id", .str b!"!c")]
def wCreate12 (content : List (Bytes × JVal) := []) : Event := mkEv b!"12" b!"$c" b!"m.room.create" b!"@c:x" (some []) content []
def wMember12 (u : Bytes) : Event :=
  mkEv b!"12" (b!"$m" ++ u) b!"m.room.member" u (some u) [(b!"membership", .str b!"join")] [b!"$p"] r12

/-- A1: version 12; the creator (privileged, not listed in `users`) adds `notifications.room = 60` -/
def wA1 : Witness :=
  (mkEv b!"12" b!"$e" b!"m.room.power_levels" b!"@c:x" (some [])
     [users [(b!"@a:x", b!"50")], (b!"notifications", .obj [(b!"room", .num b!"60")])] [b!"$p"] r12,
   [wCreate12, wMember12 b!"@c:x",
    mkEv b!"12" b!"$pl" b!"m.room.power_levels" b!"@c:x" (some []) [users [(b!"@a:x", b!"50")]] [b!"$p"] r12], false)
/-- A1: an additional creator, no power-levels event, sets `notifications.room = 100` -/
def wA1b : Witness :=
  (mkEv b!"12" b!"$e" b!"m.room.power_levels" b!"@b:x" (some []) [(b!"notifications", .obj [(b!"room", .num b!"100")])] [b!"$p"] r12,
   [wCreate12 [(b!"additional_creators", .arr [.str b!"@b:x"])], wMember12 b!"@b:x"], false)
/-- … while an ordinary member at level 50 still cannot raise it above their level -/
def wA1c : Witness :=
  (mkEv b!"12" b!"$e" b!"m.room.power_levels" b!"@a:x" (some [])
     [users [(b!"@a:x", b!"50")], (b!"notifications", .obj [(b!"room", .num b!"60")])] [b!"$p"] r12,
   [wCreate12, wMember12 b!"@a:x",
    mkEv b!"12" b!"$pl" b!"m.room.power_levels" b!"@c:x" (some []) [users [(b!"@a:x", b!"50")], (b!"state_default", .num b!"50")] [b!"$p"] r12], false)
/-- A2: version 10, `{"ban": null}` / `{"events": null}` / `{"users": {"@a:x": null}}` from the creator -/
def wA2a : Witness := (wPL [(b!"ban", .null)], [wCreate, wMember b!"@c:x" b!"join"], false)
def wA2b : Witness := (wPL [(b!"events", .null)], [wCreate, wMember b!"@c:x" b!"join"], false)
def wA2c : Witness := (wPL [(b!"users", .obj [(b!"@a:x", .null)])], [wCreate, wMember b!"@c:x" b!"join"], false)
/-- A3: the power-levels AUTH event has `"ban": "x"` (unreadable in every version); a level-0 member sends
    m.room.join_rules — and, for comparison, the same without any power-levels event (defaults: refused as well) and an
    m.room.create / m.room.aliases event, whose rules do not look at the power levels -/
def wA3 : Witness :=
  (mkEv b!"10" b!"$e" b!"m.room.join_rules" b!"@a:x" (some []) [(b!"join_rule", .str b!"public")],
   [wCreate, wMember b!"@a:x" b!"join", wPL [users [(b!"@c:x", b!"100")], (b!"ban", .str b!"x")]], false)
def wA3v6 : Witness :=
  (mkEv b!"6" b!"$e" b!"m.room.join_rules" b!"@a:x" (some []) [(b!"join_rule", .str b!"public")],
   [wCreate b!"6", wMember b!"@a:x" b!"join" b!"6", wPL [users [(b!"@c:x", b!"100")], (b!"ban", .str b!"x")] b!"@c:x" b!"$pl" b!"6"], false)
def wA3none : Witness :=
  (mkEv b!"10" b!"$e" b!"m.room.join_rules" b!"@a:x" (some []) [(b!"join_rule", .str b!"public")],
   [wCreate, wMember b!"@a:x" b!"join"], false)
def wA3aliases : Witness :=
  (mkEv b!"10" b!"$e" b!"m.room.aliases" b!"@a:x" (some b!"x") [],
   [wCreate, wPL [users [(b!"@c:x", b!"100")], (b!"ban", .str b!"x")]], false)
/-- A4: a user who knocked sends `leave` for themselves, in a version without knocking (5) and in one with (7) -/
def wA4 : Witness := (wMemberEv b!"@a:x" b!"@a:x" b!"leave" b!"5", [wCreate b!"5", wMember b!"@a:x" b!"knock" b!"5"], false)
def wA4v7 : Witness := (wMemberEv b!"@a:x" b!"@a:x" b!"leave" b!"7", [wCreate b!"7", wMember b!"@a:x" b!"knock" b!"7"], false)

/-- on the failing inputs of A1–A4 the model of the repaired code decides what the rules decide:
    A1 accepted (was refused), A2 / A3 / A4 refused (were accepted); the neighbouring inputs keep their verdicts -/
theorem repaired_witnesses_r4 :
    (wA1.model = some true ∧ wA1.rules .library = some true) ∧
    (wA1b.model = some true ∧ wA1b.rules .library = some true) ∧
    (wA1c.model = some false ∧ wA1c.rules .library = some false) ∧
    (wA2a.model = some false ∧ wA2a.rules .library = some false) ∧
    (wA2b.model = some false ∧ wA2b.rules .library = some false) ∧
    (wA2c.model = some false ∧ wA2c.rules .library = some false) ∧
    (wA3.model = some false ∧ wA3.rules .library = some false) ∧
    (wA3v6.model = some false ∧ wA3v6.rules .library = some false) ∧
    (wA3none.model = some false ∧ wA3none.rules .library = some false) ∧
    (wA3aliases.model = some true ∧ wA3aliases.rules .library = some true) ∧
    (wA4.model = some false ∧ wA4.rules .library = some false) ∧
    (wA4v7.model = some true ∧ wA4v7.rules .library = some true) := by
  decide +kernel

/-! ### X3 (/repo 323e1c2): member names of the contents the rules read are EXACT

The contents of m.room.create, m.room.power_levels, m.room.join_rules and m.room.third_party_invite events used to be
decoded by encoding/json alone, which also assigns `Join_rule`, `USERS`, `ſtate_default`, `M.FEDERATE` … to the struct
fields (last match wins, maps merge).  The rules name `join_rule`, `users`, `state_default`, `m.federate`; the repaired
code restricts an object content to exactly those names first (`exactMembersOnly`), and the decoders of `VModel.Auth` —
the parsed inputs of model and rules alike — read with `lookupExact`. -/

theorem lookupExact_restrict (names : List Bytes) (kvs : List (Bytes × JVal)) (n : Bytes) (hn : names.contains n = true) :
    lookupExact (kvs.filter (fun kv => names.contains kv.1)) n = lookupExact kvs n := by
  unfold lookupExact
  rw [List.foldl_filter]
  congr 1
  funext acc kv
  cases hk : kv.1 == n with
  | false => simp
  | true => rw [beq_iff_eq.mp hk, hn]; rfl

/-- the member names each content is read by -/
def createNames : List Bytes := [b!"m.federate", b!"creator", b!"room_version", b!"type", b!"additional_creators", b!"predecessor"]
def powerLevelNames : List Bytes :=
  [b!"ban", b!"invite", b!"kick", b!"redact", b!"users_default", b!"events_default", b!"state_default", b!"users", b!"events",
   b!"notifications"]
def joinRuleNames : List Bytes := [b!"join_rule", b!"allow"]
def thirdPartyInviteNames : List Bytes := [b!"display_name", b!"key_validity_url", b!"public_key", b!"public_keys"]

/-- an object content restricted to the members of the given names (what `exactMembersOnly` hands to json.Unmarshal) -/
def restrictTo (names : List Bytes) (kvs : List (Bytes × JVal)) : Option JVal :=
  some (.obj (kvs.filter (fun kv => names.contains kv.1)))

/-- **The decoders of the create, join-rules, third-party-invite and integer power-levels contents read exactly the
    member names the Matrix rules name** (of the create content: `m.federate`, `room_version`, `additional_creators`):
    members under any other name — case variants included — may be added, changed or removed without any effect on what
    is decoded; in particular the content and its redacted form (which keeps exact names only) decode alike in these
    members. -/
theorem contents_read_by_exact_names (kvs : List (Bytes × JVal)) (d : PowerLevels) :
    (decodeCreateContent (restrictTo createNames kvs)).map (fun c => (c.federate, c.roomVersion, c.additionalCreators))
      = (decodeCreateContent (some (.obj kvs))).map (fun c => (c.federate, c.roomVersion, c.additionalCreators)) ∧
    decodeJoinRule (restrictTo joinRuleNames kvs) = decodeJoinRule (some (.obj kvs)) ∧
    decodeThirdPartyInviteKeys (restrictTo thirdPartyInviteNames kvs) = decodeThirdPartyInviteKeys (some (.obj kvs)) ∧
    (parseIntegerPowerLevels (restrictTo powerLevelNames kvs) d).map (fun p => (p.ban, p.invite, p.kick, p.redact, p.usersDefault, p.eventsDefault, p.stateDefault, p.users, p.events, p.notifications))
      = (parseIntegerPowerLevels (some (.obj kvs)) d).map (fun p => (p.ban, p.invite, p.kick, p.redact, p.usersDefault, p.eventsDefault, p.stateDefault, p.users, p.events, p.notifications)) := by
  refine ⟨?_, ?_, ?_, ?_⟩
  · simp (disch := decide) only [decodeCreateContent, restrictTo, lookupExact_restrict]
  · simp (disch := decide) only [decodeJoinRule, restrictTo, lookupExact_restrict]
  · simp (disch := decide) only [decodeThirdPartyInviteKeys, restrictTo, lookupExact_restrict]
  · simp (disch := decide) only [parseIntegerPowerLevels, restrictTo, lookupExact_restrict]

def wJoinRuleC (content : List (Bytes × JVal)) (ver : Bytes := b!"10") : Event :=
  mkEv ver b!"$j" b!"m.room.join_rules" b!"@c:x" (some []) content
def wName (sender : Bytes) (ver : Bytes := b!"10") : Event :=
  mkEv ver b!"$e" b!"m.room.name" sender (some []) [(b!"name", .str b!"x")]

/-- X3a: join rules `{"Join_rule":"public"}`: a stranger joins — `join_rule` is absent (⇒ invite): refused (was accepted) -/
def wX3a : Witness := (wMemberEv b!"@b:y" b!"@b:y" b!"join", [wCreate, wMember b!"@c:x" b!"join", wJoinRuleC [(b!"Join_rule", .str b!"public")]], false)
/-- X3a': `{"join_rule":"invite","JOIN_RULE":"public"}`: refused (was accepted); with the two swapped: accepted (the rule is `public`) -/
def wX3a' : Witness := (wMemberEv b!"@b:y" b!"@b:y" b!"join",
  [wCreate, wMember b!"@c:x" b!"join", wJoinRuleC [(b!"join_rule", .str b!"invite"), (b!"JOIN_RULE", .str b!"public")]], false)
def wX3a'' : Witness := (wMemberEv b!"@b:y" b!"@b:y" b!"join",
  [wCreate, wMember b!"@c:x" b!"join", wJoinRuleC [(b!"join_rule", .str b!"public"), (b!"JOIN_RULE", .str b!"invite")]], false)
/-- X3b: power levels `{"users":{"@c:x":100},"Users":{"@u:x":100}}`: @u (level 0, the maps are not merged) sets the room
    name: refused (was accepted) -/
def wX3b : Witness := (wName b!"@u:x",
  [wCreate, wMember b!"@u:x" b!"join", wPL [users [(b!"@c:x", b!"100")], (b!"Users", .obj [(b!"@u:x", .num b!"100")])]], false)
/-- X3c: `{"users":{…},"State_default":0}`: the same: refused (was accepted) -/
def wX3c : Witness := (wName b!"@u:x",
  [wCreate, wMember b!"@u:x" b!"join", wPL [users [(b!"@c:x", b!"100")], (b!"State_default", .num b!"0")]], false)
/-- X3d: create `{"m.federate":true,"M.FEDERATE":false}`, public room: a join from another server: accepted (was refused) -/
def wX3d : Witness := (wMemberEv b!"@b:y" b!"@b:y" b!"join",
  [wCreate b!"10" [(b!"creator", .str b!"@c:x"), (b!"m.federate", .bool true), (b!"M.FEDERATE", .bool false)],
   wMember b!"@c:x" b!"join", wJoinRule b!"public"], false)
/-- X3e: version 12, create `{"Additional_creators":["@u:x"]}`: @u is no creator: refused (was accepted) -/
def wX3e : Witness :=
  (mkEv b!"12" b!"$e" b!"m.room.name" b!"@u:x" (some []) [(b!"name", .str b!"x")] [b!"$p"] r12,
   [wCreate12 [(b!"Additional_creators", .arr [.str b!"@u:x"])], wMember12 b!"@u:x",
    mkEv b!"12" b!"$pl" b!"m.room.power_levels" b!"@c:x" (some []) [users [(b!"@a:x", b!"50")]] [b!"$p"] r12], false)
/-- X3f: a v10 create event `{"Creator":"@c:x"}`: no `creator`: refused (was accepted) -/
def wX3f : Witness := (wCreate b!"10" [(b!"Creator", .str b!"@c:x")], [], false)

/-- on the formerly failing inputs of X3 the model of the repaired code decides what the rules decide -/
theorem repaired_witnesses_x3 :
    (wX3a.model = some false ∧ wX3a.rules .library = some false) ∧
    (wX3a'.model = some false ∧ wX3a'.rules .library = some false) ∧
    (wX3a''.model = some true ∧ wX3a''.rules .library = some true) ∧
    (wX3b.model = some false ∧ wX3b.rules .library = some false) ∧
    (wX3c.model = some false ∧ wX3c.rules .library = some false) ∧
    (wX3d.model = some true ∧ wX3d.rules .library = some true) ∧
    (wX3e.model = some false ∧ wX3e.rules .library = some false) ∧
    (wX3f.model = some false ∧ wX3f.rules .library = some false) := by
  decide +kernel

end V.C07
