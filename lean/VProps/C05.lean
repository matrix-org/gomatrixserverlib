/-
  C05 — Redaction follows the room version's algorithm, is idempotent, keeps signatures.

  The model is `V.Redact.redactJSON ver : JVal → Except Err JVal` (VModel/Redact.lean), driven by the
  tables regenerated from redactevent.go / eventversion.go; the specification's tables are in
  VModel/RedactSpec.lean.  Against the specification the tables are compared (`rowAgrees`); its function
  `RedactSpec.redact` enters no theorem (VDriver/Redact.lean runs it).
-/
import VModel.Redact
import VModel.RedactSpec
import VModel.EventParse
import VProofs.RedactCongr
namespace V.C05
open V V.Json V.GoJson V.Redact V.RedactProofs

/-! ## The regenerated keep tables against the specification's -/

/-- the library's reading of a content-table entry: an empty list keeps everything -/
def libRule (keys : List Bytes) : List (List Bytes) ⊕ Unit :=
  if keys.isEmpty then .inr () else .inl (keys.map (fun k => [k]))

def specRule : RedactSpec.Rule → List (List Bytes) ⊕ Unit
  | .all => .inr ()
  | .paths ps => .inl (ps.map (fun p => p.map RedactSpec.sb))

def sameSet (a b : List (List Bytes)) : Bool := a.all (fun x => b.contains x) && b.all (fun x => a.contains x)

def sameRule : List (List Bytes) ⊕ Unit → List (List Bytes) ⊕ Unit → Bool
  | .inr _, .inr _ => true
  | .inl a, .inl b => sameSet a b
  | _, _ => false

def sameKeys (a b : List Bytes) : Bool := a.all (fun x => b.contains x) && b.all (fun x => a.contains x)

/-- Does the algorithm the version's row names agree with the specification's algorithm for that
    version: same top-level keep list, same protected event types, same rule for every type
    outside `except`. -/
def rowAgrees (row : VGen.VersionRow) (except : Bytes → Bool) : Bool :=
  match algoByName row.redactionAlgorithm, RedactSpec.specFor row.key with
  | some a, some s =>
    sameKeys (a.fields.map (·.name)) (s.top.map RedactSpec.sb) &&
    (a.ctable.map (·.1) == s.content.map (fun x => RedactSpec.sb x.1)) &&
    (a.ctable.zip s.content).all (fun p => except p.1.1 || sameRule (libRule p.1.2) (specRule p.2.2))
  | _, _ => false

/-- the one entry where library and specification are known to differ -/
def isV5Member (row : VGen.VersionRow) (ty : Bytes) : Bool :=
  row.redactionAlgorithm == "redactEventJSONV5" && ty == b!"m.room.member"

def shapeOk (a : Algo) : Bool :=
  (typeField a.fields).map (·.name) == some b!"type" &&
  (contentField a.fields).map (·.name) == some b!"content" &&
  a.fields.all (fun f => f.kind == .raw || f.name == b!"type" || f.name == b!"content") &&
  [b!"sender", b!"room_id", b!"state_key", b!"signatures", b!"hashes"].all
    (fun n => a.fields.any (fun f => f.name == n && f.kind == .raw))

/-- the names the event structs decode, by what the keep struct does with them -/
def rawNames : List Bytes := [b!"room_id", b!"sender", b!"state_key", b!"depth", b!"origin_server_ts", b!"event_id",
  b!"prev_events", b!"auth_events"]
def absentNames : List Bytes := [b!"redacts", b!"msc4354_sticky", b!"sticky"]

def decShape (a : Algo) : Bool :=
  rawNames.all (fun n => a.fields.any (fun f => f.name == n && f.kind == .raw)) &&
  absentNames.all (fun n => a.fields.all (fun g => foldBytes g.name != foldBytes n))

/-- `unsigned` and the other keys stripped on receipt are not kept; `signatures` is an omittable raw field, and every raw
    field is omittable (`C03.tableOk` is a second definition with this body: `C03.algoOf_tableOk` reads this conjunct
    of `keepOk` as it) -/
def receiptOk (a : Algo) : Bool :=
  unlisted a b!"unsigned" && unlisted a b!"age_ts" && unlisted a b!"outlier" && unlisted a b!"destinations" &&
  a.fields.any (fun f => f.name == b!"signatures" && f.kind == .raw && f.omitempty) &&
  a.fields.all (fun f => !(f.kind == .raw) || f.omitempty)

def noVariantOk (a : Algo) : Bool :=
  a.fields.all (fun f => !(EventParse.structFieldNames.any (fun n => f.name != n && foldBytes f.name == foldBytes n)))

/-- Everything the proofs (of C03, C04, C05 and of the accessors) read off a regenerated (keep struct, content table) pair. -/
def keepOk (a : Algo) : Bool :=
  tablesOk a && shapeOk a && receiptOk a && decShape a && a.fields.any (fun f => f.name == b!"event_id") && noVariantOk a

/-- the untrusted and the trusted constructor of a version fill the same struct -/
def ctorsOk (row : VGen.VersionRow) : Bool :=
  EventParse.fmtOfName row.newEventFromUntrustedJSONFunc == EventParse.fmtOfName row.newEventFromTrustedJSONFunc &&
  (EventParse.fmtOfName row.newEventFromUntrustedJSONFunc).isSome

/-- the with-ID constructor fills that struct too; the V1 struct goes with event format 1; the event format is 1 or 2 -/
def buildOk (row : VGen.VersionRow) : Bool :=
  EventParse.fmtOfName row.newEventFromTrustedJSONWithEventIDFunc == EventParse.fmtOfName row.newEventFromTrustedJSONFunc &&
  ((EventParse.fmtOfName row.newEventFromTrustedJSONFunc == some EventParse.Fmt.v1) == (row.eventFormat == 1)) &&
  (row.eventFormat == 1 || row.eventFormat == 2)

/-- what the accessors rely on, per registered version: the constructor columns name the same struct; format-1 structs
    go with event format 1, the later structs with hashed event IDs; the domain-less struct (eventV3) with URL-safe IDs;
    the function-valued columns the accessors call are set. -/
def rowOk (row : VGen.VersionRow) : Bool :=
  match EventParse.fmtOfName row.newEventFromUntrustedJSONFunc with
  | none => false
  | some fmt =>
    EventParse.fmtOfName row.newEventFromTrustedJSONFunc == some fmt &&
    (if fmt == .v1 then row.eventFormat == 1
     else row.eventFormat == 2 && (row.eventIDFormat == 2 || row.eventIDFormat == 3)) &&
    (if fmt == .v3 then row.eventIDFormat == 3 else true) &&
    row.parsePowerLevelsFunc != "" &&
    (EventParse.enforces row).isSome

/-- … and off a row of the version table; its redaction algorithm exists and is `keepOk`. -/
def rowAll (row : VGen.VersionRow) : Bool :=
  ctorsOk row && buildOk row && rowOk row &&
  match algoByName row.redactionAlgorithm with
  | some a => keepOk a
  | none => false

/-- The algorithm of room version 10, its two tables written as bytes (`algoOf_v10`); the examples at the
    end of the file compute with it. -/
def algoV10 : Algo where
  fields := [⟨b!"event_id", true, .raw⟩, ⟨b!"type", false, .str⟩, ⟨b!"room_id", true, .raw⟩, ⟨b!"sender", true, .raw⟩,
    ⟨b!"state_key", true, .raw⟩, ⟨b!"content", false, .map⟩, ⟨b!"hashes", true, .raw⟩, ⟨b!"signatures", true, .raw⟩,
    ⟨b!"depth", true, .raw⟩, ⟨b!"prev_events", true, .raw⟩, ⟨b!"prev_state", true, .raw⟩, ⟨b!"auth_events", true, .raw⟩,
    ⟨b!"origin", true, .raw⟩, ⟨b!"origin_server_ts", true, .raw⟩, ⟨b!"membership", true, .raw⟩]
  ctable := [(b!"m.room.create", [b!"creator"]), (b!"m.room.history_visibility", [b!"history_visibility"]),
    (b!"m.room.join_rules", [b!"join_rule", b!"allow"]),
    (b!"m.room.member", [b!"membership", b!"join_authorised_via_users_server"]),
    (b!"m.room.power_levels", [b!"ban", b!"events", b!"events_default", b!"kick", b!"redact", b!"state_default",
      b!"users", b!"users_default"])]

/-- Every fact the development reads off the regenerated tables of redactevent.go and eventversion.go, and `algoOf_v10`,
    decided in one kernel evaluation: nearly all of the work is turning the tables' strings into bytes, and this way the
    kernel does it once for all of them (the table theorems of C03, C04 and of the accessors are read off `rowAll`). -/
theorem tables_decided :
    (∀ row ∈ VGen.roomVersions, rowAgrees row (isV5Member row) = true) ∧
    ((VGen.roomVersions.filter (fun row => !rowAgrees row (fun _ => false))).map (·.key) = ["11", "12", "org.matrix.hydra.11"] ∧
     (mapGet (ctableOf VGen.unredactableContentFieldsV5) b!"m.room.member" = some [b!"membership", b!"join_authorised_via_users_server"]) ∧
     RedactSpec.ruleFor RedactSpec.v11 b!"m.room.member" =
       .paths [["membership"], ["join_authorised_via_users_server"], ["third_party_invite", "signed"]]) ∧
    (∀ row ∈ VGen.roomVersions, rowAll row = true) ∧
    (algoOf b!"10").map (fun a => (a.fields, a.ctable)) = some (algoV10.fields, algoV10.ctable) := by
  decide +kernel

/-- Every registered room version uses the top-level keep list and the per-type content keep
    lists of the specification's algorithm for that version — except `m.room.member` under the v11
    algorithm (see `keep_tables_v11_member_deviates`).  Re-checked against the regenerated tables on
    every run.

    Full-strength statement (FALSE on the unchanged tree, known finding C05/v11-member-tpi-signed):
      ∀ row ∈ VGen.roomVersions, rowAgrees row (fun _ => false) = true -/
theorem keep_tables_eq_spec_partial : ∀ row ∈ VGen.roomVersions, rowAgrees row (isV5Member row) = true :=
  tables_decided.1

/-- The deviation, exactly: for the three versions using `redactEventJSONV5` the library keeps
    `membership` and `join_authorised_via_users_server` of an `m.room.member` content, the
    specification (v11 "Redactions") additionally keeps `third_party_invite.signed`. -/
theorem keep_tables_v11_member_deviates :
    (VGen.roomVersions.filter (fun row => !rowAgrees row (fun _ => false))).map (·.key) = ["11", "12", "org.matrix.hydra.11"] ∧
    (mapGet (ctableOf VGen.unredactableContentFieldsV5) b!"m.room.member" = some [b!"membership", b!"join_authorised_via_users_server"]) ∧
    RedactSpec.ruleFor RedactSpec.v11 b!"m.room.member" =
      .paths [["membership"], ["join_authorised_via_users_server"], ["third_party_invite", "signed"]] :=
  tables_decided.2.1

theorem keepOk_parts {a : Algo} (h : keepOk a = true) :
    tablesOk a = true ∧ shapeOk a = true ∧ receiptOk a = true ∧ decShape a = true ∧
    a.fields.any (fun f => f.name == b!"event_id") = true ∧ noVariantOk a = true := by
  obtain ⟨h, h6⟩ := (Bool.and_eq_true _ _).mp h
  obtain ⟨h, h5⟩ := (Bool.and_eq_true _ _).mp h
  obtain ⟨h, h4⟩ := (Bool.and_eq_true _ _).mp h
  obtain ⟨h, h3⟩ := (Bool.and_eq_true _ _).mp h
  obtain ⟨h1, h2⟩ := (Bool.and_eq_true _ _).mp h
  exact ⟨h1, h2, h3, h4, h5, h6⟩

theorem rowAll_parts {row : VGen.VersionRow} (h : row ∈ VGen.roomVersions) :
    ∃ a, algoByName row.redactionAlgorithm = some a ∧ keepOk a = true ∧ ctorsOk row = true ∧ buildOk row = true ∧ rowOk row = true := by
  obtain ⟨hrow, hm⟩ := (Bool.and_eq_true _ _).mp (tables_decided.2.2.1 row h)
  obtain ⟨hrow, h3⟩ := (Bool.and_eq_true _ _).mp hrow
  obtain ⟨h1, h2⟩ := (Bool.and_eq_true _ _).mp hrow
  cases ha : algoByName row.redactionAlgorithm with
  | none => rw [ha] at hm; cases hm
  | some a => rw [ha] at hm; exact ⟨a, rfl, hm, h1, h2, h3⟩

theorem algos_ok : ∀ row ∈ VGen.roomVersions,
    (match algoByName row.redactionAlgorithm with
     | some a => tablesOk a && shapeOk a
     | none => false) = true := by
  intro row h
  obtain ⟨a, ha, hk, _⟩ := rowAll_parts h
  rw [ha]
  exact (Bool.and_eq_true _ _).mpr ⟨(keepOk_parts hk).1, (keepOk_parts hk).2.1⟩

theorem algoOf_keepOk {ver : Bytes} {a : Algo} (h : algoOf ver = some a) : keepOk a = true := by
  obtain ⟨row, hr, ha⟩ := Option.bind_eq_some_iff.mp h
  obtain ⟨a', ha', hk, _⟩ := rowAll_parts (List.mem_of_find?_eq_some hr)
  cases ha.symm.trans ha'
  exact hk

theorem algoOf_v10 : algoOf b!"10" = some algoV10 := by
  have h := tables_decided.2.2.2
  cases ha : algoOf b!"10" with
  | none => rw [ha] at h; cases h
  | some a => rw [ha] at h; cases a; cases h; rfl

theorem algoOf_ok {ver : Bytes} {a : Algo} (h : algoOf ver = some a) : tablesOk a = true ∧ shapeOk a = true :=
  let p := keepOk_parts (algoOf_keepOk h); ⟨p.1, p.2.1⟩

/-- the top-level keys the version's algorithm keeps -/
def keepTop (a : Algo) : List Bytes := a.fields.map (·.name)

/-- The domain of `redact_exact`: `type` is a string and `content` an object without duplicate keys
    (of several top-level members with the same key the last one counts, as `lookupExact` reads it).
    Nothing is assumed about the other top-level keys: duplicates and case variants of protected
    keys are inside the quantifier since the repair of `redactEventJSON` (exact key matching). -/
structure WfEvent (kvs : Obj) (ty : Bytes) (m : Obj) : Prop where
  type : lookupExact kvs b!"type" = some (.str ty)
  content : lookupExact kvs b!"content" = some (.obj m)
  mnodup : (keysOf m).Nodup

theorem shape_names {a : Algo} (h : shapeOk a = true) :
    ∃ tf cf, typeField a.fields = some tf ∧ contentField a.fields = some cf ∧ tf.name = b!"type" ∧ cf.name = b!"content" := by
  simp only [shapeOk, Bool.and_eq_true, beq_iff_eq] at h
  obtain ⟨tf, htf, hn1⟩ := Option.map_eq_some_iff.mp h.1.1.1
  obtain ⟨cf, hcf, hn2⟩ := Option.map_eq_some_iff.mp h.1.1.2
  exact ⟨tf, cf, htf, hcf, hn1, hn2⟩

theorem shape_raw {a : Algo} (h : shapeOk a = true) {f : Field} (hf : f ∈ a.fields)
    (h1 : f.name ≠ b!"type") (h2 : f.name ≠ b!"content") : f.kind = .raw := by
  simp only [shapeOk, Bool.and_eq_true] at h
  simpa [h1, h2] using List.all_eq_true.mp h.1.2 f hf

theorem shape_has {a : Algo} (h : shapeOk a = true) (n : Bytes)
    (hn : n ∈ [b!"sender", b!"room_id", b!"state_key", b!"signatures", b!"hashes"]) :
    a.fields.any (fun f => f.name == n && f.kind == .raw) = true := by
  simp only [shapeOk, Bool.and_eq_true] at h
  exact List.all_eq_true.mp h.2 n hn

/-- **Exactness.**  Redacting an event keeps exactly the top-level keys the version's algorithm
    lists (`type` and `content` always, the others when present), with unchanged values, and inside
    `content` exactly the keys the algorithm lists for the event's type, with unchanged values;
    nothing else survives — in particular no member under a case variant of a listed key, and no
    listed key that the event did not carry under exactly that name. -/
theorem redact_exact {ver : Bytes} {a : Algo} (ha : algoOf ver = some a) {kvs : Obj} {ty : Bytes} {m : Obj}
    (W : WfEvent kvs ty m) {v : JVal} (h : redactJSON ver (.obj kvs) = .ok v) :
    ∃ r kept, v = .obj r ∧
      (∀ kv ∈ r, kv.1 ∈ keepTop a) ∧
      lookupExact r b!"type" = some (.str ty) ∧
      lookupExact r b!"content" = some (.obj kept) ∧
      (∀ k ∈ keepTop a, k ≠ b!"type" → k ≠ b!"content" → lookupExact r k = lookupExact kvs k) ∧
      (∀ k, mapGet kept k = if keeps a.ctable ty k then mapGet m k else none) := by
  obtain ⟨hT, hS⟩ := algoOf_ok ha
  have hd := (tablesOk_parts hT).1
  have hn := names_nodup hd
  obtain ⟨tf, cf, htf, hcf, hn1, hn2⟩ := shape_names hS
  obtain ⟨tf', cf', ty', c, R, hv⟩ := (redactWith_iff hd kvs v).mp (redactJSON_of_algo ha _ ▸ h)
  cases htf.symm.trans R.htf
  cases hcf.symm.trans R.hcf
  -- what the run decoded: the type string and, its keys being distinct, the content object itself
  obtain rfl : ty = ty' := by have := R.type; rw [hn1, W.type] at this; exact congrArg Dec.val this
  obtain rfl : some m = c := by
    have := congrArg ContentDec.val R.content
    rwa [hn2, W.content, show (decContent1 (some (.obj m))).val = some (mergeInto [] m) from rfl,
      mergeInto_nil_of_nodup m W.mnodup] at this
  obtain ⟨kept, hkept⟩ := newContent_some a.ctable ty m
  refine ⟨_, kept, hv, fun kv hkv => ?_, ?_, ?_, fun k hk hk1 hk2 => ?_, fun k => ?_⟩
  · obtain ⟨f, hf, hk, _⟩ := mem_pick.mp hkv
    exact hk ▸ List.mem_map_of_mem hf
  · rw [← hn1, written, lookupExact_pick hn _ (typeField_mem htf).1, emitV_type hT htf]
  · rw [← hn2, written, lookupExact_pick hn _ (contentField_mem hcf).1, emitV_content hT hcf, hkept]; rfl
  · obtain ⟨f, hf, rfl⟩ := List.mem_map.mp hk
    rw [written, lookupExact_pick hn _ hf, emitV_raw (shape_raw hS hf hk1 hk2)]
  · simpa [hkept] using mapGet_newContent a.ctable ty m k

/-- **Nothing is invented.**  For EVERY event the library can redact (no side condition): a key other
    than `type` and `content` that the event does not carry — as that exact string — is not in the
    redaction.  (Before the repair a member `Event_id` came out as `event_id`.) -/
theorem redact_drops_unlisted {ver : Bytes} {kvs r : Obj} (h : redactJSON ver (.obj kvs) = .ok (.obj r))
    {k : Bytes} (hk1 : k ≠ b!"type") (hk2 : k ≠ b!"content") (hk : lookupExact kvs k = none) : lookupExact r k = none := by
  obtain ⟨a, ha, h⟩ := redactJSON_algo h
  obtain ⟨hT, hS⟩ := algoOf_ok ha
  exact redactWith_absent hT h hk (fun f hf hfn => shape_raw hS hf (hfn ▸ hk1) (hfn ▸ hk2))

/-- **Idempotence.**  Whatever `RedactEventJSON` returns, redacting it again succeeds and returns it
    unchanged (the same members in the same order). -/
theorem redact_idem {ver : Bytes} {j v : JVal} (h : redactJSON ver j = .ok v) : redactJSON ver v = .ok v := by
  obtain ⟨a, ha, h⟩ := redactJSON_algo h
  exact redactJSON_of_algo ha v ▸ redactWith_idem (algoOf_ok ha).1 h

theorem members_eq_sel (kvs : Obj) (n : Bytes) : EventParse.members kvs n = (sel n kvs).map (·.2) := rfl

theorem redact_keeps_raw {ver : Bytes} {a : Algo} (ha : algoOf ver = some a) {kvs r : Obj}
    (h : redactJSON ver (.obj kvs) = .ok (.obj r)) :
    ∀ n ∈ [b!"sender", b!"room_id", b!"state_key", b!"signatures", b!"hashes"],
      n ∈ keepTop a ∧ lookupExact r n = lookupExact kvs n := by
  intro n hn
  obtain ⟨hT, hS⟩ := algoOf_ok ha
  obtain ⟨f, hf, hfn⟩ := List.any_eq_true.mp (shape_has hS n hn)
  simp only [Bool.and_eq_true, beq_iff_eq] at hfn
  exact hfn.1 ▸ ⟨List.mem_map_of_mem hf, redactWith_raw hT (redactJSON_of_algo ha _ ▸ h) hf hfn.2⟩

/-- **Identity fields.**  Redaction never changes what the event structs read as type, sender, room
    ID and state key (for every struct format, i.e. whatever decoder is applied to those members).

    Side condition `T` (no duplicate top-level keys, no case variant of a protected key): it is about
    the event structs, not about redaction — `eventV1` / `eventV2` are filled by encoding/json, which
    reads `Sender` or a second `sender` member into the sender field; redaction keeps the exact key
    `sender` only (the last one).  Without `T` the statement is false in both directions of the repair:
    before it, `{"sender":"@a:h","Sender":"@b:h"}` kept only one of the two; after it, an event whose
    only sender member is spelt `Sender` reads as sent by nobody once redacted. -/
theorem redact_preserves_ids {ver : Bytes} {a : Algo} (ha : algoOf ver = some a) {kvs : Obj} {ty : Bytes} {m : Obj}
    (T : WfTop a.fields kvs) (W : WfEvent kvs ty m) {r : Obj} (h : redactJSON ver (.obj kvs) = .ok (.obj r)) (fmt : EventParse.Fmt) :
    (EventParse.decodeFields fmt r).f.type = (EventParse.decodeFields fmt kvs).f.type ∧
    (EventParse.decodeFields fmt r).f.sender = (EventParse.decodeFields fmt kvs).f.sender ∧
    (EventParse.decodeFields fmt r).f.roomID = (EventParse.decodeFields fmt kvs).f.roomID ∧
    (EventParse.decodeFields fmt r).f.stateKey = (EventParse.decodeFields fmt kvs).f.stateKey := by
  obtain ⟨hT, hS⟩ := algoOf_ok ha
  have Wr : WfTop a.fields r := redactWith_wf hT (redactJSON_of_algo ha _ ▸ h)
  -- neither object has duplicate keys or case variants, so a kept key selects the one member `lookupExact` finds
  have hm : ∀ {n}, n ∈ keepTop a ∧ lookupExact r n = lookupExact kvs n →
      EventParse.members r n = EventParse.members kvs n := by
    intro n ⟨hn, he⟩
    obtain ⟨f, hf, rfl⟩ := List.mem_map.mp hn
    rw [members_eq_sel, members_eq_sel, sel_wf Wr hf, sel_wf T hf, he]
  have ht : EventParse.members r b!"type" = EventParse.members kvs b!"type" := by
    obtain ⟨tf, _, htf, _, hn1, _⟩ := shape_names hS
    obtain ⟨_, _, hv, _, e1, _⟩ := redact_exact ha W h
    cases hv
    exact hm ⟨hn1 ▸ List.mem_map_of_mem (typeField_mem htf).1, e1.trans W.type.symm⟩
  have hraw := redact_keeps_raw ha h
  simp only [List.forall_mem_cons] at hraw
  obtain ⟨hsender, hroom, hkey, _⟩ := hraw
  simp only [EventParse.decodeFields, ht, hm hsender, hm hroom, hm hkey, and_self]

/-- **The reference (hence, in v3+, the event ID) of the redacted event is the original's**: both
    are computed from the redacted form, and redaction is idempotent. -/
theorem redact_preserves_reference {ver : Bytes} {j v : JVal} (h : redactJSON ver j = .ok v)
    (H : Bytes → Bytes) (row : VGen.VersionRow) :
    EventParse.referenceBytes ver v = EventParse.referenceBytes ver j ∧
    EventParse.referenceID H row ver v = EventParse.referenceID H row ver j := by
  have h2 := redact_idem h
  simp only [EventParse.referenceBytes, EventParse.referenceID, h, h2, and_self]

/-- A signature check on an event as `VerifyEventSignatures` / `VerifyJSON` perform it: the
    signature of (`name`, `kid`) in the redacted event's `signatures`, checked by `verify pk payload sig`
    against the signing payload.  `verify` is any function (ed25519 in the library).  It is stated on
    `EventParse.signingPayload` / `signaturesOf`, the event model's own reading of the signed object; no lemma
    relates it to `Sign.verifyJSON`, the model of C02. -/
def sigValid (verify : Bytes → Bytes → Bytes → Bool) (ver : Bytes) (j : JVal) (name kid pk : Bytes) : Bool :=
  match EventParse.signingPayload ver j, EventParse.signaturesOf ver j with
  | .ok payload, .ok (some (.obj sigs)) =>
    match mapGet sigs name with
    | some (.obj ks) =>
      match mapGet ks kid with
      | some (.str s) =>
        match B64.decode s with
        | some sig => verify pk payload sig
        | none => false
      | _ => false
    | _ => false
  | _, _ => false

/-- **Signatures survive redaction**: the signing payload and the `signatures` member a verifier
    reads are the same for an event and for its redaction, so every signature that verifies on the
    original verifies on the redacted event (and conversely), for any verification function. -/
theorem redact_preserves_signatures {ver : Bytes} {j v : JVal} (h : redactJSON ver j = .ok v) :
    EventParse.signingPayload ver v = EventParse.signingPayload ver j ∧
    EventParse.signaturesOf ver v = EventParse.signaturesOf ver j ∧
    ∀ verify name kid pk, sigValid verify ver v name kid pk = sigValid verify ver j name kid pk := by
  have h2 := redact_idem h
  have hp : EventParse.signingPayload ver v = EventParse.signingPayload ver j := by
    simp only [EventParse.signingPayload, EventParse.referenceBytes, h, h2]
  have hs : EventParse.signaturesOf ver v = EventParse.signaturesOf ver j := by
    simp only [EventParse.signaturesOf, h, h2]
  refine ⟨hp, hs, ?_⟩
  intro verify name kid pk
  simp only [sigValid, hp, hs]

/-- The `signatures` and `hashes` members are kept verbatim. -/
theorem redact_keeps_signatures_member {ver : Bytes} {a : Algo} (ha : algoOf ver = some a) {kvs : Obj} {ty : Bytes} {m : Obj}
    (W : WfEvent kvs ty m) {r : Obj} (h : redactJSON ver (.obj kvs) = .ok (.obj r)) :
    lookupExact r b!"signatures" = lookupExact kvs b!"signatures" ∧ lookupExact r b!"hashes" = lookupExact kvs b!"hashes" := by
  have hraw := redact_keeps_raw ha h
  simp only [List.forall_mem_cons] at hraw
  obtain ⟨_, _, _, hsig, hhashes, _⟩ := hraw
  exact ⟨hsig.2, hhashes.2⟩

/-! ## Non-vacuity: a concrete member event in room version 10 -/

def exEvent : Obj := [
  (b!"type", .str b!"m.room.member"), (b!"sender", .str b!"@a:b"), (b!"room_id", .str b!"!r:b"),
  (b!"state_key", .str b!"@a:b"), (b!"unsigned", .obj [(b!"age", .num b!"1")]),
  (b!"signatures", .obj [(b!"b", .obj [(b!"ed25519:1", .str b!"c2ln")])]),
  (b!"content", .obj [(b!"membership", .str b!"join"), (b!"displayname", .str b!"A"), (b!"n", .num b!"5")])]

def exRedacted : Obj := [
  (b!"type", .str b!"m.room.member"), (b!"room_id", .str b!"!r:b"), (b!"sender", .str b!"@a:b"),
  (b!"state_key", .str b!"@a:b"), (b!"content", .obj [(b!"membership", .str b!"join")]),
  (b!"signatures", .obj [(b!"b", .obj [(b!"ed25519:1", .str b!"c2ln")])])]

def okWith (x : Except Err JVal) (bytes : Bytes) : Bool :=
  match x with
  | .ok r => encode r == bytes
  | _ => false

/-- the hypotheses of the theorems above are satisfiable: this event redacts, to `exRedacted` -/
example : okWith (redactJSON b!"10" (.obj exEvent)) (encode (.obj exRedacted)) = true := by
  rw [redactJSON_of_algo algoOf_v10]; decide +kernel

example : (algoOf b!"10").isSome = true := by rw [algoOf_v10]; rfl

/-- its top-level shape satisfies `WfTop` for that algorithm (no duplicate keys, no case variants): the side
    condition of `redact_preserves_ids` -/
example : (match algoOf b!"10" with
    | some a => noDupIn (exEvent.map (·.1)) &&
        exEvent.all (fun kv => a.fields.all (fun f => !(foldBytes kv.1 == foldBytes f.name) || kv.1 == f.name))
    | none => false) = true := by rw [algoOf_v10]; decide +kernel

/-- `redact_exact` / `redact_drops_unlisted` need no such condition.  The same event with case variants of
    protected keys (`Event_id`, `Sender`, `ſtate_key` with U+017F, `Content`, `HASHES`), an ill-typed earlier
    duplicate of `type` and an earlier duplicate of `content`: the variants are dropped like any unlisted
    key, the last exact member counts — the redaction is `exRedacted` again. -/
def exVariants : Obj := [
  (b!"Event_id", .str b!"$chosen"), (b!"type", .num b!"5"), (b!"Sender", .str b!"@evil:b"),
  (b!"content", .obj [(b!"membership", .str b!"ban")]), (b!"ſtate_key", .str b!"@evil:b"),
  (b!"HASHES", .obj [(b!"sha256", .str b!"x")]), (b!"Content", .obj [(b!"membership", .str b!"leave")])] ++ exEvent

example : okWith (redactJSON b!"10" (.obj exVariants)) (encode (.obj exRedacted)) = true := by
  rw [redactJSON_of_algo algoOf_v10]; decide +kernel

example : WfEvent exVariants b!"m.room.member"
    [(b!"membership", .str b!"join"), (b!"displayname", .str b!"A"), (b!"n", .num b!"5")] :=
  ⟨by rfl, by rfl, by decide +kernel⟩

end V.C05
