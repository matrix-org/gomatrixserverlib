/-
  C14 composed with C06 and C07, continued — the OTHER entry points of the federation-response filters
  (CheckSendJoinResponse, VerifyEventAuthChain, VerifyAuthRulesAtState, EventsLoader.LoadAndVerify) with the oracles
  discharged as in VProps/C14Compose.lean (`composedOracles w`).

  The theorems about the entry points are corollaries of the parametric theorems of VProps/C14.lean at `composedOracles w`
  (`send_join_ok_iff`, `state_response_ok_iff`, `auth_chain_iff`, `at_state_iff`, `load_classification`), with the
  conclusion rewritten into the vocabulary of C06 (`requiredSigners`, the verifier's `valid` answers at the event's
  origin_server_ts under `strictValidity`) and of C07 (`allowedFresh … = .ok`); `chainGood_composed_iff` and
  `atState_composed_iff` do the rewriting.
-/
import VProps.C14Compose
namespace V.C14
open V.FedCheck V.FedCheck.Spec V.Signers V.Auth

/-- the provider objects of the composition do not depend on the verifier's world: they are built with `AddEvent`
    (`padd`) from `NewAuthEvents(nil)` (`pempty`) -/
theorem composed_authOf (w : SigWorld) (res : Bytes → Option Event) (e : Event) :
    authOf (composedOracles w) res e =
      e.authEventIDs.foldl (fun p id => match res id with
        | some a => padd p a
        | none => p) pempty := rfl

theorem composed_stateProviderOf (w : SigWorld) (S : List Event) :
    stateProviderOf (composedOracles w) S = S.foldl padd pempty := rfl

/-! ### CheckSendJoinResponse -/

/-- **When the composed CheckSendJoinResponse accepts.**  It accepts with the lists `A'`, `S'` exactly when the composed
    CheckStateResponse returns these lists for the response and the C07 model of `Allowed` accepts the join event both
    against its returned-or-provided auth events and against the returned state. -/
theorem send_join_accepts_iff_allowed (w : SigWorld) (prov : Option EventProvider) (hprov : ProvOK prov)
    (n : Nat) (A S : List Event) (j : Event) (A' S' : List Event) (log : Log) :
    (checkSendJoin (composedOracles w) prov (n + 2) A S j log).1 = .ok A' S' ↔
      (checkStateResponse (composedOracles w) prov (n + 2) A S log).1 = .ok A' S' ∧
      allowedFresh j (authOf (composedOracles w) (resolve (lastWithID (A' ++ S')) prov) j) = .ok ∧
      allowedFresh j (stateProviderOf (composedOracles w) S') = .ok := by
  rw [send_join_ok_iff _ (composedOracles_addIdem w) prov hprov, state_response_ok_iff _ (composedOracles_addIdem w) prov hprov,
    sendJoin_eq_some, composed_allowedBy_iff, composed_allowedBy_iff]

/-- **What an accepted `CheckSendJoinResponse` guarantees, without oracles.**  If the composed CheckSendJoinResponse
    accepts and returns the lists `A'`, `S'`, then the C07 model of `Allowed` accepts the join event against the provider
    built from those of its auth events that were returned (or that the caller's provider supplies), AND accepts it against
    the provider built from the whole returned state; and every returned event was in the response, every server the C06
    model requires for it was reported valid at its origin_server_ts under the version's rule, and the C07 model of
    `Allowed` accepts it against its verified / provider-supplied auth events. -/
theorem send_join_accepted_signed_and_allowed (w : SigWorld) (prov : Option EventProvider) (hprov : ProvOK prov)
    (n : Nat) (A S : List Event) (j : Event) (A' S' : List Event) (log : Log)
    (h : (checkSendJoin (composedOracles w) prov (n + 2) A S j log).1 = .ok A' S') :
    allowedFresh j (authOf (composedOracles w) (resolve (lastWithID (A' ++ S')) prov) j) = .ok ∧
    allowedFresh j (stateProviderOf (composedOracles w) S') = .ok ∧
    ∀ e ∈ A' ++ S',
      e ∈ A ++ S ∧
      (∃ l, requiredSigners w.row e (w.sd e) = .ok l ∧
        ∀ s ∈ l, w.valid e ⟨s, e.originServerTS, strictValidity w.row⟩ = true) ∧
      allowedFresh e (authOf (composedOracles w) (resolve (verified (composedOracles w) (A ++ S)) prov) e) = .ok := by
  obtain ⟨hsr, h1, h2⟩ := (send_join_accepts_iff_allowed w prov hprov n A S j A' S' log).mp h
  exact ⟨h1, h2, state_response_signed_and_allowed w prov hprov n A S A' S' log hsr⟩

/-! ### VerifyEventAuthChain -/

/-- one event of the chain passes, in the C07 vocabulary -/
theorem chainGood_composed_iff (w : SigWorld) (root : Event) (table : Bytes → Option Event) (errs : Bytes → Bool) (e : Event) :
    chainGood (composedOracles w) root table errs e = true ↔
      (∀ id ∈ e.authEventIDs, id = root.eventID ∨ errs id = false) ∧
      (∀ id ∈ e.authEventIDs, ∀ a, chainResolve root table id = some a → a.stateKey.isSome = true) ∧
      allowedFresh e (authOf (composedOracles w) (chainResolve root table) e) = .ok := by
  unfold chainGood
  rw [Bool.and_eq_true, Bool.and_eq_true, composed_allowedBy_iff, List.all_eq_true, List.all_eq_true, and_assoc]
  refine and_congr ?_ (and_congr ?_ Iff.rfl)
  · refine forall_congr' (fun id => forall_congr' (fun _ => ?_))
    simp
  · refine forall_congr' (fun id => forall_congr' (fun _ => ?_))
    cases chainResolve root table id <;> simp

/-- **VerifyEventAuthChain accepts exactly when the event and, recursively, every fetched auth event is allowed.**
    Against a provider that answers from a table of events keyed by their own IDs (`TableLike`: single-ID requests are
    answered exactly, batch answers may leave events out), VerifyEventAuthChain with the composed oracles — whenever its
    loop finishes within the fuel — accepts EXACTLY when for the event and every event reachable from it through
    resolvable auth event IDs (`Reach`): no needed ID makes the provider fail, every resolved auth event is a state event,
    and the C07 model of `Allowed` accepts the event against the provider built from its resolved auth events. -/
theorem auth_chain_accepts_allowed (w : SigWorld) (root : Event) (table : Bytes → Option Event) (errs : Bytes → Bool)
    (prov : EventProvider) (htl : TableLike table errs prov)
    (htable : ∀ id e, table id = some e → e.eventID = id) (n fuel : Nat) (log : Log)
    (hfuel : (verifyEventAuthChain (composedOracles w) prov (n + 2) fuel root log).1 ≠ .outOfFuel) :
    (verifyEventAuthChain (composedOracles w) prov (n + 2) fuel root log).1 = .ok ↔
      ∀ e, Reach root table e →
        (∀ id ∈ e.authEventIDs, id = root.eventID ∨ errs id = false) ∧
        (∀ id ∈ e.authEventIDs, ∀ a, chainResolve root table id = some a → a.stateKey.isSome = true) ∧
        allowedFresh e (authOf (composedOracles w) (chainResolve root table) e) = .ok := by
  rw [auth_chain_iff (composedOracles w) (composedOracles_addIdem w) root table errs prov htl htable n fuel log hfuel]
  exact forall_congr' (fun e => forall_congr' (fun _ => chainGood_composed_iff w root table errs e))

/-- the same for the provider that returns everything it has for a request (`tableProvider`): no contract hypothesis left -/
theorem auth_chain_accepts_allowed_table (w : SigWorld) (root : Event) (table : Bytes → Option Event) (errs : Bytes → Bool)
    (htable : ∀ id e, table id = some e → e.eventID = id) (n fuel : Nat) (log : Log)
    (hfuel : (verifyEventAuthChain (composedOracles w) (tableProvider table errs) (n + 2) fuel root log).1 ≠ .outOfFuel) :
    (verifyEventAuthChain (composedOracles w) (tableProvider table errs) (n + 2) fuel root log).1 = .ok ↔
      ∀ e, Reach root table e →
        (∀ id ∈ e.authEventIDs, id = root.eventID ∨ errs id = false) ∧
        (∀ id ∈ e.authEventIDs, ∀ a, chainResolve root table id = some a → a.stateKey.isSome = true) ∧
        allowedFresh e (authOf (composedOracles w) (chainResolve root table) e) = .ok :=
  auth_chain_accepts_allowed w root table errs _ (tableProvider_tableLike table errs) htable n fuel log hfuel

/-! ### VerifyAuthRulesAtState -/

/-- the specification's verdict "accepted", in the C07 vocabulary -/
theorem atState_composed_iff (w : SigWorld) (sp : StateProvider) (e : Event) (allow : Bool) :
    atState (composedOracles w) sp e allow = some true ↔
      ∃ ids, sp.ids e = some ids ∧
        ((allow && e.authEventIDs.all (fun a => ids.contains a)) = true ∨
         ∃ kvs, sp.state e ids = some kvs ∧ formsState (kvs.map (·.2)) = true ∧
           allowedFresh e (stateProviderOf (composedOracles w) (kvs.map (·.2))) = .ok) := by
  unfold atState
  cases hids : sp.ids e with
  | none => simp
  | some ids =>
    simp only [Option.some.injEq, exists_eq_left']
    by_cases hshort : (allow && e.authEventIDs.all (fun a => ids.contains a)) = true
    · simp only [hshort, if_true, true_or]
    · simp only [hshort, Bool.false_eq_true, if_false, false_or]
      cases hst : sp.state e ids with
      | none => simp
      | some kvs =>
        simp only [Option.some.injEq, exists_eq_left']
        cases hf : formsState (kvs.map (·.2))
        · simp
        · simp only [Bool.not_true, Bool.false_eq_true, if_false, Option.some.injEq, true_and]
          exact composed_allowedBy_iff w e _

/-- **VerifyAuthRulesAtState accepts exactly when the event is allowed by the whole state before it (or the permitted
    fallback applies).**  The check never answers `outOfFuel` (it has no loop), and with the composed oracles it answers
    `ok` EXACTLY when the provider names the state IDs before the event and either validation is permitted and every
    auth event ID of the event is among them, or the provider returns the state, that state is a room state (state events only, no slot held by two
    different events), and the C07 model of `Allowed` accepts the event against the provider built from EVERY event of that
    state. -/
theorem at_state_allowed (w : SigWorld) (sp : StateProvider) (e : Event) (allow : Bool) (log : Log) :
    (verifyAuthRulesAtState (composedOracles w) sp e allow log).1 ≠ .outOfFuel ∧
    ((verifyAuthRulesAtState (composedOracles w) sp e allow log).1 = .ok ↔
      ∃ ids, sp.ids e = some ids ∧
        ((allow && e.authEventIDs.all (fun a => ids.contains a)) = true ∨
         ∃ kvs, sp.state e ids = some kvs ∧ formsState (kvs.map (·.2)) = true ∧
           allowedFresh e (stateProviderOf (composedOracles w) (kvs.map (·.2))) = .ok)) := by
  obtain ⟨hne, hco, _⟩ := at_state_iff (composedOracles w) sp e allow log
  refine ⟨hne, ?_⟩
  rw [← atState_composed_iff, ← hco]
  cases (verifyAuthRulesAtState (composedOracles w) sp e allow log).1 <;> simp [asCoarse]

/-! ### EventsLoader.LoadAndVerify -/

/-- results and events of `loadLoop` correspond position by position -/
theorem results_zip (f : Event → Option LoadClass) (pre : List LoadResult) (evs : List Event)
    (h1 : pre.map (·.event) = evs.map some) (h2 : pre.map (fun r => some r.cls) = evs.map f) :
    ∀ r ∈ pre, ∃ e ∈ evs, r.event = some e ∧ f e = some r.cls := by
  induction pre generalizing evs with
  | nil => intro r hr; cases hr
  | cons p ps ih =>
    cases evs with
    | nil => simp at h1
    | cons x xs =>
      simp only [List.map_cons, List.cons.injEq] at h1 h2
      intro r hr
      rcases List.mem_cons.mp hr with hr | hr
      · subst hr
        exact ⟨x, List.mem_cons_self, h1.1, h2.1.symm⟩
      · obtain ⟨e, he, h3, h4⟩ := ih xs h1.2 h2.2 r hr
        exact ⟨e, List.mem_cons_of_mem _ he, h3, h4⟩

/-- **An input LoadAndVerify classifies `ok` is signed and passes both auth checks.**  When the ordering returns as many
    events as it was given and the caller's provider answers from a table of events keyed by their own IDs, every result of
    the composed LoadAndVerify whose class is `ok` (no error) carries an event `e` of the ordered, cleanly parsed input such
    that: every server the C06 model requires for `e` was reported valid at its origin_server_ts under the version's rule;
    VerifyEventAuthChain accepted it, i.e. `e` and recursively every auth event the provider supplies has no failing ID, only
    state events among its resolved auth events, and is accepted by the C07 model of `Allowed` against them; and the C07
    model of `Allowed` accepts `e` against the whole state before it (or every auth event ID of `e` is among the state IDs
    before it: LoadAndVerify permits that fallback). -/
theorem load_results_signed (w : SigWorld) (table : Bytes → Option Event) (errs : Bytes → Bool)
    (prov : EventProvider) (htl : TableLike table errs prov)
    (htable : ∀ id e, table id = some e → e.eventID = id)
    (sp : StateProvider) (n fuel : Nat)
    (order : List Event → List Event) (raw : List Parsed) (log log' : Log) (rs : List LoadResult)
    (hord : (order (parsedClean raw)).length = (parsedClean raw).length)
    (h : loadAndVerify (composedOracles w) prov sp (n + 2) fuel order raw log = some (rs, log')) :
    ∀ r ∈ rs, r.cls = .ok →
      ∃ e, r.event = some e ∧ e ∈ order (parsedClean raw) ∧
        (∃ l, requiredSigners w.row e (w.sd e) = .ok l ∧
          ∀ s ∈ l, w.valid e ⟨s, e.originServerTS, strictValidity w.row⟩ = true) ∧
        (∀ x, Reach e table x →
          (∀ id ∈ x.authEventIDs, id = e.eventID ∨ errs id = false) ∧
          (∀ id ∈ x.authEventIDs, ∀ a, chainResolve e table id = some a → a.stateKey.isSome = true) ∧
          allowedFresh x (authOf (composedOracles w) (chainResolve e table) x) = .ok) ∧
        (∃ ids, sp.ids e = some ids ∧
          ((true && e.authEventIDs.all (fun a => ids.contains a)) = true ∨
           ∃ kvs, sp.state e ids = some kvs ∧ formsState (kvs.map (·.2)) = true ∧
             allowedFresh e (stateProviderOf (composedOracles w) (kvs.map (·.2))) = .ok)) := by
  obtain ⟨_, pre, hrs, hev, hcl⟩ :=
    load_classification (composedOracles w) prov sp (n + 2) fuel order raw log log' rs hord h
  intro r hr hok
  have hpre : r ∈ pre := by
    rw [hrs, List.mem_append] at hr
    rcases hr with hr | hr
    · exact hr
    · have := (List.mem_replicate.mp hr).2
      rw [this] at hok
      cases hok
  obtain ⟨e, he, hre, hc⟩ := results_zip (classOf (composedOracles w) prov sp (n + 2) fuel) pre _ hev hcl r hpre
  rw [hok] at hc
  refine ⟨e, hre, he, ?_⟩
  obtain ⟨hsig, hv, hat⟩ := (classOf_eq_ok _ prov sp (n + 2) fuel e).mp hc
  have hfuel : (verifyEventAuthChain (composedOracles w) prov (n + 2) fuel e []).1 ≠ .outOfFuel := by
    rw [hv]; intro hx; cases hx
  exact ⟨(composed_sigOk_iff w e).mp hsig,
    (auth_chain_accepts_allowed w e table errs prov htl htable n fuel [] hfuel).mp hv,
    (atState_composed_iff w sp e true).mp hat⟩

/-! ### Non-vacuity: the create event of C14Compose (room version 10, sent by `@a:hs1`) and its creator's join -/

/-- the creator's own join, citing the create event -/
def exJoin : Event :=
  { ver := b!"10", eventID := b!"$join", obj :=
      [(b!"type", .str b!"m.room.member"), (b!"sender", .str b!"@a:hs1"), (b!"room_id", .str b!"!r:hs1"),
       (b!"state_key", .str b!"@a:hs1"), (b!"content", .obj [(b!"membership", .str b!"join")]),
       (b!"origin_server_ts", .num b!"6"), (b!"depth", .num b!"2"),
       (b!"prev_events", .arr [.str b!"$create"]), (b!"auth_events", .arr [.str b!"$create"])] }

/-- a table holding the create event under its own ID -/
def exTable (id : Bytes) : Option Event := if id == b!"$create" then some exCreate else none

/-- the state before the join: the create event -/
def exState : StateProvider :=
  { ids := fun _ => some [b!"$create"], state := fun _ _ => some [(b!"$create", exCreate)] }

/-- what the four entry points answer on the response `auth = [], state = [exCreate]`, join event `exJoin`, with the
    verifier reporting `hs1` valid (`good`) or nobody -/
def exRun2 (good : Bool) : Option (Bool × Bool × Bool × Bool) :=
  (VGen.roomVersions.find? (fun r => r.key == "10")).map (fun row =>
    let O := composedOracles (exWorld row good)
    ((match (checkSendJoin O none 2 [] [exCreate] exJoin []).1 with
      | .ok a s => a.length == 0 && s.length == 1
      | _ => false),
     (verifyEventAuthChain O (tableProvider exTable (fun _ => false)) 2 8 exJoin []).1 == .ok,
     (verifyAuthRulesAtState O exState exJoin false []).1 == .ok,
     (match loadAndVerify O (tableProvider exTable (fun _ => false)) exState 2 8 id [.ok exJoin] [] with
      | some (rs, _) => rs.map (·.cls) == [.ok]
      | none => false)))

/-- the hypotheses of `send_join_accepted_signed_and_allowed`, `auth_chain_accepts_allowed(_table)`, `at_state_allowed`
    and `load_results_signed` hold on a concrete instance with a non-empty answer: the join is accepted by all four when
    `hs1` is reported valid; with no valid signature the state response inside CheckSendJoinResponse still succeeds, with
    the create event DROPPED — so the join, now without a create event among its auth events, is refused —, and
    LoadAndVerify classifies the join as a signature error (the two auth checks do not look at signatures) -/
example : exRun2 true = some (true, true, true, true) ∧ exRun2 false = some (false, true, true, false) := by
  decide +kernel

example : ∀ id e, exTable id = some e → e.eventID = id := by
  intro id e h
  unfold exTable at h
  split at h
  · rename_i hid
    cases h
    have : id = b!"$create" := by simpa using hid
    rw [this]
    rfl
  · cases h

end V.C14

#print axioms V.C14.send_join_accepted_signed_and_allowed
#print axioms V.C14.send_join_accepts_iff_allowed
#print axioms V.C14.auth_chain_accepts_allowed
#print axioms V.C14.auth_chain_accepts_allowed_table
#print axioms V.C14.at_state_allowed
#print axioms V.C14.load_results_signed
