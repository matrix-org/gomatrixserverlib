/-
  C06 ∘ C12 — `VerifyEventSignatures` with the real `KeyRing` as its `JSONVerifier`.

  `VProps/C06.lean` proves the verdict for an arbitrary verifier `valid : Request → Bool`; `VProps/C12.lean` proves
  what a success / failure of the key ring means.  Here the two meet through hypotheses, no function composes the
  models: `hrun` — the model of `KeyRing.VerifyJSONs` ran on `ringBatch` (one request per required server, at the
  event's origin_server_ts, with the version's validity rule, the message being the redacted event) — and `hvalid` —
  the verifier's answer for a server and the key ring's result at that server's position agree, in the one direction
  the theorem needs; `valid` stays a parameter.  (eventcrypto.go builds the requests ranging over the Go map `needed`
  and fails on the first result that carries an error: it reads no result by its position.)
-/
import VProps.C06
import VProps.C12
namespace V.C06Ring

/-- The key-ring request built for required server `s`.  `msg s` = what the key ring sees of the redacted event for
    that server: whether `ListKeyIDs` succeeds and the entries of `signatures[s]`. -/
def ringRequest (msg : Bytes → Bool × List KeyRing.SigInfo) (ts : Nat) (strict : Bool) (s : Bytes) : KeyRing.Request :=
  { server := s, atTS := ts, strict := strict, listOk := (msg s).1, sigs := (msg s).2 }

def ringBatch (row : VGen.VersionRow) (e : Event) (msg : Bytes → Bool × List KeyRing.SigInfo) (l : List Bytes) : List KeyRing.Request :=
  l.map (ringRequest msg e.originServerTS (Signers.strictValidity row))

theorem ringBatch_getElem? (row : VGen.VersionRow) (e : Event) (msg : Bytes → Bool × List KeyRing.SigInfo) {l : List Bytes}
    {i : Nat} {s : Bytes} (hi : l[i]? = some s) :
    (ringBatch row e msg l)[i]? = some (ringRequest msg e.originServerTS (Signers.strictValidity row) s) := by
  rw [ringBatch, List.getElem?_map, hi]
  rfl

/-- **Soundness end to end.**  If the event verifies, the verdict being read off the key ring's results, then EVERY
    required server has an ed25519 signature on the redacted event that verifies under a public key obtained for that
    (server, key ID) from the key database or a fetcher, and that key was valid at the event's origin_server_ts under
    the room version's validity rule. -/
theorem verify_with_keyring_sound (row : VGen.VersionRow) (e : Event) (sd : Except Err (Option Bytes))
    (l : List Bytes) (hl : Signers.requiredSigners row e sd = .ok l)
    (msg : Bytes → Bool × List KeyRing.SigInfo)
    (db : KeyRing.FetchScript) (storeOk : Bool) (fetchers : List KeyRing.FetchScript) (now : Nat)
    (rsB : List Bool) (tr : KeyRing.Trace)
    (hrun : KeyRing.verifyJSONs (ringBatch row e msg l) db storeOk fetchers now = (.ok rsB, tr))
    (valid : Signers.Request → Bool)
    (hvalid : ∀ (i : Nat) (s : Bytes), l[i]? = some s → valid ⟨s, e.originServerTS, Signers.strictValidity row⟩ = true → rsB[i]? = some true)
    (hok : Signers.verifyEventSignatures row e sd valid false = .ok ()) :
    ∀ s ∈ l, (msg s).1 = true ∧ ∃ sig ∈ (msg s).2, KeyRing.isAlgorithmSupported sig.keyID = true ∧ ∃ k : KeyRing.KeyRes,
      ((∃ fromDB, db = some fromDB ∧ (⟨s, sig.keyID⟩, k) ∈ fromDB) ∨ (∃ m, some m ∈ fetchers ∧ (⟨s, sig.keyID⟩, k) ∈ m)) ∧
      KeyRing.wasValidAt k e.originServerTS (Signers.strictValidity row) now = true ∧
      sig.reaches = true ∧ k.key.length = KeyRing.publicKeySize ∧ sig.verifies k.key = true := by
  obtain ⟨l', hl', hall⟩ := (V.C06.verify_iff row e sd valid).mp hok
  rw [hl] at hl'; cases hl'
  intro s hs
  obtain ⟨i, hi⟩ := List.mem_iff_getElem?.mp hs
  have hres := hvalid (i := i) (s := s) hi (hall s hs)
  obtain ⟨r, hr, hlo, sig, hsig, halg, k, hsrc, hv, hre, hlen, hver⟩ := V.C12.success_sound hrun i hres
  cases (ringBatch_getElem? row e msg hi).symm.trans hr
  exact ⟨hlo, sig, hsig, halg, k, hsrc, hv, hre, hlen, hver⟩

/-- **Soundness end to end, in the property's own words, at EVERY origin_server_ts.**  The validity fact of
    `verify_with_keyring_sound` is the property's clause (`KeyRing.Spec.validAt`: before expired_ts for an expired key,
    otherwise — strict room versions — at or before valid_until_ts capped at seven days from now), over unbounded
    naturals: in particular, under a strict room version no event whose origin_server_ts lies after the key's
    valid_until_ts or after now + 7 days verifies with an unexpired key — timestamps of 2^63 ms and beyond included
    (`StrictValiditySignatureCheck` used to convert through int64 and accepted those against any key). -/
theorem verify_with_keyring_sound_validAt (row : VGen.VersionRow) (e : Event) (sd : Except Err (Option Bytes))
    (l : List Bytes) (hl : Signers.requiredSigners row e sd = .ok l)
    (msg : Bytes → Bool × List KeyRing.SigInfo)
    (db : KeyRing.FetchScript) (storeOk : Bool) (fetchers : List KeyRing.FetchScript) (now : Nat)
    (rsB : List Bool) (tr : KeyRing.Trace)
    (hrun : KeyRing.verifyJSONs (ringBatch row e msg l) db storeOk fetchers now = (.ok rsB, tr))
    (valid : Signers.Request → Bool)
    (hvalid : ∀ (i : Nat) (s : Bytes), l[i]? = some s → valid ⟨s, e.originServerTS, Signers.strictValidity row⟩ = true → rsB[i]? = some true)
    (hok : Signers.verifyEventSignatures row e sd valid false = .ok ()) :
    ∀ s ∈ l, ∃ sig ∈ (msg s).2, ∃ k : KeyRing.KeyRes,
      ((∃ fromDB, db = some fromDB ∧ (⟨s, sig.keyID⟩, k) ∈ fromDB) ∨ (∃ m, some m ∈ fetchers ∧ (⟨s, sig.keyID⟩, k) ∈ m)) ∧
      sig.verifies k.key = true ∧
      KeyRing.Spec.validAt k e.originServerTS (Signers.strictValidity row) now = true ∧
      (k.expiredTS ≠ 0 → e.originServerTS < k.expiredTS) ∧
      (k.expiredTS = 0 → Signers.strictValidity row = true →
        e.originServerTS ≤ k.validUntilTS ∧ e.originServerTS ≤ now + KeyRing.sevenDaysMs) := by
  intro s hs
  obtain ⟨_, sig, hsig, _, k, hsrc, hv, _, _, hver⟩ :=
    verify_with_keyring_sound row e sd l hl msg db storeOk fetchers now rsB tr hrun valid hvalid hok s hs
  exact ⟨sig, hsig, k, hsrc, hver, V.C12.wasValidAt_forms hv⟩

/-- **Failure.**  If some required server is answered "not valid" by the verifier, the event does not
    verify — whatever the other servers' results are (`C06.one_bad_fails` at a verifier that does not fail; the key
    ring does not occur: no theorem takes a `false` among its results to the verdict). -/
theorem verify_with_keyring_one_bad (row : VGen.VersionRow) (e : Event) (sd : Except Err (Option Bytes))
    (l : List Bytes) (hl : Signers.requiredSigners row e sd = .ok l)
    (valid : Signers.Request → Bool) (s : Bytes) (hs : s ∈ l)
    (hbad : valid ⟨s, e.originServerTS, Signers.strictValidity row⟩ = false) :
    Signers.verifyEventSignatures row e sd valid false ≠ .ok () :=
  V.C06.one_bad_fails row e sd valid false l hl s hs hbad

/-- **Completeness end to end.**  If for every required server the specification of the key ring demands success
    (`Spec.mustSucceed`: the database or the first fetcher able to answer supplies a good key for one of the server's
    ed25519 signatures) then the event verifies. -/
theorem verify_with_keyring_complete (row : VGen.VersionRow) (e : Event) (sd : Except Err (Option Bytes))
    (l : List Bytes) (hl : Signers.requiredSigners row e sd = .ok l)
    (msg : Bytes → Bool × List KeyRing.SigInfo)
    (fromDB : KeyRing.KeyMap) (hn : (fromDB.map Prod.fst).Nodup)
    (storeOk : Bool) (fetchers : List KeyRing.FetchScript) (now : Nat)
    (rsB : List Bool) (tr : KeyRing.Trace)
    (hrun : KeyRing.verifyJSONs (ringBatch row e msg l) (some fromDB) storeOk fetchers now = (.ok rsB, tr))
    (valid : Signers.Request → Bool)
    (hvalid : ∀ (i : Nat) (s : Bytes), l[i]? = some s → rsB[i]? = some true → valid ⟨s, e.originServerTS, Signers.strictValidity row⟩ = true)
    (hmust : ∀ s ∈ l, KeyRing.Spec.mustSucceed (ringRequest msg e.originServerTS (Signers.strictValidity row) s) fromDB fetchers now = true) :
    Signers.verifyEventSignatures row e sd valid false = .ok () := by
  rw [V.C06.verify_iff]
  refine ⟨l, hl, fun s hs => ?_⟩
  obtain ⟨i, hi⟩ := List.mem_iff_getElem?.mp hs
  apply hvalid (i := i) (s := s) hi
  apply V.C12.success_complete hrun fromDB rfl hn i (ringRequest msg e.originServerTS (Signers.strictValidity row) s)
  · exact ringBatch_getElem? row e msg hi
  · exact hmust s hs

/-- **The bulk entry point with the real key ring.**  `VerifyAllEventSignatures` hands the key ring one batch per event; if
    the verdict at position `i` is success — the verdicts being read off the key ring's results for THAT event's batch —
    then every server required for that event has an ed25519 signature on it verifying under a fetched key that was valid
    at its origin_server_ts: nothing is carried over from the batches of the other events. -/
theorem verify_all_with_keyring_sound (row : VGen.VersionRow) (es : List Event) (sd : Event → Except Err (Option Bytes))
    (valid : Event → Signers.Request → Bool) (i : Nat) (h : i < es.length)
    (hok : (Signers.verifyAllEventSignatures row es sd valid (fun _ => false))[i]? = some (.ok ()))
    (l : List Bytes) (hl : Signers.requiredSigners row es[i] (sd es[i]) = .ok l)
    (msg : Bytes → Bool × List KeyRing.SigInfo)
    (db : KeyRing.FetchScript) (storeOk : Bool) (fetchers : List KeyRing.FetchScript) (now : Nat)
    (rsB : List Bool) (tr : KeyRing.Trace)
    (hrun : KeyRing.verifyJSONs (ringBatch row es[i] msg l) db storeOk fetchers now = (.ok rsB, tr))
    (hvalid : ∀ (j : Nat) (s : Bytes), l[j]? = some s →
      valid es[i] ⟨s, es[i].originServerTS, Signers.strictValidity row⟩ = true → rsB[j]? = some true) :
    ∀ s ∈ l, (msg s).1 = true ∧ ∃ sig ∈ (msg s).2, KeyRing.isAlgorithmSupported sig.keyID = true ∧ ∃ k : KeyRing.KeyRes,
      ((∃ fromDB, db = some fromDB ∧ (⟨s, sig.keyID⟩, k) ∈ fromDB) ∨ (∃ m, some m ∈ fetchers ∧ (⟨s, sig.keyID⟩, k) ∈ m)) ∧
      KeyRing.wasValidAt k es[i].originServerTS (Signers.strictValidity row) now = true ∧
      sig.reaches = true ∧ k.key.length = KeyRing.publicKeySize ∧ sig.verifies k.key = true := by
  have hok' : Signers.verifyEventSignatures row es[i] (sd es[i]) (valid es[i]) false = .ok () :=
    Option.some.inj ((V.C06.verifyAll_getElem? row es sd valid _ h).symm.trans hok)
  exact verify_with_keyring_sound row es[i] (sd es[i]) l hl msg db storeOk fetchers now rsB tr hrun (valid es[i]) hvalid hok'

end V.C06Ring
