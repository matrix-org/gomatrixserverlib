/-
  C02 — JSON signatures: complete for the signer, sound against any tampering.

  Model: VModel.Sign (`signJSON`, `verifyJSON`, `listKeyIDs` over JSON values, mirroring signing.go with
  its glue: Go struct decoding of `signatures`/`unsigned`, exact-key deletion, base64, nil maps).
  Texts enter through C01 (`canonical t = encodeCanon (parse t)`): whitespace, escape spellings and `-0`
  vanish in the value; member order is covered by `verify_reserialised` below.

  Cryptography is a parameter `S : SigScheme` with hypotheses `SigCorrect S` (completeness theorems) or
  `IdealSig S` (soundness theorems: message binding, key binding) — hypotheses, never axioms; the toy
  scheme at the end of the file satisfies all of them.

  Domain: the value-level theorems are stated for JSON objects with distinct keys (`UniqueKeys`; C01's domain).  Only
  `verify_reserialised` and `sign_preserves` use the hypothesis; `sign_verify_after`, `verify_sound_key` and
  `listKeyIDs_complete` carry it as the domain of the property and hold without it.  Since the strict-JSON gate
  was added to the code that is no restriction of the claim: `SignJSON` / `VerifyJSON` refuse every message with duplicate
  member names, lone surrogate escapes or invalid UTF-8 — or nested deeper than encoding/json reads — before reading it
  (`checkStrictJSON`: `json.Valid` first, then a one-pass walk; VerifyJSON skips the value of `unsigned`; models `signJSONText` /
  `verifyJSONText`), see "The text gate" below — `ambiguous_never_signed`, `ambiguous_never_verifies`,
  `gate_uniqueKeys`, `verify_text_sound_tamper`.  (Before it, sjson deleted the first duplicate while Go maps kept the
  last, and tampered objects verified on exactly such texts.)  Top-level case
  variants such as "Signatures" are ordinary signed members (the code reads the two members by exact name
  since /repo 0fb2afd), so no theorem needs a side condition about them.
-/
import VProofs.SignJSON
import VProps.C01
namespace V.C02
open V.Json V.Sign List

/-- What `verifyJSON` accepts is exactly the property's acceptance condition evaluated by the model's
    lookup: a stored signature of the right size that verifies over the canonical signed members. -/
theorem verify_iff (S : SigScheme) (n k pk : Bytes) (o : List (Bytes × JVal)) :
    verifyJSON S n k pk (.obj o) = .ok () ↔
      ∃ s, sigLookup o n k = .found s ∧ S.sigSizeOk s = true ∧ S.pkSizeOk pk = true ∧ S.verify pk (payload o) s = true := by
  simp only [verifyJSON]
  cases sigLookup o n k with
  | found s =>
    simp only [verifyCore, SigLookup.found.injEq, exists_eq_left']
    cases S.sigSizeOk s <;> cases S.pkSizeOk pk <;> cases S.verify pk (payload o) s <;> simp
  | _ => simp [verifyCore, errUnmarshal]

/-- **An object signed with SignJSON verifies** under the signer's name, key ID and public key.
    Uses only correctness of the scheme. -/
theorem sign_verify (S : SigScheme) (hS : SigCorrect S) (n k : Bytes) (sk : S.SK) (o : List (Bytes × JVal)) (v' : JVal)
    (h : signJSON S n k sk (.obj o) = .ok v') : verifyJSON S n k (S.pk sk) v' = .ok () := by
  obtain ⟨o', rfl, _, hb, _, hl, _, _⟩ := sign_effect S n k sk o v' h
  exact (verify_iff ..).mpr ⟨_, hl, hS.sig_size _ _, hS.pk_size _, by rw [payload, hb]; exact hS.correct _ _⟩

theorem verify_congr (S : SigScheme) (n k pk : Bytes) (o o' : List (Bytes × JVal))
    (hl : sigLookup o' n k = sigLookup o n k) (hp : payload o' = payload o) :
    verifyJSON S n k pk (.obj o') = verifyJSON S n k pk (.obj o) := by
  simp only [verifyJSON, hl, hp]

/-- **However the members are ordered, the verdict is the same** (whitespace, escapes and number
    spelling `-0` are erased by parsing, C01; nested member order by `encodeCanon`). -/
theorem verify_reserialised (S : SigScheme) (n k pk : Bytes) (o o' : List (Bytes × JVal)) (hp : o ~ o')
    (hu : UniqueKeys o) : verifyJSON S n k pk (.obj o') = verifyJSON S n k pk (.obj o) := by
  apply verify_congr
  · unfold sigLookup
    rw [getLast_perm hp hu]
  · unfold payload
    have hb : body o ~ body o' := by
      unfold body eraseKey
      exact (hp.filter _).filter _
    exact (C01.canon_member_order_irrelevant (body o) (body o') hb (uniqueKeys_iff_nodup.mp (uniqueKeys_body o hu))).symm

/-- several entities signing one after the other -/
def signAll (S : SigScheme) : List (Bytes × Bytes × S.SK) → JVal → Except Err JVal
  | [], v => .ok v
  | (n, k, sk) :: rest, v =>
    match signJSON S n k sk v with
    | .ok v' => signAll S rest v'
    | .error e => .error e

/-- `unsigned` replaced by `u` (`none`: removed) -/
def setUnsigned (u : Option JVal) (o : List (Bytes × JVal)) : List (Bytes × JVal) :=
  eraseKey kUnsigned o ++ (match u with
    | some x => [(kUnsigned, x)]
    | none => [])

theorem signAll_keeps (S : SigScheme) (n k s : Bytes) : ∀ (signers : List (Bytes × Bytes × S.SK)) (o1 : List (Bytes × JVal)) (v2 : JVal),
    sigLookup o1 n k = .found s →
    (∀ x ∈ signers, (x.1, x.2.1) ≠ (n, k)) → signAll S signers (.obj o1) = .ok v2 →
    ∃ o2, v2 = .obj o2 ∧ sigLookup o2 n k = .found s ∧ body o2 = body o1
  | [], o1, v2, hl, _, h => by
    simp only [signAll, Except.ok.injEq] at h
    exact ⟨o1, h.symm, hl, rfl⟩
  | (n2, k2, sk2) :: rest, o1, v2, hl, hne, h => by
    simp only [signAll] at h
    cases hs : signJSON S n2 k2 sk2 (.obj o1) with
    | error e => simp [hs] at h
    | ok v' =>
      simp only [hs] at h
      obtain ⟨o', hv', _, hb', _, _, hother, _⟩ := sign_effect S n2 k2 sk2 o1 v' hs
      subst hv'
      have hne1 : (n, k) ≠ (n2, k2) := fun e => hne (n2, k2, sk2) List.mem_cons_self e.symm
      have hl' : sigLookup o' n k = .found s := by
        apply sigAt_eq_some
        rw [hother n k hne1, hl]
        rfl
      obtain ⟨o2, hv2, hl2, hb2⟩ := signAll_keeps S n k s rest o' v2 hl'
        (fun x hx => hne x (List.mem_cons_of_mem _ hx)) h
      exact ⟨o2, hv2, hl2, hb2.trans hb'⟩

theorem getLast_setUnsigned_sig (u : Option JVal) (o : List (Bytes × JVal)) :
    Sign.getLast (setUnsigned u o) kSignatures = Sign.getLast o kSignatures := by
  have h1 : (kUnsigned == kSignatures) = false := by decide
  unfold setUnsigned
  rw [Sign.getLast_append, getLast_eraseKey, if_neg kSig_ne_kUns]
  cases u <;> simp [Sign.getLast, h1]

theorem body_setUnsigned (u : Option JVal) (o : List (Bytes × JVal)) : body (setUnsigned u o) = body o := by
  have h : body (eraseKey kUnsigned o) = body o := by
    simp only [body, eraseKey, List.filter_filter]
    exact List.filter_congr fun x _ => by cases x.1 != kUnsigned <;> cases x.1 != kSignatures <;> rfl
  cases u <;> simp only [setUnsigned, body_append, body_uns, h, List.append_nil] <;> rfl

/-- **The signer's signature still verifies after further entities have added their signatures and after
    `unsigned` has been replaced or removed.**  Uses only correctness of the scheme (and not `_hu`). -/
theorem sign_verify_after (S : SigScheme) (hS : SigCorrect S) (n k : Bytes) (sk : S.SK) (o : List (Bytes × JVal))
    (_hu : UniqueKeys o) (v1 : JVal) (h1 : signJSON S n k sk (.obj o) = .ok v1)
    (signers : List (Bytes × Bytes × S.SK)) (hne : ∀ x ∈ signers, (x.1, x.2.1) ≠ (n, k))
    (v2 : JVal) (h2 : signAll S signers v1 = .ok v2) (u : Option JVal) :
    ∃ o2, v2 = .obj o2 ∧ verifyJSON S n k (S.pk sk) (.obj (setUnsigned u o2)) = .ok () := by
  obtain ⟨o1, rfl, _, hb1, _, hl1, _, _⟩ := sign_effect S n k sk o v1 h1
  obtain ⟨o2, hv2, hl2, hb2⟩ := signAll_keeps S n k _ signers o1 v2 hl1 hne h2
  refine ⟨o2, hv2, (verify_iff ..).mpr ⟨S.sign sk (payload o), ?_, hS.sig_size _ _, hS.pk_size _, ?_⟩⟩
  · rw [sigLookup, getLast_setUnsigned_sig]; exact hl2
  · rw [payload, body_setUnsigned, hb2, hb1]; exact hS.correct _ _

/-- **Signing keeps `unsigned`, every signed member and every other entity's signature** (compared as the
    bytes they encode), and stores the signer's signature over the canonical form of the signed members. -/
theorem sign_preserves (S : SigScheme) (n k : Bytes) (sk : S.SK) (o : List (Bytes × JVal))
    (hu : UniqueKeys o) (v' : JVal) (h : signJSON S n k sk (.obj o) = .ok v') :
    ∃ o', v' = .obj o' ∧ UniqueKeys o' ∧ body o' = body o ∧ Sign.getLast o' kUnsigned = Sign.getLast o kUnsigned ∧
      (sigLookup o' n k).sigAt = some (S.sign sk (payload o)) ∧
      ∀ n' k', (n', k') ≠ (n, k) → (sigLookup o' n' k').sigAt = (sigLookup o n' k').sigAt := by
  obtain ⟨o', hv, hu', hb, hun, hl, hother, _⟩ := sign_effect S n k sk o v' h
  exact ⟨o', hv, hu' hu, hb, hun, by rw [hl]; rfl, hother⟩

/-- **On a freshly signed object, verification succeeds for (name', kid', pk') only if these are the
    signer's name, key ID and public key** — or the object already carried a signature for (name', kid')
    that verified under pk' before signing (an earlier signer).  Uses key binding (and not `_hu`). -/
theorem verify_sound_key (S : SigScheme) (hS : IdealSig S) (n k : Bytes) (sk : S.SK) (o : List (Bytes × JVal))
    (_hu : UniqueKeys o) (v' : JVal) (h : signJSON S n k sk (.obj o) = .ok v')
    (n' k' pk' : Bytes) (hv : verifyJSON S n' k' pk' v' = .ok ()) :
    ((n', k') = (n, k) ∧ pk' = S.pk sk) ∨
    (∃ s, (sigLookup o n' k').sigAt = some s ∧ S.verify pk' (payload o) s = true) := by
  obtain ⟨o', rfl, _, hb, _, hl, hother, _⟩ := sign_effect S n k sk o v' h
  obtain ⟨s, hs, _, _, hver⟩ := (verify_iff ..).mp hv
  rw [payload, hb] at hver
  by_cases hnk : (n', k') = (n, k)
  · cases hnk
    cases hl.symm.trans hs
    exact .inl ⟨rfl, hS.key_binding _ _ _ _ hver⟩
  · exact .inr ⟨s, by rw [← hother n' k' hnk, hs]; rfl, hver⟩

/-- **After any change to any member other than `signatures` and `unsigned`, the signer's signature no
    longer verifies — under any public key.**  `o''` is ANY object that still carries the signature made
    over `o` at (name, kid) but whose signed members denote a different value (member order and the
    spelling `-0` aside).  Uses message binding and the injectivity of the canonical encoding (C01). -/
theorem verify_sound_tamper (S : SigScheme) (hS : IdealSig S) (n k : Bytes) (sk : S.SK) (o o'' : List (Bytes × JVal))
    (hnum : (JVal.obj (body o)).numsOk = true) (hnum' : (JVal.obj (body o'')).numsOk = true)
    (hsig : sigLookup o'' n k = .found (S.sign sk (payload o)))
    (hdiff : (JVal.obj (body o'')).sorted.normNums ≠ (JVal.obj (body o)).sorted.normNums) (pk'' : Bytes) :
    verifyJSON S n k pk'' (.obj o'') ≠ .ok () := by
  intro hv
  obtain ⟨s, hs, _, _, hver⟩ := (verify_iff ..).mp hv
  cases hsig.symm.trans hs
  exact hdiff (C01.encodeCanon_injective _ _ hnum' hnum (hS.msg_binding _ _ _ _ hver))

/-- The same for a different name or key ID when nothing is stored there: without a signature at
    (name', kid') verification fails whatever the key. -/
theorem verify_needs_signature (S : SigScheme) (n' k' pk' : Bytes) (o : List (Bytes × JVal))
    (h : (sigLookup o n' k').sigAt = none) : verifyJSON S n' k' pk' (.obj o) ≠ .ok () := by
  intro hv
  obtain ⟨s, hs, _⟩ := (verify_iff ..).mp hv
  rw [hs] at h
  cases h

/-! ### The text gate: a message its readers disagree on is never signed and never verifies

`signJSONText` / `verifyJSONText` are the models of `SignJSON` / `VerifyJSON` on the message TEXT: the gate
`checkStrictJSON` (/repo fix "SignJSON and VerifyJSON refuse JSON their readers disagree on"), then the
value-level functions above.  Texts with duplicate member names, lone surrogate escapes or invalid UTF-8 — exactly
where the code accepted tampered objects before the fix — are refused, whatever the keys and the scheme. -/

/-- What `verifyJSONText` accepts: the text is within the depth limit, parses, passes the gate (the value of `unsigned`
    aside), and the value verifies. -/
theorem verifyText_iff (S : SigScheme) (n k pk t : Bytes) :
    verifyJSONText S n k pk t = .ok () ↔
      depthOk t = true ∧ ∃ p, parse t = some p ∧ (pruneUnsigned p).wellFormed = true ∧ (pruneUnsigned p).noDupKeys = true ∧
        verifyJSON S n k pk p.toJVal = .ok () := by
  unfold verifyJSONText
  cases depthOk t with
  | false => simp [errAmbiguous]
  | true =>
    cases parse t with
    | none => simp [errAmbiguous]
    | some p =>
      cases hw : (pruneUnsigned p).wellFormed <;> cases hd : (pruneUnsigned p).noDupKeys <;> simp [errAmbiguous, hw, hd]

/-- What `signJSONText` signs: the text is within the depth limit, parses, passes SignJSON's gate (distinct names, paired
    surrogate escapes, in the whole message), and the value is signed. -/
theorem signText_ok (S : SigScheme) (n k : Bytes) (sk : S.SK) (t : Bytes) (v' : JVal)
    (h : signJSONText S n k sk t = .ok v') :
    depthOk t = true ∧ ∃ p, parse t = some p ∧ pairedOk p = true ∧ p.noDupKeys = true ∧ signJSON S n k sk p.toJVal = .ok v' := by
  unfold signJSONText at h
  cases hdp : depthOk t with
  | false => simp [hdp, errAmbiguous] at h
  | true =>
    cases hp : parse t with
    | none => simp [hdp, hp, errAmbiguous] at h
    | some p =>
      cases hq : pairedOk p <;> cases hd : p.noDupKeys <;> simp [hdp, hp, hq, hd, errAmbiguous] at h
      exact ⟨rfl, p, rfl, hq, hd, h⟩

/-- **A text nested deeper than encoding/json reads is refused before anything looks into it**: whatever it contains
    (the model never evaluates `parse` on it; in the Go code `json.Valid`, a loop with an explicit stack, is the first
    statement of the gate, in front of the recursive `gjson.ValidBytes`). -/
theorem deep_refused_unread (S : SigScheme) (n k pk t : Bytes) (sk : S.SK) (h : depthOk t = false) :
    verifyJSONText S n k pk t = .error errAmbiguous ∧ signJSONText S n k sk t = .error errAmbiguous := by
  simp [verifyJSONText, signJSONText, h]

theorem depthWithin_brackets (limit : Nat) (rest : Bytes) : ∀ (m d : Nat), d ≤ limit → d + m > limit →
    depthWithin limit (List.replicate m 0x5B ++ rest) d false false = false
  | 0, d, h1, h2 => by omega
  | m + 1, d, h1, h2 => by
    have hq : ((0x5B : UInt8) == 0x22) = false := by decide
    have hb : ((0x5B : UInt8) == 0x7B || (0x5B : UInt8) == 0x5B) = true := by decide
    simp only [List.replicate_succ, List.cons_append, depthWithin, hq, hb, Bool.false_eq_true, if_false, if_true]
    by_cases hd : d + 1 > limit
    · simp [hd]
    · simp only [hd, if_false]
      exact depthWithin_brackets limit rest m (d + 1) (by omega) (by omega)

/-- The shape on which the recursive gate of /repo 185cb68 overflowed the stack (repaired in bf8d9b6): `{"a":[[[[ …` with
    more than 10000 opening brackets, whatever follows them (a valid signature block included) — refused by VerifyJSON
    and SignJSON alike. -/
theorem deep_array_refused (S : SigScheme) (n k pk : Bytes) (sk : S.SK) (m : Nat) (hm : m ≥ maxNestingDepth) (rest : Bytes) :
    verifyJSONText S n k pk (b!"{\"a\":" ++ (List.replicate m 0x5B ++ rest)) = .error errAmbiguous ∧
    signJSONText S n k sk (b!"{\"a\":" ++ (List.replicate m 0x5B ++ rest)) = .error errAmbiguous := by
  apply deep_refused_unread
  -- the five bytes in front leave the scan at depth 1, outside any string
  show depthWithin maxNestingDepth (List.replicate m 0x5B ++ rest) 1 false false = false
  exact depthWithin_brackets _ rest m 1 (by decide) (by omega)

theorem pairedOkList_of_wellFormed : (xs : List PVal) → wellFormedList xs = true → pairedOkList xs = true :=
  V.Json.pairedOkList_of_wellFormed
theorem pairedOkMembers_of_wellFormed : (kvs : List (Bytes × Bytes × PVal)) → wellFormedMembers kvs = true →
    pairedOkMembers kvs = true :=
  V.Json.pairedOkMembers_of_wellFormed

/-- pruning the value of `unsigned` keeps the names of the top-level members, well-formedness and the absence of
    duplicate names -/
theorem prune_members : ∀ kvs : List (Bytes × Bytes × PVal),
    (kvs.map (fun m => if m.2.1 == kUnsigned then (m.1, m.2.1, PVal.null) else m)).map (·.2.1) = kvs.map (·.2.1) ∧
    (wellFormedMembers kvs = true →
      wellFormedMembers (kvs.map (fun m => if m.2.1 == kUnsigned then (m.1, m.2.1, PVal.null) else m)) = true) ∧
    (noDupKeysMembers kvs = true →
      noDupKeysMembers (kvs.map (fun m => if m.2.1 == kUnsigned then (m.1, m.2.1, PVal.null) else m)) = true)
  | [] => ⟨rfl, id, id⟩
  | (raw, d, v) :: kvs => by
    obtain ⟨ih1, ih2, ih3⟩ := prune_members kvs
    simp only [List.map_cons, wellFormedMembers, noDupKeysMembers, Bool.and_eq_true, ih1]
    by_cases hu : (d == kUnsigned) = true
    · simp only [hu, if_true, PVal.wellFormed, PVal.noDupKeys, and_true, true_and]
      exact ⟨fun h => ⟨h.1.1, ih2 h.2⟩, fun h => ih3 h.2⟩
    · simp only [hu, Bool.false_eq_true, if_false, true_and]
      exact ⟨fun h => ⟨h.1, ih2 h.2⟩, fun h => ⟨h.1, ih3 h.2⟩⟩

theorem prune_strict (p : PVal) (hw : p.wellFormed = true) (hd : p.noDupKeys = true) :
    (pruneUnsigned p).wellFormed = true ∧ (pruneUnsigned p).noDupKeys = true := by
  cases p with
  | obj kvs =>
    simp only [PVal.wellFormed] at hw
    simp only [PVal.noDupKeys, Bool.and_eq_true] at hd
    obtain ⟨h1, h2, h3⟩ := prune_members kvs
    simp only [pruneUnsigned, PVal.wellFormed, PVal.noDupKeys, h1, h2 hw, hd.1, h3 hd.2, Bool.and_self, and_self]
  | _ => exact ⟨hw, hd⟩

/-- **A message that is one definite value for every reader as a whole passes both gates**: SignJSON's (no UTF-8 clause)
    and VerifyJSON's (the value of `unsigned` not looked into).  (The converse fails on purpose since VerifyJSON stopped looking into `unsigned`: an
    ambiguous value of `unsigned` is let through by VerifyJSON — it is not signed — and refused by SignJSON, which
    re-emits it.) -/
theorem strict_signStrict (t : Bytes) (h : wholeStrictJSON t = true) : signStrictJSON t = true ∧ strictJSON t = true := by
  unfold wholeStrictJSON at h
  unfold signStrictJSON strictJSON
  cases hp : parse t with
  | none => simp [hp] at h
  | some p =>
    simp only [hp, Bool.and_eq_true] at h ⊢
    obtain ⟨h1, h2⟩ := prune_strict p h.2.1 h.2.2
    exact ⟨⟨h.1, pairedOk_of_wellFormed p h.2.1, h.2.2⟩, h.1, h1, h2⟩

/-- **A text with a duplicate member name or a lone surrogate escape or invalid UTF-8 in any string or member name
    (any depth, `signatures` included; the inside of the value of `unsigned` excepted) — or nested deeper than 10000, or
    no JSON at all — never verifies**: for every scheme, name, key ID and key. -/
theorem ambiguous_never_verifies (S : SigScheme) (n k pk t : Bytes) (h : strictJSON t = false) :
    verifyJSONText S n k pk t ≠ .ok () := by
  intro hv
  obtain ⟨hdp, p, hp, hw, hd, _⟩ := (verifyText_iff S n k pk t).1 hv
  simp [strictJSON, hdp, hp, hw, hd] at h

/-- **A text with a duplicate member name (any depth, the inside of `unsigned` included) or a lone surrogate escape is
    never signed.**  (Invalid UTF-8 alone is not refused by SignJSON — `PDU.Sign` must not fail on events the constructors
    accept; VerifyJSON refuses it.) -/
theorem ambiguous_never_signed (S : SigScheme) (n k : Bytes) (sk : S.SK) (t : Bytes) (h : signStrictJSON t = false)
    (v' : JVal) : signJSONText S n k sk t ≠ .ok v' := by
  intro hs
  obtain ⟨hdp, p, hp, hw, hd, _⟩ := signText_ok S n k sk t v' hs
  simp [signStrictJSON, hdp, hp, hw, hd] at h

/-- The two classes by name: duplicate keys / ill-formed Unicode somewhere in the parsed text outside the value of
    `unsigned`. -/
theorem dup_or_illformed_never_verifies (S : SigScheme) (n k pk t : Bytes) (p : PVal) (hp : parse t = some p)
    (h : (pruneUnsigned p).noDupKeys = false ∨ (pruneUnsigned p).wellFormed = false) : verifyJSONText S n k pk t ≠ .ok () := by
  apply ambiguous_never_verifies
  rcases h with h | h <;> simp [strictJSON, hp, h]

/-- **`unsigned` may be changed to anything** (the property's "after `unsigned` is changed", at the level of texts):
    two texts within the depth limit whose parsed forms differ only in the value of the top-level `unsigned` member pass
    VerifyJSON's gate together — an ambiguous value (duplicate names, lone surrogates, invalid UTF-8 inside it) included. -/
theorem gate_ignores_unsigned_value (t t' : Bytes) (p p' : PVal) (hp : parse t = some p) (hp' : parse t' = some p')
    (hd : depthOk t = depthOk t') (hsame : pruneUnsigned p = pruneUnsigned p') : strictJSON t = strictJSON t' := by
  simp [strictJSON, hp, hp', hd, hsame]

/-- What passes the gate has distinct top-level member names: the `UniqueKeys` hypothesis of the value-level
    theorems is discharged by the gate for every message SignJSON / VerifyJSON go on to read (the pruning of the value of
    `unsigned` keeps the names).  `_hp` only says where `p` comes from. -/
theorem gate_uniqueKeys (t : Bytes) (p : PVal) (o : List (Bytes × JVal)) (_hp : parse t = some p)
    (hd : (pruneUnsigned p).noDupKeys = true) (ho : p.toJVal = .obj o) : UniqueKeys o := by
  cases p with
  | obj kvs =>
    simp only [pruneUnsigned, PVal.noDupKeys, (prune_members kvs).1, Bool.and_eq_true] at hd
    simp only [PVal.toJVal, JVal.obj.injEq] at ho
    subst ho
    rw [uniqueKeys_iff_nodup, Assoc.keys, toJMembers_keys]
    exact (noDupIn_iff_nodup _).mp hd.1
  | _ => simp [PVal.toJVal] at ho

theorem numsOk_body (o : List (Bytes × JVal)) (h : (JVal.obj o).numsOk = true) : (JVal.obj (body o)).numsOk = true := by
  simp only [JVal.numsOk, numsOkMembers_eq_all, List.all_eq_true] at h ⊢
  intro kv hkv
  exact h kv (mem_body hkv)

/-- **Tampering, at the level of texts**: `t''` is ANY text presented for verification that still carries, at
    (name, kid), the signature made over the object `t` denotes, while its signed members denote another value
    (member order and the spelling `-0` aside).  It does not verify under any key — with no side condition on
    either text: the number literals are grammatical because the texts parse, and a `t''` with duplicate names
    or ill-formed Unicode is refused by the gate before its signature is looked at. -/
theorem verify_text_sound_tamper (S : SigScheme) (hS : IdealSig S) (n k : Bytes) (sk : S.SK)
    (t t'' : Bytes) (p p'' : PVal) (o o'' : List (Bytes × JVal))
    (hp : parse t = some p) (ho : p.toJVal = .obj o) (hp'' : parse t'' = some p'') (ho'' : p''.toJVal = .obj o'')
    (hsig : sigLookup o'' n k = .found (S.sign sk (payload o)))
    (hdiff : (JVal.obj (body o'')).sorted.normNums ≠ (JVal.obj (body o)).sorted.normNums) (pk'' : Bytes) :
    verifyJSONText S n k pk'' t'' ≠ .ok () := by
  intro hv
  obtain ⟨_, q, hq, _, _, hvq⟩ := (verifyText_iff S n k pk'' t'').1 hv
  rw [hp''] at hq; cases hq
  rw [ho''] at hvq
  have hn : (JVal.obj o).numsOk = true := by rw [← ho]; exact parse_numsOk hp
  have hn'' : (JVal.obj o'').numsOk = true := by rw [← ho'']; exact parse_numsOk hp''
  exact verify_sound_tamper S hS n k sk o o'' (numsOk_body o hn) (numsOk_body o'' hn'') hsig hdiff pk'' hvq

/-- **On a signed object, `ListKeyIDs(name')` lists exactly the key IDs under which VerifyJSON finds a
    signature of name'** — in particular the signer's key ID is listed for the signer.  Membership only: Go returns the
    key IDs in map order.  `_hu` is not used. -/
theorem listKeyIDs_complete (S : SigScheme) (n k : Bytes) (sk : S.SK) (o : List (Bytes × JVal))
    (_hu : UniqueKeys o) (v' : JVal) (h : signJSON S n k sk (.obj o) = .ok v') (n' : Bytes) :
    ∃ o' ks, v' = .obj o' ∧ listKeyIDs n' v' = some ks ∧
      (∀ k', k' ∈ ks ↔ ((sigLookup o' n' k').sigAt).isSome = true) ∧ (n' = n → k ∈ ks) := by
  obtain ⟨o', rfl, _, _, _, hl, _, hkeys⟩ := sign_effect S n k sk o v' h
  obtain ⟨ks, hks, hmem⟩ := hkeys n'
  exact ⟨o', ks, rfl, hks, hmem, fun hn => by subst hn; rw [hmem k, hl]; rfl⟩

/-- SignJSON has no reachable panic site (the nil-map writes were removed in /repo d8b0e36). -/
theorem sign_never_panics (S : SigScheme) (n k : Bytes) (sk : S.SK) (v : JVal) (site : String) :
    signJSON S n k sk v ≠ .error (.panic site) := by
  unfold signJSON
  simp only
  split
  · simp [errUnmarshal]
  · split <;> simp

/-! ### Non-vacuity: a toy scheme satisfying every hypothesis, and concrete instances -/

/-- `sign sk m = (sk, m)`: 256 one-byte keys, the signature is the key followed by the message. -/
def toyScheme : SigScheme :=
  { SK := UInt8
    pk := fun sk => [sk]
    sign := fun sk m => sk :: m
    verify := fun pk m s => match pk with
      | [x] => s == x :: m
      | _ => false
    sigSizeOk := fun _ => true
    pkSizeOk := fun _ => true }

theorem toy_verify {pk' m' m : Bytes} {sk : UInt8} (h : toyScheme.verify pk' m' (toyScheme.sign sk m) = true) :
    pk' = [sk] ∧ m' = m := by
  simp only [toyScheme] at h
  split at h
  · injection beq_iff_eq.mp h with h1 h2
    exact ⟨by rw [h1], h2.symm⟩
  · cases h

/-- the hypotheses of the soundness theorems are jointly satisfiable -/
theorem toy_ideal : IdealSig toyScheme where
  correct := by intro sk m; simp [toyScheme]
  sig_size := by intro sk m; rfl
  pk_size := by intro sk; rfl
  msg_binding := fun _ _ _ _ h => (toy_verify h).2
  key_binding := fun _ _ _ _ h => (toy_verify h).1

/-- a non-trivial instance of the hypotheses of `sign_verify_after`, `sign_preserves`, `verify_sound_key` -/
def sampleObject : List (Bytes × JVal) :=
  [(b!"type", .str b!"m.room.member"), (b!"unsigned", .obj [(b!"age", .num b!"5")]),
   (b!"signatures", .obj [(b!"hs1", .obj [(b!"ed25519:1", .str b!"AQID")])])]

example : UniqueKeys sampleObject := by
  unfold UniqueKeys sampleObject; decide +kernel

/-- decidable form of "verification succeeded" for the concrete examples -/
def accepted : Except Err Unit → Bool
  | .ok _ => true
  | .error _ => false

/-- `sampleObject` signed as hs2 -/
def signedSample : JVal :=
  match signJSON toyScheme b!"hs2" b!"ed25519:a" (7 : UInt8) (.obj sampleObject) with
  | .ok v => v
  | .error _ => .null

/-- accepted under hs2's key, rejected under another key and under another name's (pre-existing, random) signature -/
example : accepted (verifyJSON toyScheme b!"hs2" b!"ed25519:a" [7] signedSample) = true ∧
    accepted (verifyJSON toyScheme b!"hs2" b!"ed25519:a" [8] signedSample) = false ∧
    accepted (verifyJSON toyScheme b!"hs1" b!"ed25519:1" [7] signedSample) = false := by
  decide +kernel

/-- Case variants of the two keys are ordinary members: a top-level `Signatures` is kept, signed, and not
    read as the signature map (it used to be copied into `signatures`: /repo 0fb2afd). -/
def caseVariantWitness : List (Bytes × JVal) :=
  [(b!"a", .num b!"1"), (b!"Signatures", .obj [(b!"evil", .obj [(b!"k", .str b!"AAAA")])])]

def sigAtAfterSigning (o : List (Bytes × JVal)) (n' k' : Bytes) : Option Bytes :=
  match signJSON toyScheme b!"srv" b!"ed25519:1" (7 : UInt8) (.obj o) with
  | .ok (.obj o') => (sigLookup o' n' k').sigAt
  | _ => none

example : sigAtAfterSigning caseVariantWitness b!"evil" b!"k" = none ∧
    (sigAtAfterSigning caseVariantWitness b!"srv" b!"ed25519:1").isSome = true ∧
    (body caseVariantWitness).length = 2 := by
  decide +kernel

/-! ### The inputs on which VerifyJSON / SignJSON went wrong before the strict-JSON gate (/repo 185cb68; `k7` in the names
is the label that finding carries in the header of VModel/Sign.lean): refused — for every scheme and key -/

/-- `"a":"ab"` rewritten to `"a":"a\ud800b"` under the old signature: CompactJSON dropped the lone surrogate. -/
def k7LoneSurrogate : Bytes := b!"{\"a\":\"a\\ud800b\",\"n\":{\"x\":1},\"signatures\":{\"srv\":{\"ed25519:1\":\"AAAA\"}}}"
/-- a duplicate member placed first: encoding/json kept the last (signed) one, gjson reads `EVIL` -/
def k7DuplicateFirst : Bytes := b!"{\"a\":\"EVIL\",\"a\":\"ab\",\"n\":{\"x\":1},\"signatures\":{\"srv\":{\"ed25519:1\":\"AAAA\"}}}"
/-- the same with the name respelled -/
def k7DuplicateRespelled : Bytes := b!"{\"\\u0061\":\"EVIL\",\"a\":\"ab\",\"signatures\":{\"srv\":{\"ed25519:1\":\"AAAA\"}}}"
/-- a lone surrogate in a nested member name -/
def k7NestedName : Bytes := b!"{\"a\":\"ab\",\"n\":{\"x\\udfff\":1},\"signatures\":{\"srv\":{\"ed25519:1\":\"AAAA\"}}}"
/-- a second `signatures` member placed first -/
def k7SecondSignatures : Bytes := b!"{\"signatures\":{},\"a\":\"ab\",\"signatures\":{\"srv\":{\"ed25519:1\":\"AAAA\"}}}"
/-- a nested duplicate, as SignJSON used to sign it -/
def k7NestedDuplicate : Bytes := b!"{\"n\":{\"x\":1,\"x\":2}}"
/-- invalid UTF-8 in a member name (encoding/json read U+FFFD) -/
def k7InvalidUtf8Name : Bytes := [0x7B, 0x22, 0xFF, 0x22, 0x3A, 0x31, 0x7D]

theorem k7_refused : strictJSON k7LoneSurrogate = false ∧ strictJSON k7DuplicateFirst = false ∧
    strictJSON k7DuplicateRespelled = false ∧ strictJSON k7NestedName = false ∧ strictJSON k7SecondSignatures = false ∧ strictJSON k7NestedDuplicate = false ∧
    strictJSON k7InvalidUtf8Name = false := by
  decide +kernel

example : strictJSON k7LoneSurrogate = false ∧ strictJSON k7DuplicateFirst = false ∧ strictJSON k7DuplicateRespelled = false ∧
    strictJSON k7NestedName = false ∧ strictJSON k7SecondSignatures = false ∧ strictJSON k7NestedDuplicate = false ∧
    strictJSON k7InvalidUtf8Name = false :=
  k7_refused

example (S : SigScheme) (n k pk : Bytes) : verifyJSONText S n k pk k7LoneSurrogate ≠ .ok () ∧
    verifyJSONText S n k pk k7DuplicateFirst ≠ .ok () ∧ verifyJSONText S n k pk k7SecondSignatures ≠ .ok () :=
  ⟨ambiguous_never_verifies S n k pk _ k7_refused.1, ambiguous_never_verifies S n k pk _ k7_refused.2.1,
   ambiguous_never_verifies S n k pk _ k7_refused.2.2.2.2.1⟩

example (S : SigScheme) (n k : Bytes) (sk : S.SK) (v' : JVal) : signJSONText S n k sk k7NestedDuplicate ≠ .ok v' ∧
    signJSONText S n k sk k7LoneSurrogate ≠ .ok v' :=
  ⟨ambiguous_never_signed S n k sk _ (by decide +kernel) v', ambiguous_never_signed S n k sk _ (by decide +kernel) v'⟩

/-- the split: SignJSON's gate has no UTF-8 clause, VerifyJSON's has -/
example : signStrictJSON k7InvalidUtf8Name = true ∧ strictJSON k7InvalidUtf8Name = false := by decide +kernel

/-- the gate lets well-formed texts through — a proper surrogate pair included — and the text-level functions then
    agree with the value-level ones: sign a text, verify the canonical bytes of the result -/
def pairText : Bytes := b!"{\"a\":\"\\ud83d\\ude00\",\"n\":{\"x\":1}}"

example : strictJSON pairText = true ∧ signStrictJSON pairText = true ∧
    (match signJSONText toyScheme b!"srv" b!"ed25519:1" (7 : UInt8) pairText with
     | .ok v => accepted (verifyJSONText toyScheme b!"srv" b!"ed25519:1" [7] (encodeCanon v)) &&
                !accepted (verifyJSONText toyScheme b!"srv" b!"ed25519:1" [8] (encodeCanon v))
     | .error _ => false) = true := by
  decide +kernel

/-- a signed object whose `unsigned` was changed to something no two readers agree on: a lone surrogate escape and a
    duplicate name inside it -/
def x4UnsignedAmbiguous : Bytes :=
  b!"{\"a\":\"ab\",\"signatures\":{\"srv\":{\"ed25519:1\":\"AAAA\"}},\"unsigned\":{\"x\":\"\\ud800\",\"d\":1,\"d\":2}}"

/-- VerifyJSON's gate lets it through (the value of `unsigned` is not looked into), SignJSON's does not (SignJSON re-emits
    `unsigned`); a second `unsigned` member, or an ill-formed member NAME at the top level, is still refused by both -/
example : strictJSON x4UnsignedAmbiguous = true ∧ signStrictJSON x4UnsignedAmbiguous = false ∧
    wholeStrictJSON x4UnsignedAmbiguous = false ∧
    strictJSON b!"{\"a\":1,\"unsigned\":{},\"unsigned\":{}}" = false ∧
    strictJSON b!"{\"a\":1,\"unsigned\\ud800\":{}}" = false := by
  decide +kernel

/-- sign a text, change `unsigned` of the result to the ambiguous value above: still verified under the signer's key, still
    refused under another key, and the changed text passes the gate (the last conjunct reads `(!strictJSON t') == false`) -/
example :
    (match signJSONText toyScheme b!"srv" b!"ed25519:1" (7 : UInt8) b!"{\"a\":\"ab\"}" with
     | .ok (.obj o) =>
       let t := encodeCanon (.obj o)
       let t' := t.dropLast ++ b!",\"unsigned\":{\"x\":\"\\ud800\",\"d\":1,\"d\":2}}"
       accepted (verifyJSONText toyScheme b!"srv" b!"ed25519:1" [7] t') &&
         !accepted (verifyJSONText toyScheme b!"srv" b!"ed25519:1" [8] t') && !strictJSON t' == false
     | _ => false) = true := by
  decide +kernel

/-- the depth scan on small texts: brackets inside strings do not count, the limit is on the open brackets -/
example : depthWithin 2 b!"{\"a\":[\"[[[[\\\"[[\"]}" 0 false false = true ∧ depthWithin 2 b!"{\"a\":[[1]]}" 0 false false = false ∧
    depthOk b!"{\"a\":[[1]]}" = true := by
  decide +kernel

end V.C02
