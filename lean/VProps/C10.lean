/-
  C10 — State resolution returns the state the room version's algorithm defines.

  The DEFINITION is `VModel/StateResSpec.lean` (declarative, stage by stage, with the library's refinements R1–R7 of
  DESIGN.md §6.2; R8 does not arise on acyclic input, R9 is about the deprecated entry points and C11 only); the
  theorems below say that the executable model `VModel/StateRes.lean` (tied to the Go code by the
  correspondence check) computes it: stage-wise refinement theorems, their composition for algorithms 2 (v2) and
  3 (v2.1), version 1, and the entry-point dispatch on the regenerated room-version table.

  Hypotheses used throughout (`V.StateResSpec.WF`, `Ranked`): event IDs identify events within the input, every state
  set is a state map (no event twice, one event per key), and the auth graph of the supplied events is acyclic
  (some rank on IDs decreases along auth_events).  `resolves_unique` and `execSpec_eq_model` ask in addition for at most
  one conflicted create event (`hc`).  `V.StateResSpec.Example` is a concrete non-trivial instance.
-/
import VModel.StateRes
import VProofs.StateResSpecUnique
import VProofs.StateResSpecExample
import VProofs.StateResSpecV1
import VProofs.StateResSpecExecResolve
import VProofs.StateResSpecExecV1
namespace V.C10
open V.StateRes V.StateResSpec

/-- Which algorithm each registered room version selects: v1 for "1"; v2 for 2–11 and the unstable versions based
    on them; v2.1 for "12" and org.matrix.hydra.11.  Breaks when someone edits the table. -/
theorem stateres_column_eq_spec :
    VGen.roomVersions.map (fun r => (r.key, r.stateResAlgorithm)) =
      [("1", 1), ("10", 2), ("11", 2), ("12", 3), ("2", 2), ("3", 2), ("4", 2), ("5", 2), ("6", 2), ("7", 2), ("8", 2), ("9", 2),
       ("org.matrix.hydra.11", 3), ("org.matrix.msc3667", 2), ("org.matrix.msc3787", 2), ("org.matrix.msc4014", 2)] := rfl

/-- `ResolveConflictsNew` runs exactly the algorithm the table names (and nothing for an unknown version). -/
theorem entrypoint_selects (sha : ID → Bytes) (ver : Bytes) (sets : List (List Event)) (auth : List Event) (rej : List ID)
    (row : VGen.VersionRow) (h : versionRow? ver = some row) :
    resolveConflictsNew sha ver sets auth rej =
      if row.stateResAlgorithm == 1 then
        some ((resolveV1 sha (splitConflictedUnconflicted true sets).1 auth ++ (splitConflictedUnconflicted true sets).2).map (·.eventID))
      else if row.stateResAlgorithm == 2 || row.stateResAlgorithm == 3 then
        some (resolveV2New row.stateResAlgorithm sets auth rej).result
      else none := by
  unfold resolveConflictsNew
  simp only [h]

/-! ## Closures = reachability (no acyclicity needed: the fuel bound is a pigeonhole) -/

/-- With the fuel the model uses (any fuel ≥ |map| + 1) the auth closure of `start` is the set of IDs of the events
    reachable from `start` by ≥ 1 auth step inside the auth map (`IdNodup m`: IDs identify events within the map,
    which `eventMapFromEvents` guarantees: `eventMap_idNodup`). -/
theorem authClosure_iff_reachable {m : List Event} (hm : IdNodup m) (start : List Event) {fuel : Nat}
    (hfuel : m.length + 1 ≤ fuel) (id : ID) :
    id ∈ authClosure m fuel start [] ↔ ∃ s ∈ start, ∃ y, y.eventID = id ∧ ReachPlus (· ∈ m) s y :=
  V.StateResSpec.authClosure_iff_reachable hm start hfuel id

example (auth : List Event) : IdNodup (eventMapFromEvents auth) := eventMap_idNodup auth

/-- R3: the control closure started from the roots (whose IDs are recorded) adds what is reachable from them through
    events of the conflicted map. -/
theorem controlClosure_iff {cm : List Event} (hm : IdNodup cm) (roots : List Event) (rootIDs : List ID) {fuel : Nat}
    (hfuel : cm.length + 1 ≤ fuel) (h0 : ∀ x ∈ cm, x.eventID ∈ rootIDs → x ∈ roots) (id : ID) :
    id ∈ controlClosure cm fuel roots rootIDs ↔
      id ∈ rootIDs ∨ ∃ r ∈ roots, ∃ y, y.eventID = id ∧ ReachPlus (· ∈ cm) r y :=
  V.StateResSpec.controlClosure_iff hm roots rootIDs hfuel h0 id

example : ∀ x ∈ eventMapFromEvents Example.exAuth, x.eventID ∈ [Example.eP].map (·.eventID) → x ∈ [Example.eP] := by
  intro x hx hid
  have hx' : x ∈ Example.exSets.flatten ++ Example.exAuth := List.mem_append_right _ (mem_eventMap hx)
  simp only [List.map_cons, List.map_nil, List.mem_singleton] at hid
  have := Example.id_inj (Example.mem_all hx') (Or.inr (Or.inr (Or.inl rfl))) hid
  simp [this]

/-- v2 / v2.1: an event is unconflicted iff EVERY state set maps its key to it and to nothing else; every other state
    event of the state sets is conflicted. -/
theorem split_eq_spec (sets : List (List Event)) (hids : IDsIdentify (· ∈ sets.flatten)) (hnd : ∀ S ∈ sets, S.Nodup) :
    (∀ e, e ∈ (splitConflictedUnconflicted false sets).1 ↔ Conflicted sets e) ∧
    (∀ e, e ∈ (splitConflictedUnconflicted false sets).2 ↔ Unconflicted sets e) :=
  V.StateResSpec.split_eq_spec sets hids hnd

example : IDsIdentify (· ∈ Example.exSets.flatten) ∧ ∀ S ∈ Example.exSets, S.Nodup :=
  ⟨fun a b ha hb => Example.exWF.ids a b (List.mem_append_left _ ha) (List.mem_append_left _ hb),
   fun S hS => (Example.exWF.maps S hS).1⟩

/-- R2 (version 1): a key with a single candidate event overall is unconflicted. -/
theorem split_v1_eq_spec (sets : List (List Event)) (hids : IDsIdentify (· ∈ sets.flatten)) :
    (∀ e, e ∈ (splitConflictedUnconflicted true sets).1 ↔ ConflictedV1 sets e) ∧
    (∀ e, e ∈ (splitConflictedUnconflicted true sets).2 ↔ UnconflictedV1 sets e) :=
  V.StateResSpec.split_v1_eq_spec sets hids

/-- algorithm 2: the events added to the conflicted set are ⋃ chains \ ⋂ chains of the full auth chains of the state sets -/
theorem authDifference_eq_spec {m : List Event} (hm : IdNodup m) (conflicted : List Event) (sets : List (List Event))
    (y : Event) : y ∈ authDifferenceNew 2 m conflicted sets ↔ AuthDifference (· ∈ m) sets y :=
  V.StateResSpec.authDifference_eq_spec hm conflicted sets y

/-- v2.1: the IDs of the conflicted subgraph: events on an auth path from a conflicted event of a state set to a
    conflicted event (`U`: a universe of events identified by their IDs that contains the inputs). -/
theorem subgraph_eq_spec {U : Event → Prop} (hU : IDsIdentify U) {m : List Event} (hm : IdNodup m)
    (hmU : ∀ x ∈ m, U x) {sets : List (List Event)} (hSU : ∀ S ∈ sets, ∀ x ∈ S, U x) (conflicted : List Event) (id : ID) :
    id ∈ subIDs 3 m conflicted sets ↔
      ∃ x, x.eventID = id ∧ ConflictedSubgraph (· ∈ m) (· ∈ conflicted) sets x :=
  V.StateResSpec.subgraph_eq_spec hU hm hmU hSU conflicted id

/-- algorithm 3 (v2.1): auth difference ∪ conflicted subgraph -/
theorem authDifference21_eq_spec {U : Event → Prop} (hU : IDsIdentify U) {m : List Event} (hm : IdNodup m)
    (hmU : ∀ x ∈ m, U x) {sets : List (List Event)} (hSU : ∀ S ∈ sets, ∀ x ∈ S, U x) {conflicted : List Event}
    (hcU : ∀ x ∈ conflicted, U x) (y : Event) :
    y ∈ authDifferenceNew 3 m conflicted sets ↔
      AuthDifference (· ∈ m) sets y ∨ ConflictedSubgraph (· ∈ m) (· ∈ conflicted) sets y :=
  V.StateResSpec.authDifference21_eq_spec hU hm hmU hSU hcU y

/-- the universe hypotheses (`hU`, `hmU`, `hSU`) hold for the example input -/
example : IDsIdentify (fun e => e ∈ Example.exSets.flatten ++ Example.exAuth) ∧
    (∀ x ∈ eventMapFromEvents Example.exAuth, x ∈ Example.exSets.flatten ++ Example.exAuth) ∧
    (∀ S ∈ Example.exSets, ∀ x ∈ S, x ∈ Example.exSets.flatten ++ Example.exAuth) :=
  ⟨Example.exWF.ids, fun _ hx => List.mem_append_right _ (mem_eventMap hx),
   fun S hS _ hx => List.mem_append_left _ (List.mem_flatten.mpr ⟨S, hS, hx⟩)⟩

/-! ## Control set (R3) and the rest -/

theorem controlSet_eq_spec {U : Event → Prop} {full confMap unconf : List Event} (hU : IDsIdentify U)
    (hfU : ∀ x ∈ full, U x) (hcU : ∀ x ∈ confMap, U x) (hcm : IdNodup confMap) (x : Event) :
    x ∈ controlEventsOf full confMap (unconf.map (·.eventID)) ↔
      ControlSet (· ∈ confMap) (· ∈ full) (· ∈ unconf) x :=
  V.StateResSpec.controlSet_eq_spec hU hfU hcU hcm x

theorem otherSet_eq_spec {U : Event → Prop} {full confMap unconf : List Event} (hU : IDsIdentify U)
    (hfU : ∀ x ∈ full, U x) (hcU : ∀ x ∈ confMap, U x) (hcm : IdNodup confMap) (x : Event) :
    x ∈ othersOf full confMap (unconf.map (·.eventID)) ↔
      OtherSet (· ∈ confMap) (· ∈ full) (· ∈ unconf) x :=
  V.StateResSpec.otherSet_eq_spec hU hfU hcU hcm x

theorem powerOrder_unique {α : Type} {lt child : α → α → Prop} (hasym : ∀ a b, lt a b → ¬ lt b a) {input out₁ out₂ : List α}
    (h1 : IsPowerOrder lt child input out₁) (h2 : IsPowerOrder lt child input out₂) : out₁ = out₂ :=
  IsPowerOrder.functional hasym h1 h2

/-- Kahn's algorithm as the library runs it (generic in the key, the strict total comparator and the parent
    relation) produces THE power order of its input: a duplicate-free enumeration of the distinct input in which
    every event comes after its parents and, read from the end, each event is the greatest free one (R8 aside: for
    acyclic input there are no strays). -/
theorem kahn_is_power_order {κ : Type} (lt : κ → κ → Bool) (parents : Event → List ID) (nodes0 : List (KNode κ))
    (hlt : StrictTotal lt)
    (hid : ∀ n ∈ nodes0, ∀ n' ∈ nodes0, n.ev.eventID = n'.ev.eventID → n = n')
    (hkey : ∀ n ∈ nodes0, ∀ n' ∈ nodes0, n.key = n'.key → n = n')
    (hacyc : ∃ rk : ID → Nat, ∀ n ∈ nodes0, ∀ p ∈ parents n.ev, (∃ n' ∈ nodes0, n'.ev.eventID = p) → rk p < rk n.ev.eventID) :
    IsPowerOrder (fun a b => lt a.key b.key = true) (fun a x => x.ev.eventID ∈ parents a.ev) nodes0
      (kahnNodes lt parents nodes0) ∧ kahn lt parents nodes0 = (kahnNodes lt parents nodes0).map (·.ev) :=
  ⟨kahnNodes_is_power_order lt parents nodes0 hlt hid hkey hacyc, kahn_eq_map lt parents nodes0⟩

/-- the comparator and key hypotheses hold for the nodes `reverseTopoAuth` builds from the example's auth events -/
example : StrictTotal powerLt ∧
    (∀ n ∈ Example.exAuth.map (powerNode [] none), ∀ n' ∈ Example.exAuth.map (powerNode [] none),
      n.key = n'.key → n = n') := by
  refine ⟨powerLt_strictTotal, ?_⟩
  intro n hn n' hn' hk
  obtain ⟨a, ha, rfl⟩ := List.mem_map.mp hn
  obtain ⟨b, hb, rfl⟩ := List.mem_map.mp hn'
  have hid : a.eventID = b.eventID := congrArg PowerKey.id hk
  have : a = b := Example.id_inj (Example.mem_all (List.mem_append_right _ ha)) (Example.mem_all (List.mem_append_right _ hb)) hid
  rw [this]

/-- the ordering of power events: by sender power (R4) descending, timestamp, event ID -/
theorem reverseTopoAuth_is_power_order (m : List Event) (createEv : Option Event) (evs : List Event)
    (hid : ∀ a ∈ evs, ∀ b ∈ evs, a.eventID = b.eventID → a = b)
    (hacyc : ∃ rk : ID → Nat, ∀ e ∈ evs, ∀ p ∈ e.authEventIDs, (∃ e' ∈ evs, e'.eventID = p) → rk p < rk e.eventID) :
    IsReverseTopoPowerOrder m createEv evs (reverseTopoAuth m createEv evs) :=
  V.StateResSpec.reverseTopoAuth_is_power_order m createEv evs hid hacyc

example : ∃ rk : ID → Nat, ∀ e ∈ Example.exAuth, ∀ p ∈ e.authEventIDs, (∃ e' ∈ Example.exAuth, e'.eventID = p) →
    rk p < rk e.eventID :=
  ranked_kahn Example.exRanked Example.exAuth (fun _ h => List.mem_append_right _ h)

/-! ## Mainline (R5) -/

theorem mainline_eq_spec {m : List Event} (hac : Acyclic (· ∈ m)) (pl : Option Event) :
    IsMainline m pl (createMainline m pl) := V.StateResSpec.mainline_eq_spec hac pl

theorem mainline_unique {m : List Event} {pl : Option Event} {l₁ l₂ : List Event} (h1 : IsMainline m pl l₁)
    (h2 : IsMainline m pl l₂) : l₁ = l₂ := IsMainline.unique h1 h2

/-- the normal case (at most one power-levels auth event each): the mainline is the chain of power-levels
    ancestors of the resolved power-levels event, oldest first -/
theorem mainline_normal_case {m : List Event} (hac : Acyclic (· ∈ m)) {e : Event} {c : List Event} (h : PLChain m e c) :
    createMainline m (some e) = c.reverse := IsMainline.unique (mainline_eq_spec hac (some e)) (mainline_of_chain h)

theorem mainlinePos_eq_spec (ml : List Event) (id : ID) : mainlinePos ml id = posOf ml id := mainlinePos_eq_posOf ml id

theorem posSteps_eq_spec {m ml : List Event} (hac : Acyclic (· ∈ m)) (e : Event) :
    MainlinePosSteps m ml e (firstMainline m ml (m.length + 2) [] e (0, 0)) := V.StateResSpec.posSteps_eq_spec hac e

theorem posSteps_normal_case {m ml : List Event} (hac : Acyclic (· ∈ m)) {e : Event} {r : Nat × Nat}
    (h : ChainWalk m ml e 0 r) : firstMainline m ml (m.length + 2) [] e (0, 0) = r :=
  MainlinePosSteps.unique (posSteps_eq_spec hac e) (walk_of_chainWalk h)

/-- mainline ordering = sort by (position, steps, timestamp, ID) -/
theorem mainlineOrdering_eq_spec {m : List Event} (hac : Acyclic (· ∈ m)) (ml evs : List Event) :
    IsMainlineOrder m ml evs (mainlineOrdering m ml evs) := V.StateResSpec.mainlineOrdering_eq_spec hac ml evs

/-- a sort by a total order on distinct events is THE sorted permutation -/
theorem mainlineOrdering_unique {m : List Event} (hac : Acyclic (· ∈ m)) {ml evs out : List Event}
    (hid : ∀ a ∈ evs, ∀ b ∈ evs, a.eventID = b.eventID → a = b) (h : IsMainlineOrder m ml evs out) :
    out = mainlineOrdering m ml evs := IsMainlineOrder.unique hid h (mainlineOrdering_eq_spec hac ml evs)

example : Acyclic (· ∈ eventMapFromEvents Example.exAuth) :=
  ranked_acyclic Example.exRanked (fun _ hx => List.mem_append_right _ (mem_eventMap hx))

/-- iterative auth checks are a left fold (definitional) … -/
theorem iterativeAuth_eq_fold (m : List Event) (rejected : List ID) (s : State) (evs : List Event) :
    authAndApply m rejected s evs = evs.foldl (modelAuthStep m rejected) s :=
  V.StateResSpec.iterativeAuth_eq_fold m rejected s evs

/-- … whose step is the defined one (R7: partial state per needed key, else the event's own non-rejected auth events) -/
theorem iterativeAuth_eq_spec (m : List Event) (rejected : List ID) (evs : List Event) {s : State} {f : SMap}
    (h : StateRel s f) (hk : KeysNodup s) :
    StateRel (authAndApply m rejected s evs) (iterAuth m rejected f evs) ∧ KeysNodup (authAndApply m rejected s evs) :=
  ⟨authAndApply_rel m rejected evs h, V.StateRes.authAndApply_keys_nodup m rejected _ evs hk⟩

example : StateRel [] SMap.empty ∧ KeysNodup [] := ⟨stateRel_nil, keysNodup_nil⟩

/-- **Algorithm 2 (room versions 2–11).** The resolved state is one that `Resolves` per the definition, and the IDs the
    model returns are exactly its events. -/
theorem resolveV2_eq_spec (sets : List (List Event)) (auth : List Event) (rejected : List ID) (hwf : WF sets auth)
    (hr : Ranked (sets.flatten ++ auth)) :
    ∃ result : SMap, Resolves 2 sets (eventMapFromEvents auth) auth rejected result ∧
      ∀ id, id ∈ (resolveV2New 2 sets auth rejected).result ↔ ∃ k e, result k = some e ∧ e.eventID = id :=
  resolveV2New_eq_spec 2 (Or.inl rfl) sets auth rejected hwf hr

/-- **Algorithm 3 = v2.1 (room version 12).** Same, with the conflicted subgraph added and the empty starting state. -/
theorem resolveV2_1_eq_spec (sets : List (List Event)) (auth : List Event) (rejected : List ID) (hwf : WF sets auth)
    (hr : Ranked (sets.flatten ++ auth)) :
    ∃ result : SMap, Resolves 3 sets (eventMapFromEvents auth) auth rejected result ∧
      ∀ id, id ∈ (resolveV2New 3 sets auth rejected).result ↔ ∃ k e, result k = some e ∧ e.eventID = id :=
  resolveV2New_eq_spec 3 (Or.inr rfl) sets auth rejected hwf hr

example : WF Example.exSets Example.exAuth ∧ Ranked (Example.exSets.flatten ++ Example.exAuth) ∧
    Conflicted Example.exSets Example.eA :=
  ⟨Example.exWF, Example.exRanked, Example.exConflicted⟩

/-- The definition determines the resolved state (given at most one conflicted create event): the state above is THE
    state the algorithm defines.  `roomCreate` takes the first create event of the unconflicted events, else of `auth`, else
    of the conflicted ones, and only the last search can depend on the enumeration (the unconflicted events hold one event
    per key; `auth` is a fixed list here, while C11 rearranges it as well, hence its `Input.oneCreate` over all supplied events). -/
theorem resolves_unique {algo : Nat} {sets : List (List Event)} {m auth : List Event} {rejected : List ID}
    (hU : IDsIdentify (fun e => e ∈ sets.flatten ++ m))
    (hc : ∀ a b, Conflicted sets a → Conflicted sets b → a.isCreate = true → b.isCreate = true → a = b)
    {r₁ r₂ : SMap} (h1 : Resolves algo sets m auth rejected r₁) (h2 : Resolves algo sets m auth rejected r₂) : r₁ = r₂ :=
  Resolves.unique hU hc h1 h2

example : IDsIdentify (fun e => e ∈ Example.exSets.flatten ++ eventMapFromEvents Example.exAuth) ∧
    (∀ a b, Conflicted Example.exSets a → Conflicted Example.exSets b → a.isCreate = true → b.isCreate = true → a = b) := by
  refine ⟨Example.exWF.ids_eventMap, ?_⟩
  · intro a b ha hb hca hcb
    -- the only create event of the example is `eC`
    have inU : ∀ x, Conflicted Example.exSets x → x ∈ Example.exSets.flatten ++ Example.exAuth := by
      rintro x ⟨⟨S, hS, hx⟩, _⟩
      exact List.mem_append_left _ (List.mem_flatten.mpr ⟨S, hS, hx⟩)
    have only : ∀ x, x ∈ Example.exSets.flatten ++ Example.exAuth → x.isCreate = true → x = Example.eC := by
      intro x hx hc
      have hk := isCreate_key hc
      rcases Example.mem_all hx with rfl | rfl | rfl | rfl | rfl
      · rfl
      · rw [Example.key_M] at hk; exact absurd hk (by decide)
      · rw [Example.key_P] at hk; exact absurd hk (by decide)
      · rw [Example.key_A] at hk; exact absurd hk (by decide)
      · rw [Example.key_B] at hk; exact absurd hk (by decide)
    rw [only a (inU a ha) hca, only b (inU b hb) hcb]

/-! ## Version 1 (R1) -/

/-- candidates are tried by depth ascending then SHA-1 descending: the model's sort produces such an order, and the
    order is unique when no two candidates tie -/
theorem v1Order_eq_spec (sha : ID → Bytes) (block : List Event) : IsV1Order sha block (sortV1 sha block) :=
  ⟨sortOn_perm v1Lt (V.StateResSpec.v1Key sha) block, sortOn_sorted (V.StateResSpec.v1Key sha) v1Lt_strictTotal block⟩

theorem v1Order_unique {sha : ID → Bytes} {block o₁ o₂ : List Event}
    (hk : ∀ a ∈ block, ∀ b ∈ block, V.StateResSpec.v1Key sha a = V.StateResSpec.v1Key sha b → a = b) (h1 : IsV1Order sha block o₁)
    (h2 : IsV1Order sha block o₂) : o₁ = o₂ := IsV1Order.unique hk h1 h2

/-- **Version 1.** `ResolveStateConflicts` resolves the conflicted keys phase by phase as defined (R1): auth blocks in
    the order create, power_levels, join_rules, third_party_invite, member (winners registered only after their phase,
    each block leaving the registered events as it found them), then the rest; no hypotheses. -/
theorem resolveV1_eq_spec (sha : ID → Bytes) (conflicted auth : List Event) :
    V1Resolves sha conflicted auth (resolveV1 sha conflicted auth) :=
  V.StateResSpec.resolveV1_eq_spec sha conflicted auth

/-- … and the definition determines the result when no two conflicted events tie on (depth, SHA-1) -/
theorem resolveV1_unique {sha : ID → Bytes} {conflicted auth r : List Event}
    (hk : ∀ a ∈ conflicted, ∀ b ∈ conflicted, V.StateResSpec.v1Key sha a = V.StateResSpec.v1Key sha b → a = b) (h : V1Resolves sha conflicted auth r) :
    r = resolveV1 sha conflicted auth := V.StateResSpec.resolveV1_unique hk h

example : ∀ a ∈ [Example.eA, Example.eB], ∀ b ∈ [Example.eA, Example.eB],
    V.StateResSpec.v1Key (fun id => id) a = V.StateResSpec.v1Key (fun id => id) b → a = b := by
  intro a ha b hb h
  have hid : a.eventID = b.eventID := congrArg V1Key.sha1 h
  exact Example.id_inj (by simp at ha; rcases ha with rfl | rfl <;> simp)
    (by simp at hb; rcases hb with rfl | rfl <;> simp) hid

/-- Version 1 is independent of the order in which the conflicted keys are presented (which
    `splitConflictedUnconflicted` takes from a Go map iteration): every block leaves the registered auth events as it
    found them (`afterBlock`), so two runs of the DEFINITION on two presentations of the same conflicted events pick the
    same events.  (Before the fix of `resolveAuthBlock` — it used to clear the winner's slot until the end of the phase,
    dropping the supplied auth event in it — this was false, with a failing input reproduced on the Go code; that input
    is `Example.v1_former_counterexample`.)  `P1`: one supplied auth event per slot; `hk`: no (depth, SHA-1) ties. -/
theorem v1_result_independent_of_block_order {sha : ID → Bytes} {l₁ l₂ auth r₁ r₂ : List Event} (hp : l₁.Perm l₂)
    (P1 : ∀ a ∈ auth, ∀ b ∈ auth, a.stateKey.isSome → V.StateRes.keyOf a = V.StateRes.keyOf b → b.stateKey.isSome → a = b)
    (hk : ∀ a ∈ l₁, ∀ b ∈ l₁, V.StateResSpec.v1Key sha a = V.StateResSpec.v1Key sha b → a = b)
    (h1 : V1Resolves sha l₁ auth r₁) (h2 : V1Resolves sha l₂ auth r₂) : r₁.Perm r₂ := by
  have hk2 : ∀ a ∈ l₂, ∀ b ∈ l₂, V.StateResSpec.v1Key sha a = V.StateResSpec.v1Key sha b → a = b :=
    fun a ha b hb => hk a (hp.mem_iff.mpr ha) b (hp.mem_iff.mpr hb)
  rw [resolveV1_unique hk h1, resolveV1_unique hk2 h2]
  exact resolveV1_perm sha hp P1 hk

/-- the former failing input: both presentations now resolve to the same events -/
example : ((resolveV1 (fun id => id) [Example.vA1, Example.vA2, Example.vB1, Example.vB2] Example.vAuth).map (·.eventID),
     (resolveV1 (fun id => id) [Example.vB1, Example.vB2, Example.vA1, Example.vA2] Example.vAuth).map (·.eventID)) =
      ([b!"$A2:h", b!"$B2:h"], [b!"$B2:h", b!"$A2:h"]) := Example.v1_former_counterexample

example : ∃ row, versionRow? b!"10" = some row ∧ row.stateResAlgorithm = 2 := by decide +kernel

/-- `ResolveConflictsNew` on a registered room version returns the state the version's algorithm defines:
    version 1 — the R2 split, `V1Resolves` for the conflicted keys, plus the unconflicted events;
    algorithm 2 / 3 — a state that `Resolves`. -/
theorem entrypoint_eq_spec (sha : ID → Bytes) (ver : Bytes) (sets : List (List Event)) (auth : List Event) (rej : List ID)
    (row : VGen.VersionRow) (h : versionRow? ver = some row) (hwf : WF sets auth) (hr : Ranked (sets.flatten ++ auth)) :
    (row.stateResAlgorithm = 1 →
      ∃ ids, resolveConflictsNew sha ver sets auth rej = some ids ∧ V1Result sha sets auth ids) ∧
    (row.stateResAlgorithm = 2 ∨ row.stateResAlgorithm = 3 →
      ∃ ids result, resolveConflictsNew sha ver sets auth rej = some ids ∧
        Resolves row.stateResAlgorithm sets (eventMapFromEvents auth) auth rej result ∧
        ∀ id, id ∈ ids ↔ ∃ k e, result k = some e ∧ e.eventID = id) := by
  rw [entrypoint_selects sha ver sets auth rej row h]
  constructor
  · intro h1
    exact ⟨_, by simp [h1], v1_entry_eq_spec sha sets auth
      (fun a b ha hb => hwf.ids a b (List.mem_append_left _ ha) (List.mem_append_left _ hb))⟩
  · intro h23
    obtain ⟨result, hres, hids⟩ := resolveV2New_eq_spec row.stateResAlgorithm h23 sets auth rej hwf hr
    exact ⟨_, result, by rcases h23 with h2 | h3 <;> simp [*], hres, hids⟩

/-! ## The executable rendering of the definition (the specification stream of the correspondence check) -/

/-- `VModel/StateResSpecExec.lean` — the definition executed directly (sets by comprehension, reachability by
    saturation, power order by repeatedly selecting the greatest free event, …), sharing no loop with the model —
    satisfies the definition … -/
theorem execSpec_resolves (algo : Nat) (halgo : algo = 2 ∨ algo = 3) (sets : List (List Event)) (auth : List Event)
    (rejected : List ID) (hwf : WF sets auth) (hr : Ranked (sets.flatten ++ auth)) :
    ∃ result : SMap, Resolves algo sets (Exec.authMap auth) auth rejected result ∧
      ∀ id, id ∈ Exec.resolve algo sets auth rejected ↔ ∃ k e, result k = some e ∧ e.eventID = id :=
  Exec.resolve_resolves algo halgo sets auth rejected hwf hr

/-- … and hence returns exactly the events the model returns. -/
theorem execSpec_eq_model (algo : Nat) (halgo : algo = 2 ∨ algo = 3) (sets : List (List Event)) (auth : List Event)
    (rejected : List ID) (hwf : WF sets auth) (hr : Ranked (sets.flatten ++ auth))
    (hc : ∀ a b, Conflicted sets a → Conflicted sets b → a.isCreate = true → b.isCreate = true → a = b) (id : ID) :
    id ∈ Exec.resolve algo sets auth rejected ↔ id ∈ (resolveV2New algo sets auth rejected).result := by
  obtain ⟨r1, h1, hid1⟩ := Exec.resolve_resolves algo halgo sets auth rejected hwf hr
  obtain ⟨r2, h2, hid2⟩ := resolveV2New_eq_spec algo halgo sets auth rejected hwf hr
  rw [Exec.authMap_eq_eventMap] at h1
  rw [hid1, hid2, Resolves.unique hwf.ids_eventMap hc h1 h2]

/-- **Version 1: the executable rendering of the definition** (`Exec.v1Resolve`, the specification stream of the
    correspondence for room version 1) **satisfies the definition** `V1Resolves`; no hypotheses. -/
theorem execSpecV1_resolves (sha : ID → Bytes) (conflicted auth : List Event) :
    V1Resolves sha conflicted auth (Exec.v1Resolve sha conflicted auth) :=
  Exec.v1Resolve_resolves sha conflicted auth

/-- … and hence returns what the model's `resolveV1` returns when no two conflicted events tie on (depth, SHA-1).
    (`V.StateResSpec.resolveV1_eq_v1Resolve` has the equation without `hk`.) -/
theorem execSpecV1_eq_model {sha : ID → Bytes} {conflicted auth : List Event}
    (hk : ∀ a ∈ conflicted, ∀ b ∈ conflicted, V.StateResSpec.v1Key sha a = V.StateResSpec.v1Key sha b → a = b) :
    Exec.v1Resolve sha conflicted auth = resolveV1 sha conflicted auth :=
  V.StateResSpec.resolveV1_unique hk (Exec.v1Resolve_resolves sha conflicted auth)

end V.C10
