/-
  C08 — Power-level changes can never escalate privilege.

  The specification `NoEscalation` is written directly on the old and new contents (effective values,
  i.e. with defaults substituted — departure D3 of DESIGN.md §6.1); the theorems say that whatever the
  model of `powerLevelsEventAllowed` accepts satisfies it.
-/
import VModel.Auth
import VProofs.AuthRulesBase
import VProofs.Assoc
import VProofs.Guard
namespace V.C08
open V.Json V.GoJson V.Auth

/-- The named action thresholds of a power-levels content. -/
def namedLevels : List (PowerLevels → Int) :=
  [(·.ban), (·.invite), (·.kick), (·.redact), (·.stateDefault), (·.eventsDefault), (·.usersDefault)]

/-- No escalation, stated on the contents: `L` is the sender's current level. -/
structure NoEscalation (L : Int) (sender : Bytes) (old new : PowerLevels) : Prop where
  /-- every named threshold that changes was at most `L` and is set to at most `L` -/
  named : ∀ f ∈ namedLevels, f new ≠ f old → f old ≤ L ∧ f new ≤ L
  /-- the level required for ANY event type (listed or not) that changes was ≤ L and stays ≤ L.
      READING (DESIGN.md §6.1 D3 / D4): the value compared is the EFFECTIVE level of the type for a
      NON-state event — the `events` entry when there is one, else `events_default` (`invite` for
      m.room.third_party_invite) — on both sides.  So "nothing whose current value is above the sender's level has been
      changed" is about that value: ADDING an entry for a type that had none is judged against `events_default`, not
      against `state_default`, even though for state events of that type the threshold in force was `state_default`
      (e.g. `state_default` 100, sender at 50 with `events["m.room.power_levels"] = 50`, adds
      `events["m.room.join_rules"] = 0`: accepted, `events_default` 0 → 0 is no change; Matrix rule 10.7 and Synapse accept
      it as well — they look at the `events` map entries only).  Under the literal reading with `state_default` the
      example is an escalation; it is recorded as part of departure D4. -/
  events : ∀ t : Bytes, new.eventLevel t false ≠ old.eventLevel t false →
    old.eventLevel t false ≤ L ∧ new.eventLevel t false ≤ L
  /-- every user entry (present before or after) whose effective level changes: the new level is ≤ L, and
      unless it is the sender's own entry the old level was strictly below L -/
  users : ∀ u : Bytes, (u ∈ new.users.map (·.1) ∨ u ∈ old.users.map (·.1)) → new.userLevel u ≠ old.userLevel u →
    new.userLevel u ≤ L ∧ (u ≠ sender → old.userLevel u < L)

/-- the test each of the three level checks makes on one old value `o` and new value `n`, for a sender at level `L`: nothing
    changed, or the new value is within `L` and the check's own condition `x` on the old value holds -/
theorem changed_level {o n L : Int} {x : Bool} (h : (o == n || (!decide (L < n) && x)) = true) (hne : n ≠ o) :
    n ≤ L ∧ x = true := by
  simp only [Bool.or_eq_true, Bool.and_eq_true, Bool.not_eq_true', decide_eq_false_iff_not, beq_iff_eq] at h
  exact (h.resolve_left (Ne.symm hne)).imp_left Int.not_lt.mp

theorem checkEventLevels_sound (L : Int) (old new : PowerLevels) (h : checkEventLevels L old new = true) :
    ∀ p ∈ eventLevelPairs old new, p.1 ≠ p.2 → p.1 ≤ L ∧ p.2 ≤ L := by
  intro p hp hne
  obtain ⟨h1, h2⟩ := changed_level (List.all_eq_true.mp h p hp) (Ne.symm hne)
  exact ⟨Int.not_lt.mp (by simpa using h2), h1⟩

theorem named_in_pairs (old new : PowerLevels) (f) (hf : f ∈ namedLevels) : (f old, f new) ∈ eventLevelPairs old new := by
  -- the first seven pairs are the named levels, in the order of `namedLevels`
  exact List.mem_append_left _ (List.mem_append_left _
    (show (f old, f new) ∈ namedLevels.map (fun f => (f old, f new)) from List.mem_map.mpr ⟨f, hf, rfl⟩))

theorem accepted_levels_named (L : Int) (old new : PowerLevels) (h : checkEventLevels L old new = true) :
    ∀ f ∈ namedLevels, f new ≠ f old → f old ≤ L ∧ f new ≤ L := by
  intro f hf hne
  exact checkEventLevels_sound L old new h _ (named_in_pairs old new f hf) (fun e => hne e.symm)

theorem accepted_levels_events (L : Int) (old new : PowerLevels) (h : checkEventLevels L old new = true) :
    ∀ t : Bytes, new.eventLevel t false ≠ old.eventLevel t false →
      old.eventLevel t false ≤ L ∧ new.eventLevel t false ≤ L := by
  intro t hne
  by_cases hn : t ∈ new.events.map (·.1)
  · obtain ⟨kv, hkv, rfl⟩ := List.mem_map.mp hn
    apply checkEventLevels_sound L old new h (old.eventLevel kv.1 false, new.eventLevel kv.1 false)
    · unfold eventLevelPairs
      simp only [List.mem_append, List.mem_map]
      exact Or.inl (Or.inr ⟨kv, hkv, rfl⟩)
    · exact fun e => hne e.symm
  · by_cases ho : t ∈ old.events.map (·.1)
    · obtain ⟨kv, hkv, rfl⟩ := List.mem_map.mp ho
      apply checkEventLevels_sound L old new h (old.eventLevel kv.1 false, new.eventLevel kv.1 false)
      · unfold eventLevelPairs
        simp only [List.mem_append, List.mem_map]
        exact Or.inr ⟨kv, hkv, rfl⟩
      · exact fun e => hne e.symm
    · -- listed on neither side: the effective level is `invite` or `events_default` on both sides
      have e1 : mapGet new.events t = none := Assoc.lookup_eq_none.mpr hn
      have e2 : mapGet old.events t = none := Assoc.lookup_eq_none.mpr ho
      unfold PowerLevels.eventLevel at hne ⊢
      by_cases h3 : t == b!"m.room.third_party_invite"
      · simp only [h3, if_true] at hne ⊢
        exact accepted_levels_named L old new h (·.invite) (by simp [namedLevels]) hne
      · simp only [h3, e1, e2] at hne ⊢
        exact accepted_levels_named L old new h (·.eventsDefault) (by simp [namedLevels]) (by simpa using hne)

theorem accepted_levels_users (L : Int) (sender : Bytes) (old new : PowerLevels)
    (h : checkUserLevels L sender old new = true) :
    ∀ u : Bytes, (u ∈ new.users.map (·.1) ∨ u ∈ old.users.map (·.1)) → new.userLevel u ≠ old.userLevel u →
      new.userLevel u ≤ L ∧ (u ≠ sender → old.userLevel u < L) := by
  intro u hu hne
  obtain ⟨h1, h2⟩ := changed_level (List.all_eq_true.mp h u (List.mem_append.mpr hu)) hne
  exact ⟨h1, fun hs => by simpa [hs] using h2⟩

theorem checks_imply_no_escalation (L : Int) (sender : Bytes) (old new : PowerLevels)
    (h1 : checkEventLevels L old new = true) (h2 : checkUserLevels L sender old new = true) :
    NoEscalation L sender old new :=
  ⟨accepted_levels_named L old new h1, accepted_levels_events L old new h1, accepted_levels_users L sender old new h2⟩

/-- Notification levels (room versions whose table entry is checkPowerLevelEventV2 / V3): a changed
    notification level is set to ≤ the sender's level `L` and was strictly below it (departure D11).  Which `L` the
    check is made at: `accepted_pl_notifications`. -/
theorem accepted_notifications (L : Int) (old new : PowerLevels) (h : checkNotificationLevels L old new = true) :
    ∀ k : Bytes, (k ∈ new.notifications.map (·.1) ∨ k ∈ old.notifications.map (·.1)) →
      new.notificationLevel k ≠ old.notificationLevel k →
      new.notificationLevel k ≤ L ∧ old.notificationLevel k < L := by
  intro k hk hne
  obtain ⟨h1, h2⟩ := changed_level (List.all_eq_true.mp h k (List.mem_append.mpr hk)) hne
  exact ⟨h1, by simpa using h2⟩

/-- Non-vacuity: a concrete accepted change (a level-50 user lowers `kick` from 50 to 40 and demotes a level-10 user). -/
example :
    let old : PowerLevels := { PowerLevels.defaults with users := [(b!"@a:x", 50), (b!"@b:x", 10)] }
    let new : PowerLevels := { PowerLevels.defaults with kick := 40, users := [(b!"@a:x", 50), (b!"@b:x", 0)] }
    checkEventLevels 50 old new = true ∧ checkUserLevels 50 b!"@a:x" old new = true := by decide

/-- …and a refused escalation: the same user raising `users_default` above their own level (the defect fixed in /repo). -/
example :
    let old : PowerLevels := { PowerLevels.defaults with users := [(b!"@a:x", 50)] }
    let new : PowerLevels := { PowerLevels.defaults with usersDefault := 100, users := [(b!"@a:x", 50)] }
    checkEventLevels 50 old new = false := by decide

/-- What an accepted power-levels event guarantees (end to end through `powerLevelsEventAllowed`). -/
structure AcceptedPL (a : Ctx) (e : Event) : Prop where
  ex : ∃ (newPL : PowerLevels) (L : Int),
    powerLevelsFromEvent e = .ok newPL ∧ a.userPowerLevel e.sender = .ok L ∧
    NoEscalation L e.sender a.pl newPL ∧ a.checkPowerLevelEvent e a.pl newPL = .ok ()

/-- **C08, main theorem.**  Whenever the model of `powerLevelsEventAllowed` accepts an event, the change from the
    current power levels `a.pl` to the event's content satisfies `NoEscalation` at the sender's current level,
    and the version-specific check (notifications, creators) passed as well. -/
theorem accepted_pl_no_escalation (a : Ctx) (e : Event) (h : a.powerLevelsEventAllowed e = .ok ()) : AcceptedPL a e := by
  unfold Ctx.powerLevelsEventAllowed at h
  obtain ⟨member, _, h⟩ := Guard.bind_ok h
  obtain ⟨_, _, h⟩ := Guard.bind_ok h
  obtain ⟨newPL, hnew, h⟩ := Guard.bind_ok h
  simp only [AuthRules.error_bind, AuthRules.failErr_bind, AuthRules.notAllowed_bind] at h
  obtain ⟨_, h⟩ := Guard.ok_iff.mp h
  obtain ⟨_, h⟩ := Guard.ok_iff.mp h
  obtain ⟨L, hL, h⟩ := Guard.bind_ok h
  obtain ⟨hce, h⟩ := Guard.ok_iff.mp h
  obtain ⟨_, hcpl, h⟩ := Guard.bind_ok h
  obtain ⟨hcu, _⟩ := Guard.ok_iff.mp h
  exact ⟨newPL, L, hnew, hL, checks_imply_no_escalation L e.sender a.pl newPL (by simpa using hce) (by simpa using hcu), hcpl⟩

/-- what checkPowerLevelEventV3 accepts: the create event is there and decodable, the notification levels pass at the
    sender's level — the creators' level for a creator — and `users` names no creator -/
theorem checkPowerLevelEventV3_ok {a : Ctx} {e : Event} {old new : PowerLevels} {row : VGen.VersionRow}
    (hrow : e.row = some row) (hv : row.checkPowerLevelEvent = "checkPowerLevelEventV3")
    (h : a.checkPowerLevelEvent e old new = .ok ()) :
    ∃ ce cc, a.createEvent = some ce ∧ decodeCreateContent ce.content = some cc ∧
      checkNotificationLevels (if (ce.sender :: cc.additionalCreators).contains e.sender then creatorPowerLevel
        else old.userLevel e.sender) old new = true ∧
      (new.users.any fun kv => (ce.sender :: cc.additionalCreators).contains kv.1) = false := by
  unfold Ctx.checkPowerLevelEvent at h
  have e1 : ("checkPowerLevelEventV3" == "checkPowerLevelEventV1") = false := by decide
  have e2 : ("checkPowerLevelEventV3" == "checkPowerLevelEventV2") = false := by decide
  simp only [hrow, hv, e1, e2, beq_self_eq_true, Bool.false_eq_true, if_false, if_true] at h
  cases hce : a.createEvent with
  | none => rw [hce] at h; cases h
  | some ce =>
    rw [hce] at h
    cases hcc : decodeCreateContent ce.content with
    | none => simp only [hcc] at h; cases h
    | some cc =>
      simp only [hcc] at h
      obtain ⟨hn, h⟩ := Guard.ok_iff.mp h
      obtain ⟨hu, _⟩ := Guard.ok_iff.mp h
      exact ⟨ce, cc, rfl, hcc, by simpa only [Bool.not_eq_true', Bool.not_eq_false] using hn, Bool.eq_false_iff.mpr hu⟩

/-- **Version 12 (checkPowerLevelEventV3): an accepted power-levels event never names a room creator.** -/
theorem v12_no_creator_in_users (a : Ctx) (e : Event) (old new : PowerLevels) (row : VGen.VersionRow)
    (hrow : e.row = some row) (hv : row.checkPowerLevelEvent = "checkPowerLevelEventV3")
    (h : a.checkPowerLevelEvent e old new = .ok ()) :
    ∃ ce cc, a.createEvent = some ce ∧ decodeCreateContent ce.content = some cc ∧
      ∀ u ∈ new.users.map (·.1), u ≠ ce.sender ∧ u ∉ cc.additionalCreators := by
  obtain ⟨ce, cc, hce, hcc, _, hany⟩ := checkPowerLevelEventV3_ok hrow hv h
  refine ⟨ce, cc, hce, hcc, fun u hu => ?_⟩
  obtain ⟨kv, hkv, rfl⟩ := List.mem_map.mp hu
  have hn : ¬ (ce.sender :: cc.additionalCreators).contains kv.1 = true := fun hc => by
    rw [List.any_eq_true.mpr ⟨kv, hkv, hc⟩] at hany
    cases hany
  simpa only [List.contains_eq_mem, List.mem_cons, decide_eq_true_eq, not_or] using hn

/-- **Version 10 and later (parseIntegerPowerLevels): every level in an accepted content is an integer literal** — the
    content satisfies the independent predicate `AuthRules.integerContent` (no `null`, no string, no float, no
    non-object where an object of levels belongs). -/
theorem integer_only_levels (c : Option JVal) (d p : PowerLevels) (h : parseIntegerPowerLevels c d = some p) :
    AuthRules.integerContent c = true :=
  AuthRules.parseInteger_sound h

/-- … spelled out for a content that is a JSON object: each named level that is present is an integer literal in range,
    and `users` / `events` / `notifications`, when present, are objects all of whose values are such literals. -/
theorem integer_only_levels_spelled (kvs : List (Bytes × JVal)) (d p : PowerLevels)
    (h : parseIntegerPowerLevels (some (.obj kvs)) d = some p) :
    (∀ k ∈ AuthRules.namedLevelKeys, ∀ v, lookupExact kvs k = some v → ∃ lit n, v = .num lit ∧ parseInt64 lit = some n) ∧
    (∀ k ∈ [b!"users", b!"events", b!"notifications"], ∀ v, lookupExact kvs k = some v →
      ∃ m, v = .obj m ∧ ∀ kv ∈ m, ∃ lit n, kv.2 = .num lit ∧ parseInt64 lit = some n) := by
  have hi := integer_only_levels _ d p h
  unfold AuthRules.integerContent AuthRules.contentFields at hi
  simp only [Bool.and_eq_true, List.all_eq_true] at hi
  have lit_of : ∀ v, AuthRules.isIntegerLiteral v = true → ∃ lit n, v = .num lit ∧ parseInt64 lit = some n := by
    intro v hv
    unfold AuthRules.isIntegerLiteral at hv
    cases v with
    | num lit =>
      simp only at hv
      cases hp : parseInt64 lit with
      | none => simp [hp] at hv
      | some n => exact ⟨lit, n, rfl, hp⟩
    | _ => simp at hv
  constructor
  · intro k hk v hv
    have := hi.1 k hk
    rw [hv] at this
    exact lit_of v this
  · intro k hk v hv
    have := hi.2 k hk
    rw [hv] at this
    unfold AuthRules.isIntegerMap at this
    cases v with
    | obj m =>
      simp only [List.all_eq_true] at this
      exact ⟨m, rfl, fun kv hkv => lit_of kv.2 (this kv hkv)⟩
    | _ => simp at this

/-- the defect repaired in 33ac4f7, kernel-checked on the former failing inputs: `null` for a level, for a map of
    levels, or for a value of such a map is refused by the integer-only parser (and an integer content still parses) -/
example :
    parseIntegerPowerLevels (some (.obj [(b!"ban", .null)])) PowerLevels.defaults = none ∧
    parseIntegerPowerLevels (some (.obj [(b!"users", .obj [(b!"@a:hs1", .null)])])) PowerLevels.defaults = none ∧
    parseIntegerPowerLevels (some (.obj [(b!"events", .null)])) PowerLevels.defaults = none ∧
    parseIntegerPowerLevels (some (.obj [(b!"events", .obj [(b!"m.room.name", .null)])])) PowerLevels.defaults = none ∧
    parseIntegerPowerLevels (some (.obj [(b!"notifications", .obj [(b!"room", .null)])])) PowerLevels.defaults = none ∧
    (parseIntegerPowerLevels (some (.obj [(b!"ban", .num b!"60"), (b!"users", .obj [(b!"@a:hs1", .num b!"50")])])) PowerLevels.defaults).isSome = true := by
  decide

/-- Which registered versions run which power-level check / parser (regenerated table vs the specification:
    notification levels from v6, creators excluded in v12, integer-only levels from v10). -/
theorem pl_columns_eq_spec :
    VGen.roomVersions.map (fun r => (r.key, r.checkPowerLevelEvent, r.parsePowerLevelsFunc)) =
      [("1", "checkPowerLevelEventV1", "parsePowerLevels"), ("10", "checkPowerLevelEventV2", "parseIntegerPowerLevels"),
       ("11", "checkPowerLevelEventV2", "parseIntegerPowerLevels"), ("12", "checkPowerLevelEventV3", "parseIntegerPowerLevels"),
       ("2", "checkPowerLevelEventV1", "parsePowerLevels"), ("3", "checkPowerLevelEventV1", "parsePowerLevels"),
       ("4", "checkPowerLevelEventV1", "parsePowerLevels"), ("5", "checkPowerLevelEventV1", "parsePowerLevels"),
       ("6", "checkPowerLevelEventV2", "parsePowerLevels"), ("7", "checkPowerLevelEventV2", "parsePowerLevels"),
       ("8", "checkPowerLevelEventV2", "parsePowerLevels"), ("9", "checkPowerLevelEventV2", "parsePowerLevels"),
       ("org.matrix.hydra.11", "checkPowerLevelEventV3", "parseIntegerPowerLevels"),
       ("org.matrix.msc3667", "checkPowerLevelEventV2", "parseIntegerPowerLevels"),
       ("org.matrix.msc3787", "checkPowerLevelEventV2", "parsePowerLevels"),
       ("org.matrix.msc4014", "checkPowerLevelEventV2", "parseIntegerPowerLevels")] := rfl

/-! ## Histories of accepted power-level events

The quantifier of C08 also ranges over *sequences* of accepted power-levels events starting from a room's initial state.
The single-step theorem `accepted_pl_no_escalation` applies to every step of such a sequence (each step is judged
against the content left by the previous one); the history-level consequence proved here is the **privilege ceiling**:
no sequence of accepted power-levels events, of any length, ever gives any user (listed or defaulted) a level above the
highest level any sender held when the sequence started.  It is stated twice, each with its own induction: on contents
alone (`Chain`, `history_ceiling`) and on runs of the model (`Linked`, `accepted_history`). -/

/-- every user's effective level (listed entry or `users_default`) is at most `C` -/
def Ceiling (C : Int) (p : PowerLevels) : Prop := ∀ u : Bytes, p.userLevel u ≤ C

theorem userLevel_unlisted (p : PowerLevels) (u : Bytes) (h : u ∉ p.users.map (·.1)) : p.userLevel u = p.usersDefault := by
  unfold PowerLevels.userLevel
  rw [show mapGet p.users u = none from Assoc.lookup_eq_none.mpr h]; rfl

/-- One accepted step keeps the ceiling, provided the sender's own level was under it. -/
theorem ceiling_step (C L : Int) (s : Bytes) (old new : PowerLevels) (hL : L ≤ C) (hc : Ceiling C old)
    (h : NoEscalation L s old new) : Ceiling C new := by
  intro u
  by_cases hne : new.userLevel u = old.userLevel u
  · rw [hne]; exact hc u
  · by_cases hl : u ∈ new.users.map (·.1) ∨ u ∈ old.users.map (·.1)
    · have := (h.users u hl hne).1; omega
    · -- listed on neither side: the level is `users_default` before and after, and that named threshold changed
      have hn : u ∉ new.users.map (·.1) := fun x => hl (Or.inl x)
      have ho : u ∉ old.users.map (·.1) := fun x => hl (Or.inr x)
      rw [userLevel_unlisted new u hn, userLevel_unlisted old u ho] at hne
      rw [userLevel_unlisted new u hn]
      have := (h.named (·.usersDefault) (by simp [namedLevels]) hne).2
      omega

/-- A history: from `cur`, a list of steps (sender level, sender, new content), each satisfying `NoEscalation`
    against the content left by the previous step, every sender level being at most `C`. -/
def Chain (C : Int) : PowerLevels → List (Int × Bytes × PowerLevels) → Prop
  | _, [] => True
  | cur, (L, s, new) :: rest => L ≤ C ∧ NoEscalation L s cur new ∧ Chain C new rest

def contentsAfter : PowerLevels → List (Int × Bytes × PowerLevels) → List PowerLevels
  | _, [] => []
  | _, (_, _, new) :: rest => new :: contentsAfter new rest

/-- **Privilege ceiling over histories of any length.** -/
theorem history_ceiling (C : Int) (p0 : PowerLevels) (steps : List (Int × Bytes × PowerLevels))
    (h0 : Ceiling C p0) (hch : Chain C p0 steps) : ∀ p ∈ contentsAfter p0 steps, Ceiling C p := by
  induction steps generalizing p0 with
  | nil => intro p hp; cases hp
  | cons st rest ih =>
    obtain ⟨L, s, new⟩ := st
    obtain ⟨hL, hne, hrest⟩ := hch
    have hnew := ceiling_step C L s p0 new hL h0 hne
    intro p hp
    simp only [contentsAfter, List.mem_cons] at hp
    rcases hp with rfl | hp
    · exact hnew
    · exact ih new hnew hrest p hp

/-- The sender level the model uses is under the ceiling: with a power-levels event in force and a sender who is not a
    privileged (v12) creator it is the sender's entry in the current content. -/
theorem senderLevel_le_ceiling (a : Ctx) (u : Bytes) (C L : Int) (hc : Ceiling C a.pl)
    (hpl : a.plEvent.isSome) (hnc : (a.privilegedCreators && a.creators.contains u) = false)
    (h : a.userPowerLevel u = .ok L) : L ≤ C := by
  unfold Ctx.userPowerLevel at h
  rw [hnc] at h
  simp only [Bool.false_eq_true, if_false] at h
  cases hp : a.plEvent with
  | none => simp [hp] at hpl
  | some pe =>
    simp only [hp] at h
    cases h
    exact hc u

/-- A run of the model: contexts and the power-levels events they accept, each context holding as its current content
    what the previous accepted event set (`Linked`). -/
def Linked : List (Ctx × Event) → Prop
  | [] => True
  | [_] => True
  | (_, e) :: (a', e') :: rest => powerLevelsFromEvent e = .ok a'.pl ∧ Linked ((a', e') :: rest)

/-- **C08 over sequences (model level).**  Along every linked run in which each event is accepted by
    `powerLevelsEventAllowed` (senders being ordinary users under a power-levels event), every step satisfies
    `NoEscalation` against the content in force, and the privilege ceiling of the first content is never exceeded. -/
theorem accepted_history (C : Int) (run : List (Ctx × Event))
    (hacc : ∀ ae ∈ run, ae.1.powerLevelsEventAllowed ae.2 = .ok () ∧ ae.1.plEvent.isSome ∧
              (ae.1.privilegedCreators && ae.1.creators.contains ae.2.sender) = false)
    (hlink : Linked run) (h0 : ∀ ae, run.head? = some ae → Ceiling C ae.1.pl) :
    ∀ ae ∈ run, AcceptedPL ae.1 ae.2 ∧ Ceiling C ae.1.pl ∧ ∀ new, powerLevelsFromEvent ae.2 = .ok new → Ceiling C new := by
  induction run with
  | nil => intro ae h; cases h
  | cons hd rest ih =>
    obtain ⟨a, e⟩ := hd
    have hc0 : Ceiling C a.pl := h0 (a, e) rfl
    obtain ⟨hok, hpl, hnc⟩ := hacc (a, e) (List.mem_cons_self ..)
    have hA := accepted_pl_no_escalation a e hok
    obtain ⟨newPL, L, hnew, hL, hne, _⟩ := hA.ex
    have hLC := senderLevel_le_ceiling a e.sender C L hc0 hpl hnc hL
    have hcn : Ceiling C newPL := ceiling_step C L e.sender a.pl newPL hLC hc0 hne
    intro ae hmem
    rcases List.mem_cons.mp hmem with rfl | hmem
    · refine ⟨hA, hc0, ?_⟩
      intro new hn
      rw [hnew] at hn; cases hn; exact hcn
    · apply ih (fun x hx => hacc x (List.mem_cons_of_mem _ hx))
      · cases rest with
        | nil => trivial
        | cons hd2 tl => exact hlink.2
      · intro ae' hh
        cases rest with
        | nil => cases hh
        | cons hd2 tl =>
          obtain ⟨a2, e2⟩ := hd2
          simp only [List.head?_cons, Option.some.injEq] at hh
          subst hh
          have := hlink.1
          rw [hnew] at this
          cases this
          exact hcn
      · exact hmem

/-- Notification levels, end to end: in the versions whose table entry is checkPowerLevelEventV2 / V3 (room version 6
    and later, see `pl_columns_eq_spec`) an accepted power-levels event passed `checkNotificationLevels` at the sender's
    level `L`, hence `accepted_notifications` applies to it at that level.  `L` is the sender's level in the old content —
    or, in version 12 (checkPowerLevelEventV3), the creators' level 2^53 when the sender is the create event's sender or
    one of its `additional_creators` (creators are privileged: repaired in 548eba1; before, a creator was judged at
    `users_default`). -/
theorem accepted_pl_notifications (a : Ctx) (e : Event) (old new : PowerLevels) (row : VGen.VersionRow)
    (hrow : e.row = some row)
    (hv : row.checkPowerLevelEvent = "checkPowerLevelEventV2" ∨ row.checkPowerLevelEvent = "checkPowerLevelEventV3")
    (h : a.checkPowerLevelEvent e old new = .ok ()) :
    ∃ L, checkNotificationLevels L old new = true ∧
      (L = old.userLevel e.sender ∨
       (L = creatorPowerLevel ∧ row.checkPowerLevelEvent = "checkPowerLevelEventV3" ∧
        ∃ ce cc, a.createEvent = some ce ∧ decodeCreateContent ce.content = some cc ∧
          (e.sender = ce.sender ∨ e.sender ∈ cc.additionalCreators))) := by
  rcases hv with hv | hv
  · unfold Ctx.checkPowerLevelEvent at h
    have e1 : ("checkPowerLevelEventV2" == "checkPowerLevelEventV1") = false := by decide
    simp only [hrow, hv, e1, beq_self_eq_true, Bool.false_eq_true, if_false, if_true] at h
    refine ⟨old.userLevel e.sender, ?_, Or.inl rfl⟩
    cases hn : checkNotificationLevels (old.userLevel e.sender) old new with
    | true => rfl
    | false => rw [hn] at h; cases h
  · obtain ⟨ce, cc, hce, hcc, hn, _⟩ := checkPowerLevelEventV3_ok hrow hv h
    refine ⟨_, hn, ?_⟩
    split
    · rename_i hcr
      exact Or.inr ⟨rfl, hv, ce, cc, hce, hcc, by simpa using hcr⟩
    · exact Or.inl rfl

/-- **Version 10 and later, end to end**: a power-levels event the model of `powerLevelsEventAllowed` accepts in a room
    version whose parser is parseIntegerPowerLevels contains no non-integer level. -/
theorem accepted_pl_integer (a : Ctx) (e : Event) (row : VGen.VersionRow) (hrow : e.row = some row)
    (hp : row.parsePowerLevelsFunc = "parseIntegerPowerLevels") (h : a.powerLevelsEventAllowed e = .ok ()) :
    AuthRules.integerContent e.content = true := by
  obtain ⟨newPL, L, hnew, _, _, _⟩ := (accepted_pl_no_escalation a e h).ex
  cases hi : AuthRules.integerContent e.content with
  | true => rfl
  | false => rw [AuthRules.powerLevelsFromEvent_int hrow hp hi] at hnew; cases hnew

/-- the defect repaired in 548eba1, on the former failing input (old content `{users:{@a:50}}`, the creator adds
    `notifications.room = 60`): refused at the level the old content gives the creator (`users_default` = 0), accepted at
    the creators' level -/
example :
    let old : PowerLevels := { PowerLevels.defaults with users := [(b!"@a:hs1", 50)] }
    let new : PowerLevels := { PowerLevels.defaults with users := [(b!"@a:hs1", 50)], notifications := [(b!"room", 60)] }
    checkNotificationLevels (old.userLevel b!"@c:hs1") old new = false ∧ checkNotificationLevels creatorPowerLevel old new = true := by
  decide

/-- Non-vacuity of the history theorem's premises: a two-step chain under ceiling 100
    (a level-100 user promotes b to 50; b then lowers `kick` to 40). -/
example :
    let p0 : PowerLevels := { PowerLevels.defaults with users := [(b!"@a:x", 100)] }
    let p1 : PowerLevels := { PowerLevels.defaults with users := [(b!"@a:x", 100), (b!"@b:x", 50)] }
    let p2 : PowerLevels := { PowerLevels.defaults with kick := 40, users := [(b!"@a:x", 100), (b!"@b:x", 50)] }
    (checkEventLevels 100 p0 p1 = true ∧ checkUserLevels 100 b!"@a:x" p0 p1 = true) ∧
    (checkEventLevels 50 p1 p2 = true ∧ checkUserLevels 50 b!"@b:x" p1 p2 = true) := by decide

end V.C08
