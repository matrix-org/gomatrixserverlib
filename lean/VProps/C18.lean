/-
  C18 — No input from the network can crash the library.

  In the models every Go panic site is an explicit `.panic site` outcome (Err.panic / Verdict.panic).
  The theorems below say those outcomes are unreachable; panics inside third-party parsers, stack or
  memory exhaustion are outside the models (see DESIGN.md §5 C18: covered by the `fuzz` stream only).
-/
import VModel.Json
import VModel.Auth
import VProofs.JsonCompact
import VProofs.JsonClosure
import VGen.Versions
import VProofs.EventAccessorsRedact
import VProofs.StateResNoPanic
import VProofs.AuthRulesNoPanic
import VModel.EventBuild
import VProofs.Guard
namespace V.C18
open V.Json

/-- **Every function-valued entry of the room-version table is set** (a nil entry is a nil-function call:
    the defect fixed for org.matrix.msc3787).  Regenerated from eventversion.go on every run. -/
theorem version_table_total :
    VGen.roomVersions.all (fun r =>
      r.redactionAlgorithm != "" && r.signatureValidityCheckFunc != "" && r.canonicalJSONCheck != "" &&
      r.checkPowerLevelEvent != "" && r.restrictedJoinServernameFunc != "" && r.checkRestrictedJoin != "" &&
      r.parsePowerLevelsFunc != "" && r.checkKnockingAllowedFunc != "" && r.checkRestrictedJoinAllowedFunc != "" &&
      r.checkCreateEvent != "" && r.newEventFromUntrustedJSONFunc != "" && r.newEventFromTrustedJSONFunc != "" &&
      r.newEventFromTrustedJSONWithEventIDFunc != "" && r.ver == r.key) = true := by
  decide +kernel

/-- the table has the sixteen registered versions, each once -/
theorem version_table_keys :
    VGen.roomVersions.map (·.key) =
      ["1", "10", "11", "12", "2", "3", "4", "5", "6", "7", "8", "9", "org.matrix.hydra.11", "org.matrix.msc3667",
       "org.matrix.msc3787", "org.matrix.msc4014"] := rfl

/-- **CompactJSON's index arithmetic cannot go out of range on valid JSON**: for every text the validity gate
    accepts (and whose `\u` surrogate escapes are paired) the byte-level model returns normally. -/
theorem compact_no_panic (t : Bytes) (p : PVal) (hp : parse t = some p) (hs : p.surrogatesOk = true) :
    ∀ site, compact t ≠ .error (.panic site) := by
  intro site h
  rw [compact_of_parse hp hs] at h
  cases h

/-- **CanonicalJSON never panics**: invalid texts are refused by the gate, valid ones return their canonical form. -/
theorem canonical_no_panic (t : Bytes) (hs : ∀ p, parse t = some p → p.surrogatesOk = true) :
    ∀ site, canonical t ≠ .error (.panic site) := by
  intro site h
  cases hp : parse t with
  | none =>
    have : valid t = false := by simp [valid, hp]
    simp [canonical, this] at h
  | some p =>
    rw [canonical_of_parse hp (hs p hp)] at h
    cases h

/-- `canonical_no_panic` is not vacuous: `{"a":-0}` canonicalises (to `{"a":0}`) -/
example : (match canonical [0x7B, 0x22, 0x61, 0x22, 0x3A, 0x2D, 0x30, 0x7D] with | .ok b => b == [0x7B, 0x22, 0x61, 0x22, 0x3A, 0x30, 0x7D] | .error _ => false) = true := by decide

/-! ## Accessors of accepted events (VModel.EventAccessors; sites: VModel/PanicSites.md) -/

section Accessors
open V.EventParse V.EventAccessors V.AccProofs

/-- every call but `Redact()` and `Sign()` reaches no site on an event with what BOTH constructors guarantee (`TInv`) -/
theorem run_np {H : Bytes → Bytes} (hH : Len32 H) {ver : Bytes} {row : VGen.VersionRow} {e : PDU} (T : TInv H ver row e) :
    ∀ a : Acc, a.trustedSafe = true → ∀ site, run H a e ≠ .error (.panic site) := by
  intro a ha site
  cases a with
  | eventID => exact cls_of_ok ⟨_, eventID_okT T⟩ site
  | stateKey => intro h; cases h
  | stateKeyEquals s => intro h; cases h
  | type => intro h; cases h
  | content => intro h; cases h
  | joinRule => exact joinRule_np e site
  | historyVisibility => exact historyVisibility_np e site
  | membership => exact membership_np e site
  | powerLevels => exact powerLevels_np T.hrow T.hver T.hfmt site
  | version => intro h; cases h
  | roomID => exact cls_of_ok (roomID_okT hH T) site
  | redacts => intro h; cases h
  | redacted => intro h; cases h
  | prevEventIDs => intro h; cases h
  | originServerTS => intro h; cases h
  | senderID => intro h; cases h
  | senderIsUserID => intro h; cases h
  | unsigned => intro h; cases h
  | depth => intro h; cases h
  | json => intro h; cases h
  | authEventIDs => exact cls_of_ok (authEventIDs_okT T) site
  | toHeaderedJSON => exact toHeadered_npT T site
  | checkFields => exact checkFields_np T site
  | setUnsigned u => exact setUnsigned_np e u site
  | redact => cases ha
  | sign n k s => cases ha

/-- **No method of the `PDU` interface panics on an event `NewEventFromUntrustedJSON` returned** — `EventID`, `RoomID`
    (also of a version-12 create event, whose room ID is derived from the event ID), `AuthEventIDs`, `PrevEventIDs`,
    `Membership`, `JoinRule`, `HistoryVisibility`, `PowerLevels`, `SenderID().IsUserID()`, `ToHeaderedJSON`,
    `SetUnsigned`, `CheckFields`, `Redact()`, and the plain field reads — for every registered room version and every
    input text.  Guards: the room-ID check of the constructors dominates `spec.NewRoomID` in `RoomID()` and the `[1:]`
    of `AuthEventIDs()`; the event ID computed at construction dominates `EventID()`'s fallback and, being `$` plus 43
    URL-safe base64 characters, is a valid room ID after the sigil swap; the redaction computed at construction, the
    canonical-JSON check of the input and its struct decoding dominate the four sites of `Redact()`; the regenerated
    table dominates the function-valued `ParsePowerLevels`.
    Hypothesis: the hash returns 32 bytes (SHA-256).  `Sign` is the subject of `no_panic_sign`. -/
theorem no_panic_accessors (H : Bytes → Bytes) (hH : Len32 H) {ver text : Bytes} {e : PDU}
    (h : parseUntrusted H ver text = .ok e) :
    ∀ a : Acc, a.isSign = false → ∀ site, run H a e ≠ .error (.panic site) := by
  obtain ⟨row, A⟩ := C04.accepted h
  intro a ha site
  -- `Redact()` is the one call that needs more than the trusted constructor establishes as well
  cases a with
  | redact => exact redact_np A.toInv A.toIntact site
  | sign n k s => cases ha
  | _ => exact run_np hH A.toInv.toTInv _ rfl site

/-- **`Sign()` reaches none of its panic sites on an event `NewEventFromUntrustedJSON` returned** — no hypothesis on the
    `signatures` member: `Sign()` leaves out a member `SignJSON` cannot decode (`signableEventJSON`), the text of an
    accepted event repeats no member name (so the member handed on is the one that was examined), and the redaction
    keeps `signatures` verbatim.  Before fix 679c22b `Sign()` panicked on an accepted event whose `signatures` does not
    decode (`"signatures":5`, `{"a":1}`, `{"a":{"k":"!!"}}`: `corpus/C18/fuzz.ops`; `sign_undecodable_ok` below). -/
theorem no_panic_sign (H : Bytes → Bytes) {ver text : Bytes} {e : PDU} (h : parseUntrusted H ver text = .ok e) :
    ∀ name kid sig site, run H (.sign name kid sig) e ≠ .error (.panic site) := by
  obtain ⟨row, A⟩ := C04.accepted h
  exact sign_np A.toInv A.toIntact A.clean.nodup

/-- **Events from trusted JSON** (`NewEventFromTrustedJSON`, any text, any version, either `redacted` flag): every
    method but `Redact()` and `Sign()` reaches no site — `RoomID()` of a version-12 create event included: the V2 / V3
    constructors compute the event ID whatever `event_id` member the JSON carries, so the room ID derived from it is
    `!` plus 43 URL-safe base64 characters.  `Redact()` / `Sign()` need the untrusted constructor: they rely on the
    redaction, canonical-JSON and decoding checks only it performs.  Hypothesis: the hash returns 32 bytes. -/
theorem no_panic_accessors_trusted (H : Bytes → Bytes) (hH : Len32 H) {ver text : Bytes} {red : Bool} {e : PDU}
    (h : parseTrusted H ver red text = .ok e) :
    ∀ a : Acc, a.trustedSafe = true → ∀ site, run H a e ≠ .error (.panic site) := by
  obtain ⟨row, T⟩ := tinv_of_trusted h
  exact run_np hH T

/-! ### Non-vacuity, and the former counter-examples after the repairs (toy hash: 32 zero bytes, whose base64 is 43 `A`s) -/

def H32 : Bytes → Bytes := fun _ => List.replicate 32 0

theorem H32_len : Len32 H32 := fun _ => rfl

def exEvent (members : String) : Bytes :=
  ("{" ++ members ++ "\"auth_events\":[],\"content\":{\"body\":\"x\"},\"depth\":1,\"hashes\":{\"sha256\":\"AAAAAAAAAAAAAAAAAAAAAAAAAAAAAAAAAAAAAAAAAAA\"}," ++
   "\"origin_server_ts\":1,\"prev_events\":[],\"sender\":\"@a:h\",\"type\":\"m.x\"}").toList.flatMap (fun c => utf8Encode c.toNat)

/-- `exEvent` as bytes. Evaluating `String.toList` on a literal is by far the dearest step of the evaluations below (its cost
    grows faster than the length); the kernel reads a literal as `String.ofList` of its characters, so `String.toList_ofList`
    gives the characters without evaluating anything. -/
theorem exEvent_eq (members : String) :
    exEvent members = 0x7B :: members.toList.flatMap (fun c => utf8Encode c.toNat) ++
      b!"\"auth_events\":[],\"content\":{\"body\":\"x\"},\"depth\":1,\"hashes\":{\"sha256\":\"AAAAAAAAAAAAAAAAAAAAAAAAAAAAAAAAAAAAAAAAAAA\"},\"origin_server_ts\":1,\"prev_events\":[],\"sender\":\"@a:h\",\"type\":\"m.x\"}" := by
  have glue : ∀ x y a b c : Bytes, x = [0x7B] → a ++ b = c → x ++ (y ++ (a ++ b)) = 0x7B :: y ++ c := by
    intro x y a b c hx hc; subst hx hc; rfl
  unfold exEvent
  rw [String.toList_append, String.toList_append, String.toList_append, List.flatMap_append, List.flatMap_append,
    List.flatMap_append, List.append_assoc, List.append_assoc, String.toList_ofList, String.toList_ofList,
    String.toList_ofList]
  exact glue _ _ _ _ _ (by decide +kernel) (by decide +kernel)

/-- an accepted, unredacted event: the whole sweep (accessors, `Redact()`, accessors again) reaches no site -/
example : (match parseUntrusted H32 b!"10" (exEvent "\"room_id\":\"!r:h\",") with
  | .ok e => !e.redacted && (sweep H32 e).isNone
  | _ => false) = true := by rw [exEvent_eq]; decide +kernel

/-- **The former counter-example of `no_panic_sign`** (defect D1): an accepted event whose `signatures` member does not
    decode (the number 5; an object of a number; a string that is not base64).  `Sign()` now reaches no site on it
    and returns an event whose `signatures` holds the new signature only. -/
theorem sign_undecodable_ok : (["5", "{\"a\":1}", "{\"a\":{\"k\":\"!!\"}}"].all (fun sg =>
    match parseUntrusted H32 b!"10" (exEvent ("\"room_id\":\"!r:h\",\"signatures\":" ++ sg ++ ",")) with
    | .ok e => !e.redacted && (panicSite H32 (.sign b!"me" b!"ed25519:1" b!"c2ln") e).isNone &&
        (match sign e b!"me" b!"ed25519:1" b!"c2ln" with
         | .ok e' => (match GoJson.lookupExact e'.obj b!"signatures" with
           | some v => encodeCanon v == b!"{\"me\":{\"ed25519:1\":\"c2ln\"}}"
           | none => false)
         | _ => false)
    | _ => false)) = true := by simp only [exEvent_eq, String.toList_append]; decide +kernel

/-- **The former counter-example of the accessor theorem after `Redact()`** (defect D3): an event that carries a case
    variant of `room_id` beside `"room_id":null`.  It is refused on receipt now (`checkUntrustedEventJSON`), like every
    event with a case variant of a struct field name or a repeated member name. -/
theorem roomID_variant_refused :
    (match parseUntrusted H32 b!"10" (exEvent "\"Room_id\":\"!r:h\",\"room_id\":null,") with
  | .error .badJSON => true
  | _ => false) = true := by rw [exEvent_eq]; decide +kernel

/-- **The former counter-example of the trusted-JSON theorem** (defect D4, found by the generator of area `fuzz`, op
    `trusted`): a version-12 create event built from trusted JSON that carries its own `event_id`.  The constructor
    computes the ID now; the room ID derived from it is valid. -/
theorem trusted_roomID_ok :
    (match parseTrusted H32 b!"12" false ("{\"event_id\":\"y\",\"state_key\":\"\",\"type\":\"m.room.create\"}".toList.flatMap (fun c => utf8Encode c.toNat)) with
  | .ok e => (panicSite H32 .roomID e).isNone && (touched.all (fun a => (panicSite H32 a e).isNone)) &&
      (match roomID H32 e with
       | .ok r => r == 0x21 :: List.replicate 43 0x41
       | _ => false)
  | _ => false) = true := by decide +kernel

end Accessors

/-! ## State resolution and the orderings (VModel.StateResPanic; sites: VModel/PanicSites.md) -/

section Resolution
open V.StateRes V.StateResPanic V.SRPanic

/-- **Refinement.**  Whenever no panic site fires, the panic-explicit entry points return exactly what the
    executable model `VModel.StateRes` returns — so every C10 / C11 theorem about the model (`resolveV2_eq_spec`,
    `resolve_perm_invariant`, …) holds of them unchanged. -/
theorem resolve_refines (sha : ID → Bytes) (ver : Bytes) (sets : List (List Event)) (auth : List Event) (rej : List ID)
    {r : Option (List ID)} (h : resolveConflictsNewP sha ver sets auth rej = .ok r) :
    r = resolveConflictsNew sha ver sets auth rej :=
  (resolveConflictsNewP_lifts sha ver sets auth rej).eq r h

theorem resolve_refines_deprecated (sha : ID → Bytes) (ver : Bytes) (events auth : List Event) (rej : List ID)
    {r : Option (List ID)} (h : resolveConflictsOldP sha ver events auth rej = .ok r) :
    r = resolveConflictsOld sha ver events auth rej :=
  (resolveConflictsOldP_lifts sha ver events auth rej).eq r h

/-- **`ResolveConflictsNew` reaches no panic site** — version 1, 2 and 2.1 algorithms — for every list of state sets
    and auth events such that
    * `hev`  every event satisfies `EvOK`, meant as what the constructors guarantee (`RoomID()` returns, the room ID has a domain
      unless the version derives it from the create event, the version is registered) — assumed here: `no_panic_accessors`
      is about the parsed form `PDU`, and no theorem carries it over to these events —, and, for the version 2 / 2.1
      algorithms,
    * `htwo` at least two state sets are supplied (the caller's side of the explicit panic "must provide at least 2
      stateSets" of stateresolutionv2.go).
    NOTHING is assumed about the auth graph: `auth_events` may be cyclic (room versions 1 and 2, whose event IDs are chosen
    by the sender).  The three recursions over auth events (`fullControlSet`, the two mainline iterators) are sites of the
    panic-explicit model — a recursion deeper than the number of events supplied + 2 — and are shown unreachable:
    `fullControlSet` marks an event before descending into it, so every descent leaves fewer unmarked conflicted events
    (`SRPanic.fcs_some`); the mainline iterators never descend into an event they are inside of, so the events they are
    inside of are distinct events of the auth map (`SRPanic.mainlineIterP_some`, `firstMainlineP_some`; pigeonhole).
    Before fix 0d78b57 a self-citing power-levels event was a fatal stack overflow on the real code: see
    `resolve_cycle_resolves` below.  The result is the model's. -/
theorem no_panic_resolve (sha : ID → Bytes) (ver : Bytes) (sets : List (List Event)) (auth : List Event) (rej : List ID)
    (hev : ∀ e, e ∈ sets.flatten ∨ e ∈ auth → EvOK e)
    (htwo : ∀ row, versionRow? ver = some row → row.stateResAlgorithm ≠ 1 → 2 ≤ sets.length) :
    resolveConflictsNewP sha ver sets auth rej = .ok (resolveConflictsNew sha ver sets auth rej) ∧
    ∀ site, resolveConflictsNewP sha ver sets auth rej ≠ .error (.panic site) := by
  have h := (resolveConflictsNewP_lifts sha ver sets auth rej).ok_eq ⟨hev, htwo⟩
  exact ⟨h, fun site hc => by rw [h] at hc; cases hc⟩

/-- the same for the deprecated entry point `ResolveConflicts` (→ `ResolveStateConflicts` / `ResolveStateConflictsV2`):
    no hypothesis but `EvOK` for every event -/
theorem no_panic_resolve_deprecated (sha : ID → Bytes) (ver : Bytes) (events auth : List Event) (rej : List ID)
    (hev : ∀ e, e ∈ events ∨ e ∈ auth → EvOK e) :
    resolveConflictsOldP sha ver events auth rej = .ok (resolveConflictsOld sha ver events auth rej) ∧
    ∀ site, resolveConflictsOldP sha ver events auth rej ≠ .error (.panic site) := by
  have h := (resolveConflictsOldP_lifts sha ver events auth rej).ok_eq hev
  exact ⟨h, fun site hc => by rw [h] at hc; cases hc⟩

/-- **`ReverseTopologicalOrdering`** (both orders) reaches no site on events the constructors return: by auth events
    `MustGetRoomVersion` is the only site (the public entry point has an empty auth map, so nothing is recursed into);
    by prev events there is none. -/
theorem no_panic_orderings (evs : List Event) (hev : ∀ e ∈ evs, EvOK e) :
    reverseTopoAuthEntryP evs = .ok (reverseTopoAuth [] (getCreateEvent evs) evs) ∧
    reverseTopoPrevEntryP evs = .ok (reverseTopoPrev evs) :=
  ⟨(reverseTopoAuthP_lifts [] (getCreateEvent evs) evs).ok_eq hev, rfl⟩

/-! ### Non-vacuity, and the formerly fatal inputs -/

def exEv (id type : Bytes) (extra : List (Bytes × JVal)) : Event :=
  { ver := b!"2", eventID := id,
    obj := [(b!"type", .str type), (b!"state_key", .str []), (b!"sender", .str b!"@a:h"), (b!"room_id", .str b!"!r:h"),
            (b!"content", .obj []), (b!"origin_server_ts", .num b!"1"), (b!"depth", .num b!"1")] ++ extra }

def exRef (id : Bytes) : JVal := .arr [.str id, .obj []]

def sameOK (a : Except Err (Option (List ID))) (b : Option (List ID)) : Bool :=
  match a with
  | .ok r => r == b
  | .error _ => false

def panicsWith (a : Except Err (Option (List ID))) (site : String) : Bool :=
  match a with
  | .error (.panic s) => s == site
  | _ => false

/-- two conflicting power-levels events without auth events, room version 2: resolved, no site -/
example : sameOK (resolveConflictsNewP (fun _ => []) b!"2"
      [[exEv b!"$a:h" b!"m.room.power_levels" []], [exEv b!"$b:h" b!"m.room.power_levels" []]] [] [])
    (resolveConflictsNew (fun _ => []) b!"2"
      [[exEv b!"$a:h" b!"m.room.power_levels" []], [exEv b!"$b:h" b!"m.room.power_levels" []]] [] []) = true := by
  decide +kernel

/-- **The formerly fatal input resolves**: a conflicted power-levels event that names itself among its `auth_events`
    (room version 2, whose event IDs are chosen by the sender) sent `fullControlSet` into an unbounded recursion — a fatal
    stack overflow on the real code (VModel/PanicSites.md, D2; `corpus/C18/stateres.ops`).  With the auth event marked
    before the descent (fix 0d78b57) no site fires and the answer is the model's. -/
theorem resolve_cycle_resolves :
    sameOK (resolveConflictsNewP (fun _ => []) b!"2"
      [[exEv b!"$a:h" b!"m.room.power_levels" [(b!"auth_events", .arr [exRef b!"$a:h"])]],
       [exEv b!"$b:h" b!"m.room.power_levels" []]] [] [])
    (resolveConflictsNew (fun _ => []) b!"2"
      [[exEv b!"$a:h" b!"m.room.power_levels" [(b!"auth_events", .arr [exRef b!"$a:h"])]],
       [exEv b!"$b:h" b!"m.room.power_levels" []]] [] []) = true := by
  decide +kernel

/-- two power-levels events naming each other: the same -/
example :
    sameOK (resolveConflictsNewP (fun _ => []) b!"2"
      [[exEv b!"$a:h" b!"m.room.power_levels" [(b!"auth_events", .arr [exRef b!"$b:h"])]],
       [exEv b!"$b:h" b!"m.room.power_levels" [(b!"auth_events", .arr [exRef b!"$a:h"])]]] [] [])
    (resolveConflictsNew (fun _ => []) b!"2"
      [[exEv b!"$a:h" b!"m.room.power_levels" [(b!"auth_events", .arr [exRef b!"$b:h"])]],
       [exEv b!"$b:h" b!"m.room.power_levels" [(b!"auth_events", .arr [exRef b!"$a:h"])]]] [] []) = true := by
  decide +kernel

/-- `fullControlSet` on the self-citing event, in isolation: the walk ends with the event marked -/
example : fcs [exEv b!"$a:h" b!"m.room.power_levels" [(b!"auth_events", .arr [exRef b!"$a:h"])]] 3 []
    (exEv b!"$a:h" b!"m.room.power_levels" [(b!"auth_events", .arr [exRef b!"$a:h"])]) = some [b!"$a:h"] := by
  decide +kernel

-- (The same shape through a power-levels auth event that names itself reached the sites of the two mainline iterators;
-- `firstMainlineP` is compiled by well-founded recursion and does not reduce in the kernel, so those instances are
-- evaluated by the driver only: corpus/C18/stateres.ops, witnesses W2 and W3.)

end Resolution

/-! ## The sender lookup with any querier, the reference lists of a remote proto event (defects P2, P1 of VModel/PanicSites.md §12)

Sites: lean/VModel/PanicSites.md §7 (every call of a `spec.UserIDForSender`) and §8 (event_builder.go). -/

section Querier
open V.Auth V.AuthRules

/-- **The two sender lookups that had no nil guard, for ANY querier** (`createEventAllowed`, `aliasEventAllowed`): whatever
    a `spec.UserIDForSender` answers — a user ID, an error, or `(nil, nil)` — neither check reaches a panic site, as long
    as the querier itself returns.  (`RoomIDWellFormed`: what the event constructors guarantee, as in `no_panic_allowed`.) -/
theorem no_panic_sender_lookup (q : Querier) (hq : ∀ s site, q s ≠ .error (.panic site)) (c : Ctx) (e : Event)
    (hw : RoomIDWellFormed e) :
    ∀ site, c.createEventAllowedQ q e ≠ .error (.panic site) ∧ c.aliasEventAllowedQ q e ≠ .error (.panic site) :=
  fun site => ⟨(np_createQ q (fun s => ⟨hq s⟩) c e hw).h site, (np_aliasesQ q (fun s => ⟨hq s⟩) c e).h site⟩

/-- with the standard querier the parametrised checks ARE the checks of `V.C07.allowed_eq_spec` / `no_panic_allowed` -/
theorem sender_lookup_std (c : Ctx) (e : Event) :
    c.createEventAllowedQ stdQuerier e = c.createEventAllowed e ∧ c.aliasEventAllowedQ stdQuerier e = c.aliasEventAllowed e :=
  ⟨createEventAllowedQ_std c e, aliasEventAllowedQ_std c e⟩

/-- a `(nil, nil)` answer refuses the event (the repaired behaviour: before, `*sender` / `sender.Domain()` on nil) -/
theorem sender_lookup_nil_refused (q : Querier) (c : Ctx) (e : Event) (hq : q e.sender = .ok none) :
    c.aliasEventAllowedQ q e = notAllowed ∧
    (e.stateKeyEquals [] = true → ¬ e.prevEventIDs.length > 0 → c.createEventAllowedQ q e = notAllowed) :=
  ⟨aliasesQ_nil_refused q c e hq, fun h1 h2 => createQ_nil_refused q c e hq h1 h2⟩

/-- **`Allowed` with the querier that answers `(nil, nil)` for a sender that is not a user ID never panics** — the
    counterpart of `V.C07.no_panic_allowed` (standard querier) for what a pseudo-ID homeserver's querier does. -/
theorem no_panic_allowed_nil_querier (e : Event) (p : Provider) (sig : Bool) (hr : e.roomID ≠ []) (hw : RoomIDWellFormed e) :
    ∀ site, allowedFreshNilQ e p sig ≠ .panic site := by
  intro site
  unfold allowedFreshNilQ
  split
  · intro h; cases h
  · rw [update_empty]
    exact freshVerdict_np (fun c hf => np_allowedNilQ c p hf e sig hr hw) site

def exCreate (sender : Bytes) : Event :=
  { ver := b!"org.matrix.msc4014", eventID := b!"$c", obj :=
      [(b!"type", .str b!"m.room.create"), (b!"sender", .str sender), (b!"room_id", .str b!"!room:hs1"),
       (b!"state_key", .str []), (b!"content", .obj [(b!"creator", .str b!"@creator:hs1")]), (b!"prev_events", .arr [])] }
def exAliases (sender : Bytes) : Event :=
  { ver := b!"org.matrix.msc4014", eventID := b!"$a", obj :=
      [(b!"type", .str b!"m.room.aliases"), (b!"sender", .str sender), (b!"room_id", .str b!"!room:hs1"),
       (b!"state_key", .str sender), (b!"content", .obj []), (b!"prev_events", .arr [.str b!"$c"])] }

/-- the former crash, kernel-checked to be refused: an org.matrix.msc4014 create event from the key `Zm9v` (no user ID),
    and an aliases event from it in a room whose create event is fine; the same two events from a user ID are accepted
    as before.  (Non-vacuity of the hypotheses of the theorems above as well: room ID `!room:hs1`.) -/
theorem nil_querier_witnesses :
    allowedFreshNilQ (exCreate b!"Zm9v") (Provider.ofEvents []) = .notAllowed ∧
    allowedFreshNilQ (exAliases b!"Zm9v") (Provider.ofEvents [exCreate b!"@creator:hs1"]) = .notAllowed ∧
    allowedFreshNilQ (exCreate b!"@creator:hs1") (Provider.ofEvents []) = .ok ∧
    allowedFreshNilQ (exAliases b!"@creator:hs1") (Provider.ofEvents [exCreate b!"@creator:hs1"]) = .ok := by
  decide +kernel

end Querier

section References
open V.EventParse V.EventBuild

theorem checkedEventHash_errs (id : Bytes) : ErrsIn (· = errOther) (checkedEventHash id) := by
  unfold checkedEventHash
  split
  · exact .ok _
  · exact .error rfl

theorem refOfEntry_errs (v : JVal) : ErrsIn (· = errOther) (refOfEntry v) := by
  unfold refOfEntry
  split
  · split
    · exact .error (checkedEventHash_errs _ _ ‹_›)
    · exact .ok _
  · exact .error rfl
  · split
    · exact .error (checkedEventHash_errs _ _ ‹_›)
    · exact .ok _
  · exact .error rfl
  · exact .ok _

/-- every error of the conversion is the ordinary error `Build` returns -/
theorem refsOfJSON_errs (v : Option JVal) : ErrsIn (· = errOther) (refsOfJSON v) := by
  unfold refsOfJSON
  split
  · exact .ok _
  · exact .ok _
  · split
    · exact .error (ErrsIn.mapM (fun x _ => refOfEntry_errs x) _ ‹_›)
    · exact .ok _
  · exact .ok _

theorem refsV1_errs (ids : List Bytes) : ErrsIn (· = errOther) (refsV1 ids) := by
  refine ErrsIn.mapM fun id _ => ?_
  split
  · exact .error (checkedEventHash_errs _ _ ‹_›)
  · exact .ok _

/-- **No reference list makes `EventBuilder.Build`'s conversion panic** (event format 1, room versions 1–2): for every
    JSON value a remote server may put in `prev_events` / `auth_events` of a proto event — or for no member at all —
    `eventReferencesFrom` returns references or an ordinary error.  Every former panic site (`ev[0]` on `[]`,
    `ev[0].(string)`, `eventID[1:]` on `""`) is a branch of `refOfEntry` / `checkedEventHash`. -/
theorem no_panic_event_references (v : Option JVal) : ∀ site, refsOfJSON v ≠ .error (.panic site) :=
  fun _ h => nomatch refsOfJSON_errs v _ h

/-- the same for a list of event IDs given as `[]string` (what a local caller, or `AddAuthEvents`, stores) -/
theorem no_panic_event_references_ids (ids : List Bytes) : ∀ site, refsV1 ids ≠ .error (.panic site) :=
  fun _ h => nomatch refsV1_errs ids _ h

def refsErr (r : Except Err (List JVal)) : Bool :=
  match r with
  | .error (.other w) => w == "other"
  | _ => false
def refsAre (r : Except Err (List JVal)) (text : Bytes) : Bool :=
  match r with
  | .ok l => encodeCanon (.arr l) == text
  | .error _ => false

/-- the former crashes, kernel-checked to be ordinary errors now (`"prev_events":[[]]`, `[[5,{}]]`, `[""]`, `[[""]]`), the
    entries that are skipped, and a list that converts -/
theorem event_references_witnesses :
    (refsErr (refsOfJSON (some (.arr [.arr []]))) &&
     refsErr (refsOfJSON (some (.arr [.arr [.num b!"5", .obj []]]))) &&
     refsErr (refsOfJSON (some (.arr [.str []]))) &&
     refsErr (refsOfJSON (some (.arr [.arr [.str []]]))) &&
     refsErr (refsOfJSON (some (.arr [.str b!"x"]))) &&
     refsAre (refsOfJSON (some (.arr [.num b!"5", .null, .obj [], .bool true]))) b!"[]" &&
     refsAre (refsOfJSON (some (.obj []))) b!"[]" && refsAre (refsOfJSON none) b!"[]" &&
     refsAre (refsOfJSON (some (.arr [.str b!"$abcd:x", .arr [.str b!"$c:d", .obj [(b!"sha256", .str b!"x")]]])))
       b!"[[\"$abcd:x\",{\"sha256\":\"abcd\"}],[\"$c:d\",{\"sha256\":\"\"}]]") = true := by
  decide +kernel

end References

end V.C18
