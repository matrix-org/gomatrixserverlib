/-
  Translated-function obligations for json.go: `isNegativeZeroLiteral` and `readHexDigits`.
  `VGen.TransJson.*` is printed from the CURRENT Go source by tools/extract/trans.go.
-/
import VGen.TransJson
import VModel.Json
import VProofs.TransHex

namespace V.Trans.Json
open V.Json GoSem

theorem idx_append_right (pre : List UInt8) (x : UInt8) (rest : List UInt8) (k : Nat) :
    idx (pre ++ x :: rest) (Int.ofNat pre.length + 1 + Int.ofNat k) = rest[k]? := by
  unfold idx
  have h0 : (0 : Int) ≤ Int.ofNat pre.length + 1 + Int.ofNat k := by simp; omega
  have h1 : (Int.ofNat pre.length + 1 + Int.ofNat k).toNat = pre.length + (k + 1) := by simp; omega
  simp only [h0, if_true, h1]
  rw [List.getElem?_append_right (by omega)]
  simp

theorem idx_last (pre : List UInt8) (x : UInt8) (rest : List UInt8) (h : pre ≠ []) :
    idx (pre ++ x :: rest) (Int.ofNat pre.length + 1 - 2) = pre.getLast? := by
  unfold idx
  have hl : 0 < pre.length := List.length_pos_iff.mpr h
  have h0 : (0 : Int) ≤ Int.ofNat pre.length + 1 - 2 := by simp; omega
  have h1 : (Int.ofNat pre.length + 1 - 2).toNat = pre.length - 1 := by simp; omega
  simp only [h0, if_true, h1]
  rw [List.getElem?_append_left (by omega), List.getLast?_eq_getElem?]

/-- **isNegativeZeroLiteral**: called (as in CompactJSON) with `i` just after a `-` at `input[i-1]`, the Go function
    translated from the current source never panics and answers what the model's `isNegZero` answers from the byte
    before the `-` and the bytes after it — for every prefix and suffix. -/
theorem isNegativeZeroLiteral_eq_model (pre rest : List UInt8) :
    VGen.TransJson.isNegativeZeroLiteral (pre ++ 0x2D :: rest) (Int.ofNat pre.length + 1)
      = some (isNegZero pre.getLast? rest) := by
  have i0 : idx (pre ++ 0x2D :: rest) (Int.ofNat pre.length + 1) = rest[0]? := by
    have := idx_append_right pre 0x2D rest 0
    rwa [show Int.ofNat pre.length + 1 + Int.ofNat 0 = Int.ofNat pre.length + 1 from by simp] at this
  have i1 : idx (pre ++ 0x2D :: rest) (Int.ofNat pre.length + 1 + 1) = rest[1]? :=
    idx_append_right pre 0x2D rest 1
  have hlen : GoSem.len (pre ++ 0x2D :: rest) = Int.ofNat pre.length + 1 + Int.ofNat rest.length := by
    simp [GoSem.len]; omega
  unfold VGen.TransJson.isNegativeZeroLiteral isNegZero
  rw [i0, i1, hlen]
  cases rest with
  | nil => simp [GoSem.orM]
  | cons z rest' =>
    have c1 : decide (Int.ofNat pre.length + 1 ≥ Int.ofNat pre.length + 1 + Int.ofNat (z :: rest').length) = false := by
      simp; omega
    simp only [c1, List.getElem?_cons_zero, GoSem.orM, Option.bind]
    by_cases hz : z = 0x30
    · subst hz
      simp only [bne_self_eq_false, Bool.false_eq_true, if_false]
      cases rest' with
      | nil =>
        have c2 : decide (Int.ofNat pre.length + 1 + 1 < Int.ofNat pre.length + 1 + Int.ofNat [(0x30 : UInt8)].length) = false := by
          simp
        simp only [c2, GoSem.andM]
        by_cases hp : pre = []
        · subst hp; simp
        · have il := idx_last pre 0x2D [0x30] hp
          have c3 : decide (Int.ofNat pre.length + 1 ≥ 2) = true := by
            have : 0 < pre.length := List.length_pos_iff.mpr hp
            simp; omega
          rw [c3, il]
          obtain ⟨p, hp'⟩ : ∃ p, pre.getLast? = some p := by
            cases hq : pre.getLast? with
            | none => simp [List.getLast?_eq_none_iff] at hq; exact absurd hq hp
            | some p => exact ⟨p, rfl⟩
          rw [hp']
          cases a : (p == 0x65) <;> cases b : (p == 0x45) <;> simp [a, b]
      | cons n rest'' =>
        have c2 : decide (Int.ofNat pre.length + 1 + 1 < Int.ofNat pre.length + 1 + Int.ofNat ((0x30 : UInt8) :: n :: rest'').length) = true := by
          simp; omega
        simp only [c2, GoSem.andM, List.getElem?_cons_succ, List.getElem?_cons_zero]
        by_cases hp : pre = []
        · subst hp
          cases a : (n == 0x2E) <;> cases b : (n == 0x65) <;> cases c : (n == 0x45) <;> simp
        · have il := idx_last pre 0x2D ((0x30 : UInt8) :: n :: rest'') hp
          have c3 : decide (Int.ofNat pre.length + 1 ≥ 2) = true := by
            have : 0 < pre.length := List.length_pos_iff.mpr hp
            simp; omega
          rw [c3, il]
          obtain ⟨p, hp'⟩ : ∃ p, pre.getLast? = some p := by
            cases hq : pre.getLast? with
            | none => simp [List.getLast?_eq_none_iff] at hq; exact absurd hq hp
            | some p => exact ⟨p, rfl⟩
          rw [hp']
          cases a : (n == 0x2E) <;> cases b : (n == 0x65) <;> cases c : (n == 0x45) <;>
            cases d : (p == 0x65) <;> cases e : (p == 0x45) <;> simp [d, e]
    · have : (z != 0x30) = true := by simp [hz]
      simp [this]

/-- **readHexDigits** (the theorem `VModel/Json.lean` cites at `compactUnicodeEscape`): on four hex digits — every
    one of the 22^4 spellings, upper and lower case — the bit-twiddling Go function, translated from the current
    source with wrapping `uint32` arithmetic, returns the code point `hex4` the model computes digit by digit. -/
theorem readHexDigits_correct (a b c d : UInt8) (tl : List UInt8)
    (ha : isHex a = true) (hb : isHex b = true) (hc : isHex c = true) (hd : isHex d = true) :
    VGen.TransJson.readHexDigits (a :: b :: c :: d :: tl) = some (Int.ofNat (hex4 a b c d)) := by
  obtain ⟨la, va, ea⟩ := Hex.digit_lane a ha
  obtain ⟨lb, vb, eb⟩ := Hex.digit_lane b hb
  obtain ⟨lc, vc, ec⟩ := Hex.digit_lane c hc
  obtain ⟨ld, vd, ed⟩ := Hex.digit_lane d hd
  have h1 := Hex.nibbles _ _ _ _ la lb lc ld a.toNat_lt b.toNat_lt c.toNat_lt d.toNat_lt
  have h2 := Hex.pack _ _ _ _ va vb vc vd
  rw [ea, eb, ec, ed] at h1
  dsimp only at h1 h2
  simp only [VGen.TransJson.readHexDigits, GoSem.beUint32, h1, h2, hex4]

/-- it never panics on four or more bytes -/
theorem readHexDigits_total (a b c d : UInt8) (tl : List UInt8) :
    (VGen.TransJson.readHexDigits (a :: b :: c :: d :: tl)).isSome = true := by
  unfold VGen.TransJson.readHexDigits
  simp [GoSem.beUint32]

example : VGen.TransJson.readHexDigits [0x64, 0x38, 0x33, 0x44] = some 0xD83D := by decide

end V.Trans.Json
