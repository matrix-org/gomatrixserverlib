/-
  C13 — Federation request authentication binds method, URI, origin, destination, body.

  Model: VModel.FedReq
  (fclient/request.go; the JSONVerifier as `keyRingVerifier`, mirroring keyring.go with a key
  database).  Cryptography enters through `IdealSig` / `CanonCorrect` hypotheses only.  The facts about
  canonical JSON that `signed_request_accepted` needs (what Sign stores as the body is valid UTF-8 and
  re-parses to the same value) are DERIVED from C01 (`canonical_body_facts`: `V.C01.canonical_eq_spec_general`,
  `parse_encodeCanon`, `encodeCanon_sorted`, `canonical_utf8`).

  Two kinds of input are refused, in the code (since /repo 5a9d079 and 185cb68) and here:
  * a method / request URI / X-Matrix origin / destination that is not valid UTF-8 (json.Marshal wrote U+FFFD for
    it on both sides, so it was not bound by the signature) is refused by
    `readHTTPRequest` and by `Sign`: `refused_if_not_utf8`, `accepted_fields_utf8`;
  * a body with duplicate member names or ill-formed strings (lone surrogate escapes) is refused by the gate of
    SignJSON / VerifyJSON: `ambiguous_body_refused` (receiver, key ring), and `sign` refuses it on the sending
    side, which is why the completeness theorems ask of the body only `BodyOk` = "the body is valid UTF-8"
    (a body that is not is refused: `refused_if` (6)); `signed_request_accepted_gated` is completeness against
    the key ring WITH its gate (what Sign stores passes it: `canonical_strict`).

  Partial claims (props/C13.py): net/http, net/url and mime are parameters of the model (`HttpReq`,
  `urlRequestURI`); residue outside the model: a key ID or signature TEXT in an X-Matrix header that is not valid
  UTF-8 (neither is a signed field).
-/
import VModel.FedReq
import VProofs.FedReq
import VProofs.FedReqStrict
import VProofs.JsonUtf8
import VProps.C01
import VGen.C13
namespace V.C13
open V.Json V.FedReq

theorem gen_fields :
    VGen.fedReqFields = [("Content", "content", true), ("Destination", "destination", false), ("Method", "method", false),
      ("Origin", "origin", false), ("RequestURI", "uri", false), ("Signatures", "signatures", true)] := rfl

theorem gen_header_format :
    VGen.authHeaderFormat = ("X-Matrix origin=\"%s\",key=\"%s\",sig=\"%s\",destination=\"%s\"",
      ["r.fields.Origin", "keyID", "sig", "r.fields.Destination"]) ∧
    VGen.httpRequestHeaders = [("Content-Type", "application/json")] ∧
    VGen.authParamNames = [("==", "origin"), ("==", "key"), ("==", "sig"), ("==", "destination")] ∧
    VGen.authSchemeChecks = [("!=", "X-Matrix")] ∧ VGen.mediaTypeChecks = [("!=", "application/json")] :=
  ⟨rfl, rfl, rfl, rfl, rfl⟩

/-- the model's `safeByte` is the regenerated switch of isSafeInHTTPQuotedString, for every byte -/
theorem gen_safe_ranges :
    ∀ n : Nat, n < 256 → safeByte (UInt8.ofNat n) = VGen.safeRanges.any (fun r => decide (r.1 ≤ n) && decide (n ≤ r.2)) := by
  decide +kernel

/-- What HTTPRequest writes into the Authorization header, ParseAuthorization reads back — for every
    origin, key ID, signature and destination free of commas and double quotes (isSafeInHTTPQuotedString
    excludes the quote; that server names, key IDs and base64 texts contain no comma is not proved here: it stays a
    hypothesis, `hcomma` / `hsigtext` of the completeness theorems). -/
theorem header_roundtrip (o k s d : Str)
    (ho : 0x2C ∉ o ∧ 0x22 ∉ o) (hk : 0x2C ∉ k ∧ 0x22 ∉ k) (hs : 0x2C ∉ s ∧ 0x22 ∉ s) (hd : 0x2C ∉ d ∧ 0x22 ∉ d) :
    parseAuthorization (authHeader o k s d) = ⟨xMatrix, o, d, k, s⟩ :=
  parse_authHeader o k s d ho hk hs hd

example : parseAuthorization (authHeader (bz!"localhost:8800") (bz!"ed25519:a_Obwu") (bz!"7vt4vP/w8zYB3Zg") (bz!"localhost:44033"))
    = ⟨xMatrix, bz!"localhost:8800", bz!"localhost:44033", bz!"ed25519:a_Obwu", bz!"7vt4vP/w8zYB3Zg"⟩ := by decide +kernel

/-- the comma hypothesis is needed: a key ID with a comma does not survive (the code checks quotes only) -/
example : (parseAuthorization (authHeader (bz!"a") (bz!"ed25519:a,b") (bz!"s") (bz!"d"))).key = bz!"ed25519:a" := by decide +kernel

/-! ### Acceptance is sound: everything an accepted request guarantees -/

/-- If VerifyHTTPRequest accepts, then: the reported method and URI are the transmitted ones; the reported
    content is the transmitted body, which had JSON content type and was valid UTF-8; there is an X-Matrix
    header, every X-Matrix header is well-formed and names the reported origin; the reported destination
    is the one named by the (last) header, or the receiver's own name if none is named, and the receiver owns
    it; the origin is a valid server name; and the verifier accepted exactly the object built from the reported
    fields at the time of receipt. -/
theorem accepted_facts (req : HttpReq) (now : Millis) (destination : Str) (isLocal : Option (Str → Bool))
    (V : Verifier) (r : Fields) (h : verifyHTTPRequest req now destination isLocal V = .ok r) :
    r.method = req.method ∧ r.uri = req.requestURI ∧
    (req.body = [] → r.content = none) ∧
    (req.body ≠ [] → r.content = some req.body ∧ req.mediaType = some applicationJSON ∧ utf8Valid req.body = true) ∧
    (∃ a, claimed req = some a ∧ a.wellFormed = true ∧ r.origin = a.origin ∧
        r.destination = (if a.destination.isEmpty then destination else a.destination)) ∧
    (∀ a ∈ xMatrixAuths req.authorization, a.wellFormed = true ∧ a.origin = r.origin) ∧
    Owned destination isLocal r.destination ∧
    validServerName r.origin = true ∧
    ∃ cv, contentValue r.content = some cv ∧
      V r.origin now (signingObject cv r.destination r.method r.origin r.uri) r.signatures = .accepted := by
  obtain ⟨f, hr, hown, rfl, _, ho, hv, hacc⟩ := (verifyHTTPRequest_eq_ok req now destination isLocal V r).mp h
  obtain ⟨_, hbody, hauth⟩ := (readHTTPRequest_eq_ok req f).mp hr
  obtain ⟨h1, h2, h3, _, h5, h6⟩ := readAuth_ok _ _ _ hauth
  refine ⟨h2, h3, fun hb => h1.trans (if_pos hb), fun hb => ⟨h1.trans (if_neg hb), hbody hb⟩, ?_,
    fun a ha => ⟨(h5 a ha).1, (h5 a ha).2.1⟩, ?_, hv, hacc⟩
  · unfold claimed
    cases hcl : (xMatrixAuths req.authorization).getLast? with
    | none => rw [hcl] at h6; rw [h6] at ho; exact absurd rfl ho
    | some a =>
      rw [hcl] at h6
      exact ⟨a, rfl, (h5 a (List.mem_of_getLast? hcl)).1, h6.1, by simp only [h6.2]⟩
  · by_cases hd : f.destination = []
    · simp only [hd, List.isEmpty_nil, ↓reduceIte]
      unfold Owned; cases isLocal <;> simp
    · have hde : f.destination.isEmpty = false := by simpa using hd
      have := hown hd
      simp only [hde, Bool.false_eq_true, ↓reduceIte]
      unfold Owned
      cases isLocal with
      | some loc => exact Or.inl this
      | none => exact this.symm

/-- The request is refused (whatever the verifier says) if
    (1) no Authorization header is an X-Matrix one, or
    (2) some X-Matrix header lacks an origin, a key or a signature, or
    (3) the claimed origin is not a valid server name, or
    (4) two X-Matrix headers name different origins, or
    (5) it names a destination the receiver does not own, or
    (6) it has a body whose content type is not application/json or which is not valid UTF-8, or
    (7) the verifier accepts nothing in the claimed origin's name at the time of receipt, whatever the object and the
        signatures. -/
theorem refused_if (req : HttpReq) (now : Millis) (destination : Str) (isLocal : Option (Str → Bool)) (V : Verifier)
    (hbad :
      (∀ h ∈ req.authorization, (parseAuthorization h).scheme ≠ xMatrix) ∨
      (∃ a ∈ xMatrixAuths req.authorization, a.wellFormed = false) ∨
      (∃ a, claimed req = some a ∧ validServerName a.origin = false) ∨
      (∃ a ∈ xMatrixAuths req.authorization, ∃ b ∈ xMatrixAuths req.authorization, a.origin ≠ b.origin) ∨
      (∃ a, claimed req = some a ∧ a.destination ≠ [] ∧ ¬ Owned destination isLocal a.destination) ∨
      (req.body ≠ [] ∧ (req.mediaType ≠ some applicationJSON ∨ utf8Valid req.body = false)) ∨
      (∀ a, claimed req = some a → ∀ obj sigs, V a.origin now obj sigs ≠ .accepted)) :
    ∀ r, verifyHTTPRequest req now destination isLocal V ≠ .ok r := by
  intro r hok
  obtain ⟨_, _, _, f4, ⟨a, hcl, hwf, ho, hd⟩, f6, hown, hvalid, cv, _, hacc⟩ := accepted_facts req now destination isLocal V r hok
  have hmem : a ∈ xMatrixAuths req.authorization := List.mem_of_getLast? hcl
  rcases hbad with h1 | ⟨b, hb, hbw⟩ | ⟨b, hb, hbv⟩ | ⟨b, hb, c, hc, hne⟩ | ⟨b, hb, hbne, hbo⟩ | ⟨hbody, hbb⟩ | h7
  · simp only [xMatrixAuths, List.mem_filter, List.mem_map, beq_iff_eq] at hmem
    obtain ⟨⟨h, hh, rfl⟩, hs⟩ := hmem
    exact h1 h hh hs
  · rw [(f6 b hb).1] at hbw; cases hbw
  · rw [hcl] at hb; simp only [Option.some.injEq] at hb; subst hb
    rw [ho] at hvalid; rw [hvalid] at hbv; cases hbv
  · exact hne ((f6 b hb).2.trans (f6 c hc).2.symm)
  · rw [hcl] at hb; simp only [Option.some.injEq] at hb; subst hb
    have hde : a.destination.isEmpty = false := by simpa using hbne
    rw [hde] at hd; simp only [Bool.false_eq_true, ↓reduceIte] at hd
    rw [hd] at hown; exact hbo hown
  · obtain ⟨_, hm, hu⟩ := f4 hbody
    rcases hbb with hx | hx
    · exact hx hm
    · rw [hu] at hx; cases hx
  · exact h7 a hcl _ _ (ho ▸ hacc)

/-- (7) for the key ring: a request is refused when no key of the origin in the table was valid at
    the time of receipt (StrictValiditySignatureCheck / expired_ts), whatever the signatures are. -/
theorem refused_if_key_invalid (req : HttpReq) (now : Millis) (destination : Str) (isLocal : Option (Str → Bool))
    (table : List KeyEntry) (dbError : Bool) (wc : Nat) (check : Nat → JVal → Str → Bool)
    (hkeys : ∀ a, claimed req = some a → ∀ k ∈ table, k.server = a.origin → wasValidAt wc k now = false) :
    ∀ r, verifyHTTPRequest req now destination isLocal (keyRingVerifier table dbError wc check) ≠ .ok r := by
  apply refused_if
  right; right; right; right; right; right
  intro a ha obj sigs hacc
  obtain ⟨_, kv, _, _, k, hk, hs, _, hv, _⟩ := (keyRing_accepted_iff table dbError wc check a.origin now obj sigs).mp hacc
  rw [hkeys a ha k hk hs] at hv; cases hv

/-- Binding.  With an ideal signature scheme, an accepted request was signed by a key of the reported origin
    that the receiver's key table holds as valid at the time of receipt; and if what that key signed was a
    request object (destination d, method m, origin o, URI u, content c), then the receiver reports exactly d, m,
    o, u — which are also the transmitted method and URI — and a content equal to c up to member order (the
    same canonical JSON).  Contrapositive: a request that differs from what was signed in any of these is refused. -/
theorem binding (S : SigScheme) (hS : IdealSig S)
    (req : HttpReq) (now : Millis) (destination : Str) (isLocal : Option (Str → Bool))
    (table : List KeyEntry) (dbError : Bool) (wc : Nat) (r : Fields)
    (h : verifyHTTPRequest req now destination isLocal (keyRingVerifier table dbError wc S.check) = .ok r) :
    ∃ k ∈ table, k.server = r.origin ∧ wasValidAt wc k now = true ∧
      ∃ signedObj, (∃ kv ∈ r.signatures, kv.1 = k.keyID ∧ kv.2 = S.sign k.pk signedObj) ∧
        ∀ c d m o u, signedObj = signingObject c d m o u →
          r.destination = d ∧ r.method = m ∧ r.origin = o ∧ r.uri = u ∧ req.method = m ∧ req.requestURI = u ∧
          ∃ cv, contentValue r.content = some cv ∧ cv.map JVal.sorted = c.map JVal.sorted := by
  obtain ⟨f1, f2, _, _, _, _, _, _, cv, hcv, hacc⟩ := accepted_facts req now destination isLocal _ r h
  obtain ⟨_, kv, hkv, _, k, hk, hs, hid, hv, hc⟩ := (keyRing_accepted_iff table dbError wc S.check _ now _ _).mp hacc
  obtain ⟨signedObj, hsig, hsorted⟩ := hS.unforgeable _ _ _ hc
  refine ⟨k, hk, hs, hv, signedObj, ⟨kv, hkv, hid.symm, hsig⟩, ?_⟩
  intro c d m o u hobj
  subst hobj
  obtain ⟨h1, h2, h3, h4, h5⟩ := signingObject_sorted_inj _ _ _ _ _ _ _ _ _ _ hsorted
  exact ⟨h1, h2, h3, h4, by rw [← f1, h2], by rw [← f2, h4], cv, hcv, h5⟩

/-! ### C01's contribution: what Sign leaves as the body re-reads to the same value -/

mutual
/-- no number of the parsed text is the literal `-0` (the one literal canonical JSON re-spells) -/
def noNegZero : PVal → Bool
  | .num raw => raw != [0x2D, 0x30]
  | .arr xs => noNegZeroList xs
  | .obj kvs => noNegZeroMembers kvs
  | _ => true
def noNegZeroList : List PVal → Bool
  | [] => true
  | x :: xs => noNegZero x && noNegZeroList xs
def noNegZeroMembers : List (Bytes × Bytes × PVal) → Bool
  | [] => true
  | (_, _, v) :: kvs => noNegZero v && noNegZeroMembers kvs
end

mutual
theorem normNums_of_noNegZero : (p : PVal) → noNegZero p = true → p.toJVal.normNums = p.toJVal
  | .null, _ => rfl
  | .bool _, _ => rfl
  | .str _ _, _ => rfl
  | .num raw, h => by
    simp only [noNegZero, bne_iff_ne, ne_eq] at h
    simp [PVal.toJVal, JVal.normNums, encodeNum, h]
  | .arr xs, h => by
    simp only [noNegZero] at h
    simp only [PVal.toJVal, JVal.normNums, normNumsList_of_noNegZero xs h]
  | .obj kvs, h => by
    simp only [noNegZero] at h
    simp only [PVal.toJVal, JVal.normNums, normNumsMembers_of_noNegZero kvs h]
theorem normNumsList_of_noNegZero : (xs : List PVal) → noNegZeroList xs = true → normNumsList (toJVals xs) = toJVals xs
  | [], _ => rfl
  | x :: xs, h => by
    simp only [noNegZeroList, Bool.and_eq_true] at h
    simp only [toJVals, normNumsList, normNums_of_noNegZero x h.1, normNumsList_of_noNegZero xs h.2]
theorem normNumsMembers_of_noNegZero : (kvs : List (Bytes × Bytes × PVal)) → noNegZeroMembers kvs = true →
    normNumsMembers (toJMembers kvs) = toJMembers kvs
  | [], _ => rfl
  | (_, _, v) :: kvs, h => by
    simp only [noNegZeroMembers, Bool.and_eq_true] at h
    simp only [toJMembers, normNumsMembers, normNums_of_noNegZero v h.1, normNumsMembers_of_noNegZero kvs h.2]
end

/-- **C01's facts about the body Sign stores.**  For a body that is valid UTF-8 and denotes a JSON value
    `p` without lone surrogate escapes and without duplicate keys, the canonical JSON `c` that Sign stores
    (`V.C01.canonical_eq_spec_general`: it is `encodeCanon p`) is valid UTF-8 (`V.Json.canonical_utf8`), parses
    (`V.Json.parse_encodeCanon`, the content of `V.C01.canonical_output_valid`) to the value `p` with members sorted
    and `-0` written `0`, and has the same canonical bytes as `p` (`V.C01`'s idempotence: `encodeCanon_sorted`,
    `encodeCanon_normNums`); if no number is the literal `-0`, the two values are equal up to member order. -/
theorem canonical_body_facts {raw c : Bytes} {p : PVal} (hp : parse raw = some p) (hu : utf8Valid raw = true)
    (hs : p.surrogatesOk = true) (hd : p.noDupKeys = true) (hc : canonical raw = .ok c) :
    c = encodeCanon p.toJVal ∧ utf8Valid c = true ∧
    ∃ p', parse c = some p' ∧ p'.toJVal = p.toJVal.sorted.normNums ∧
      encodeCanon p'.toJVal = encodeCanon p.toJVal ∧
      (noNegZero p = true → p'.toJVal.sorted = p.toJVal.sorted) := by
  have hspec := V.C01.canonical_eq_spec_general raw p hp hs
  rw [hspec] at hc
  have hce : c = encodeCanon p.toJVal := by injection hc with h; exact h.symm
  subst hce
  obtain ⟨hp', hv'⟩ := parse_encodeCanon p.toJVal (parse_numsOk hp)
  have hdj : p.toJVal.noDupKeys = true := (noDupKeys_toJVal p).trans hd
  refine ⟨rfl, canonical_utf8 hp hu, _, hp', hv', ?_, ?_⟩
  · rw [hv', encodeCanon_normNums, encodeCanon_sorted _ hdj]
  · intro hnz
    rw [hv', sorted_normNums, sorted_idem _ hdj, ← sorted_normNums, normNums_of_noNegZero p hnz]

/-- the hypotheses of `canonical_body_facts` hold of an ordinary body: `{"b":-0, "a":[1,"é\n"]}` is valid UTF-8, has no
    lone surrogate escape and no duplicate key; its canonical form is `{"a":[1,"é\n"],"b":0}`.  (It does contain
    `-0`: the two values then differ in that literal only.) -/
example : (utf8Valid (bz!"{\"b\":-0, \"a\":[1,\"é\\n\"]}") &&
    (parse (bz!"{\"b\":-0, \"a\":[1,\"é\\n\"]}")).any (fun p => p.surrogatesOk && p.noDupKeys && !noNegZero p) &&
    (canonical (bz!"{\"b\":-0, \"a\":[1,\"é\\n\"]}")).toOption == some (bz!"{\"a\":[1,\"é\\n\"],\"b\":0}")) = true := by
  decide +kernel

/-- …and why the hypothesis `hs` (no lone surrogate escape) cannot be dropped: Sign stores `""` for the body `"\ud800"`
    (CompactJSON drops the escape), which does not denote the value the body denotes (U+FFFD, as gjson reads it:
    the canonical bytes of the two values differ). -/
example : (canonical (bz!"\"\\ud800\"")).toOption = some (bz!"\"\"") ∧
    canonicalSpec (bz!"\"\\ud800\"") = some [0x22, 0xEF, 0xBF, 0xBD, 0x22] ∧ canonicalSpec (bz!"\"\"") = some (bz!"\"\"") := by
  decide +kernel

/-! ### Completeness: a signed request sent through HTTPRequest is accepted -/

/-- The residue of the completeness theorems: the body is valid UTF-8 (anything else is refused — `refused_if` (6)).
    A body with a lone surrogate escape or a duplicate key is refused by `sign` (the gate of SignJSON), so the
    hypothesis `hsign` already excludes it (`signed_body_strict`). -/
def BodyOk (raw : Bytes) : Prop := utf8Valid raw = true

/-- A request that `sign` accepted has a body SignJSON's gate lets through: it parses, its surrogate escapes are paired
    (hence no lone one), no object has two members with one name. -/
theorem signed_body_strict {f0 f : Fields} {serverName keyID : Str} {mk : JVal → Str}
    (hsign : sign f0 serverName keyID mk = .ok f) {raw : Bytes} (hc0 : f0.content = some raw) (hne : raw ≠ []) :
    ∃ p, parse raw = some p ∧ V.Sign.pairedOk p = true ∧ p.surrogatesOk = true ∧ p.noDupKeys = true := by
  obtain ⟨_, _, _, hstrict, _⟩ := sign_shape f0 f serverName keyID mk hsign
  rw [hc0] at hstrict
  obtain ⟨p, hp, hw, hd⟩ := (contentSignStrict_some hne).mp hstrict
  exact ⟨p, hp, hw, surrogatesOk_of_paired p hw, hd⟩

/-- The common part of the completeness theorems: everything except the signature check itself, which enters as
    `hchk` (body present: the object the receiver rebuilds from the canonical body `p'` checks against the signature made
    over the object built from the original body `p`, given what `canonical_body_facts` says of the two) and `hchk0`
    (no body).  The transmitted body also passes the strict-JSON gate of VerifyJSON (second conjunct). -/
private theorem accepted_core (S : SigScheme)
    (f0 f : Fields) (serverName keyID : Str) (pk : Nat) (up : Option Str) (req : HttpReq)
    (now : Millis) (destination : Str) (isLocal : Option (Str → Bool)) (table : List KeyEntry) (wc : Nat)
    (hsign : sign f0 serverName keyID (S.sign pk) = .ok f)
    (hreq : httpRequest f up = .ok req)
    (hnosig : f0.signatures = [])
    (hmethod : f0.method ≠ [])
    (hdest : f0.destination ≠ [])
    (hown : match isLocal with
      | some loc => loc f0.destination = true
      | none => destination = f0.destination)
    (hname : serverName ≠ []) (hvalid : validServerName serverName = true)
    (hkid : ed25519Prefix.isPrefixOf keyID = true)
    (hkey : ∃ k ∈ table, k.server = serverName ∧ k.keyID = keyID ∧ k.pk = pk ∧ wasValidAt wc k now = true)
    (hcomma : 0x2C ∉ serverName ∧ 0x2C ∉ keyID ∧ 0x2C ∉ f0.destination)
    (hsigtext : ∀ obj, 0x2C ∉ S.sign pk obj ∧ 0x22 ∉ S.sign pk obj ∧ S.sign pk obj ≠ [] ∧ utf8Valid (S.sign pk obj) = true)
    (hcontent : f0.content ≠ some [])
    (hbody : ∀ raw, f0.content = some raw → BodyOk raw)
    (hchk : ∀ (raw : Bytes) (p p' : PVal), f0.content = some raw → parse raw = some p → encodeCanon p'.toJVal = encodeCanon p.toJVal →
      (noNegZero p = true → p'.toJVal.sorted = p.toJVal.sorted) →
      S.check pk (signingObject (some p'.toJVal) f0.destination f0.method serverName f0.uri)
        (S.sign pk (signingObject (some p.toJVal) f0.destination f0.method serverName f0.uri)) = true)
    (hchk0 : S.check pk (signingObject none f0.destination f0.method serverName f0.uri)
          (S.sign pk (signingObject none f0.destination f0.method serverName f0.uri)) = true) :
    (verifyHTTPRequest req now destination isLocal (keyRingVerifier table false wc S.check) = .ok f ∧
      f.method = f0.method ∧ f.uri = f0.uri ∧ f.origin = serverName ∧ f.destination = f0.destination) ∧
    contentStrict (some req.body) = true := by
  obtain ⟨hu8, hmar, hkidv, _, cv0, cc, hcv0, rfl, hcnone, hcsome⟩ := sign_shape f0 f serverName keyID _ hsign
  -- the one signature, and its text
  have hsigs : setSig f0.signatures keyID (S.sign pk (signingObject cv0 f0.destination f0.method serverName f0.uri)) =
      [(keyID, S.sign pk (signingObject cv0 f0.destination f0.method serverName f0.uri))] := by rw [hnosig]; rfl
  obtain ⟨hsc, hsq, hsne, hsu⟩ := hsigtext (signingObject cv0 f0.destination f0.method serverName f0.uri)
  have hkne : keyID ≠ [] := by
    intro e; rw [e] at hkid; revert hkid; decide
  -- the content the receiver finds: non-empty valid UTF-8; the value it reads it as; the signature check against that value
  obtain ⟨cvF, hcvF, hbodyF, hstrict, hchkF⟩ : ∃ cvF, contentValue cc = some cvF ∧
      (∀ c, cc = some c → c ≠ [] ∧ utf8Valid c = true) ∧ contentStrict (some (cc.getD [])) = true ∧
      S.check pk (signingObject cvF f0.destination f0.method serverName f0.uri)
        (S.sign pk (signingObject cv0 f0.destination f0.method serverName f0.uri)) = true := by
    cases hc0 : f0.content with
    | none =>
      cases hcnone (Or.inl hc0)
      rw [hc0] at hcv0
      cases hcv0
      exact ⟨none, rfl, fun c hc => (by cases hc), rfl, hchk0⟩
    | some raw =>
      have hrne : raw ≠ [] := by intro e; rw [e] at hc0; exact hcontent hc0
      obtain ⟨c, hcan, rfl⟩ := hcsome raw hc0 hrne
      obtain ⟨p, hp, _, hs, hd⟩ := signed_body_strict hsign hc0 hrne
      obtain ⟨hce', hu, p', hp', _, henc, hsort⟩ := canonical_body_facts hp (hbody raw hc0) hs hd hcan
      have hcne : c ≠ [] := by intro e; rw [e, parse_nil] at hp'; cases hp'
      have hre : raw.isEmpty = false := by simpa using hrne
      have hce : c.isEmpty = false := by simpa using hcne
      have hcv0s : cv0 = some p.toJVal := by
        rw [hc0] at hcv0
        simpa [contentValue, hre, hp] using hcv0.symm
      refine ⟨some p'.toJVal, by simp [contentValue, hce, hp'], fun c' hc' => ?_, hce' ▸ canonical_strict hp (hbody raw hc0) hd,
        by rw [hcv0s]; exact hchk raw p p' hc0 hp henc hsort⟩
      cases hc'
      exact ⟨hcne, hu⟩
  -- the receiver reads back exactly the signed fields
  have hread := read_produced _ up req keyID _ hreq hsigs hmethod hbodyF ⟨hcomma.1, hcomma.2.1, hsc, hcomma.2.2⟩ hsq
    ⟨hname, hkne, hsne⟩ hu8
  obtain ⟨k, hk, hks, hkid2, hkpk, hkv⟩ := hkey
  have hde : f0.destination.isEmpty = false := by simpa using hdest
  refine ⟨⟨(verifyHTTPRequest_eq_ok ..).mpr ⟨_, hread, fun _ => hown, by simp [hde], ?_, hname, hvalid, cvF, hcvF, ?_⟩, rfl, rfl, rfl, rfl⟩,
    (httpRequest_shape _ up req keyID _ hreq hsigs).2.2.2 ▸ hstrict⟩
  rotate_left
  · rw [keyRing_accepted_iff]
    refine ⟨rfl, (keyID, S.sign pk (signingObject cv0 f0.destination f0.method serverName f0.uri)),
      hsigs ▸ List.mem_singleton.mpr rfl, hkid, k, hk, hks, hkid2, hkv, ?_⟩
    rw [hkpk]
    exact hchkF
  · simp only [marshalable, Bool.and_eq_true, List.all_eq_true] at hmar ⊢
    rw [hsigs]
    refine ⟨hmar.1, fun kv hkv => ?_⟩
    cases List.mem_singleton.mp hkv
    exact ⟨hkidv, hsu⟩

/-- A request (NewFederationRequest + optional SetContent = `f0`, not yet signed) signed by its origin with a
    key the receiver holds as valid at the time of receipt, rendered by HTTPRequest and delivered unchanged, is
    accepted at the named destination, and VerifyHTTPRequest reports the signed fields (`f`: method, URI,
    origin, destination as given; its content is the canonical form Sign stored, `sign_shape`).  `hsigtext` is what the
    unpadded base64 text of a 64-byte signature satisfies.

    C01's facts about canonical JSON are not assumed: they are `canonical_body_facts`, for every body that is valid
    UTF-8 (`BodyOk`; that it has no lone surrogate escape and no duplicate key follows from `hsign`: Sign refuses such
    bodies).  One further restriction is
    forced by `IdealSig.correct`, which promises a valid check only for objects equal *up to member order*: no number of
    the body is the literal `-0` (canonical JSON writes it `0`, so the receiver's object differs from the signed one in
    that literal).  `signed_request_accepted_canon` removes it under the byte-level reading of correctness. -/
theorem signed_request_accepted (S : SigScheme) (hS : IdealSig S)
    (f0 f : Fields) (serverName keyID : Str) (pk : Nat) (up : Option Str) (req : HttpReq)
    (now : Millis) (destination : Str) (isLocal : Option (Str → Bool)) (table : List KeyEntry) (wc : Nat)
    (hsign : sign f0 serverName keyID (S.sign pk) = .ok f)
    (hreq : httpRequest f up = .ok req)
    (hnosig : f0.signatures = [])
    (hmethod : f0.method ≠ [])
    (hdest : f0.destination ≠ [])
    (hown : match isLocal with
      | some loc => loc f0.destination = true
      | none => destination = f0.destination)
    (hname : serverName ≠ []) (hvalid : validServerName serverName = true)
    (hkid : ed25519Prefix.isPrefixOf keyID = true)
    (hkey : ∃ k ∈ table, k.server = serverName ∧ k.keyID = keyID ∧ k.pk = pk ∧ wasValidAt wc k now = true)
    (hcomma : 0x2C ∉ serverName ∧ 0x2C ∉ keyID ∧ 0x2C ∉ f0.destination)
    (hsigtext : ∀ obj, 0x2C ∉ S.sign pk obj ∧ 0x22 ∉ S.sign pk obj ∧ S.sign pk obj ≠ [] ∧ utf8Valid (S.sign pk obj) = true)
    (hcontent : f0.content ≠ some [])
    (hbody : ∀ raw, f0.content = some raw → BodyOk raw ∧ ∀ p, parse raw = some p → noNegZero p = true) :
    verifyHTTPRequest req now destination isLocal (keyRingVerifier table false wc S.check) = .ok f ∧
      f.method = f0.method ∧ f.uri = f0.uri ∧ f.origin = serverName ∧ f.destination = f0.destination := by
  refine (accepted_core S f0 f serverName keyID pk up req now destination isLocal table wc hsign hreq hnosig hmethod hdest
    hown hname hvalid hkid hkey hcomma hsigtext hcontent (fun raw hc0 => (hbody raw hc0).1) ?_ ?_).1
  · intro raw p p' hc0 hp _ hsort
    exact hS.correct _ _ _ (signingObject_sorted_congr _ _ _ _ _ _ (by simp [hsort ((hbody raw hc0).2 p hp)]))
  · exact hS.correct _ _ _ rfl

/-- Correctness of a scheme that signs the canonical JSON bytes (what ed25519 over `CanonicalJSON` does): a signature
    checks against every object with the same canonical bytes as the signed one.  Implies `IdealSig.correct`. -/
def CanonCorrect (S : SigScheme) : Prop :=
  ∀ pk obj obj', encodeCanon obj' = encodeCanon obj → S.check pk obj' (S.sign pk obj) = true

theorem CanonCorrect.toSorted {S : SigScheme} (h : CanonCorrect S) :
    ∀ pk obj obj', obj'.sorted = obj.sorted → S.check pk obj' (S.sign pk obj) = true :=
  fun pk obj obj' hs => h pk obj obj' (by unfold encodeCanon; rw [hs])

theorem encodeCanon_signingObject_congr (a b : JVal) (d m o u : Bytes) (h : encodeCanon a = encodeCanon b) :
    encodeCanon (signingObject (some a) d m o u) = encodeCanon (signingObject (some b) d m o u) := by
  unfold encodeCanon at h ⊢
  rw [sorted_signingObject_some, sorted_signingObject_some]
  simp only [encode, encodeMembers, h]

/-- The same at full strength for bodies containing `-0`: with correctness read at the level of the signed bytes
    (`CanonCorrect`), every signed request whose body is valid UTF-8 (`BodyOk`) is accepted. -/
theorem signed_request_accepted_canon (S : SigScheme) (hS : CanonCorrect S)
    (f0 f : Fields) (serverName keyID : Str) (pk : Nat) (up : Option Str) (req : HttpReq)
    (now : Millis) (destination : Str) (isLocal : Option (Str → Bool)) (table : List KeyEntry) (wc : Nat)
    (hsign : sign f0 serverName keyID (S.sign pk) = .ok f)
    (hreq : httpRequest f up = .ok req)
    (hnosig : f0.signatures = [])
    (hmethod : f0.method ≠ [])
    (hdest : f0.destination ≠ [])
    (hown : match isLocal with
      | some loc => loc f0.destination = true
      | none => destination = f0.destination)
    (hname : serverName ≠ []) (hvalid : validServerName serverName = true)
    (hkid : ed25519Prefix.isPrefixOf keyID = true)
    (hkey : ∃ k ∈ table, k.server = serverName ∧ k.keyID = keyID ∧ k.pk = pk ∧ wasValidAt wc k now = true)
    (hcomma : 0x2C ∉ serverName ∧ 0x2C ∉ keyID ∧ 0x2C ∉ f0.destination)
    (hsigtext : ∀ obj, 0x2C ∉ S.sign pk obj ∧ 0x22 ∉ S.sign pk obj ∧ S.sign pk obj ≠ [] ∧ utf8Valid (S.sign pk obj) = true)
    (hcontent : f0.content ≠ some [])
    (hbody : ∀ raw, f0.content = some raw → BodyOk raw) :
    verifyHTTPRequest req now destination isLocal (keyRingVerifier table false wc S.check) = .ok f ∧
      f.method = f0.method ∧ f.uri = f0.uri ∧ f.origin = serverName ∧ f.destination = f0.destination := by
  refine (accepted_core S f0 f serverName keyID pk up req now destination isLocal table wc hsign hreq hnosig hmethod hdest
    hown hname hvalid hkid hkey hcomma hsigtext hcontent hbody ?_ ?_).1
  · intro raw p p' _ _ henc _
    exact hS _ _ _ (encodeCanon_signingObject_congr _ _ _ _ _ _ henc)
  · exact hS _ _ _ rfl

/-- Completeness against the key ring WITH the gate of VerifyJSON (`verifyWithKeyRing`): what Sign stores as the body
    — canonical JSON of a body that passed the sender's gate — passes the receiver's gate (`canonical_strict`), so the
    signed request is accepted exactly as in `signed_request_accepted_canon`. -/
theorem signed_request_accepted_gated (S : SigScheme) (hS : CanonCorrect S)
    (f0 f : Fields) (serverName keyID : Str) (pk : Nat) (up : Option Str) (req : HttpReq)
    (now : Millis) (destination : Str) (isLocal : Option (Str → Bool)) (table : List KeyEntry) (wc : Nat)
    (hsign : sign f0 serverName keyID (S.sign pk) = .ok f)
    (hreq : httpRequest f up = .ok req)
    (hnosig : f0.signatures = [])
    (hmethod : f0.method ≠ [])
    (hdest : f0.destination ≠ [])
    (hown : match isLocal with
      | some loc => loc f0.destination = true
      | none => destination = f0.destination)
    (hname : serverName ≠ []) (hvalid : validServerName serverName = true)
    (hkid : ed25519Prefix.isPrefixOf keyID = true)
    (hkey : ∃ k ∈ table, k.server = serverName ∧ k.keyID = keyID ∧ k.pk = pk ∧ wasValidAt wc k now = true)
    (hcomma : 0x2C ∉ serverName ∧ 0x2C ∉ keyID ∧ 0x2C ∉ f0.destination)
    (hsigtext : ∀ obj, 0x2C ∉ S.sign pk obj ∧ 0x22 ∉ S.sign pk obj ∧ S.sign pk obj ≠ [] ∧ utf8Valid (S.sign pk obj) = true)
    (hcontent : f0.content ≠ some [])
    (hbody : ∀ raw, f0.content = some raw → BodyOk raw) :
    verifyWithKeyRing req now destination isLocal table false wc S.check = .ok f ∧
      f.method = f0.method ∧ f.uri = f0.uri ∧ f.origin = serverName ∧ f.destination = f0.destination := by
  obtain ⟨hacc, hstrict⟩ := accepted_core S f0 f serverName keyID pk up req now destination isLocal table wc hsign hreq hnosig hmethod hdest
    hown hname hvalid hkid hkey hcomma hsigtext hcontent hbody
    (fun raw p p' _ _ henc _ => hS _ _ _ (encodeCanon_signingObject_congr _ _ _ _ _ _ henc)) (hS _ _ _ rfl)
  unfold verifyWithKeyRing
  rw [gated_of_strict _ hstrict]
  exact hacc

/-- **A body its readers disagree on is refused** (/repo 185cb68, for requests): whatever the headers, the keys and the
    signatures, a request whose body has two members with one name in some object, or a string / member name that is
    not well formed (a lone surrogate escape), is not accepted by a receiver whose JSONVerifier is a key ring —
    VerifyJSON's gate fails for every key.  (Before the commit it was accepted under a signature made over the body as
    encoding/json and CompactJSON read it.) -/
theorem ambiguous_body_refused (req : HttpReq) (now : Millis) (destination : Str) (isLocal : Option (Str → Bool))
    (table : List KeyEntry) (dbError : Bool) (wc : Nat) (check : Nat → JVal → Str → Bool)
    (h : contentStrict (some req.body) = false) :
    ∀ r, verifyWithKeyRing req now destination isLocal table dbError wc check ≠ .ok r := by
  unfold verifyWithKeyRing
  apply refused_if
  right; right; right; right; right; right
  intro a _ obj sigs
  exact gated_never_accepts req.body h table dbError wc check a.origin now obj sigs

/-- **Sign refuses such a body too** (duplicate names, lone surrogate escapes; a body that is merely not valid UTF-8 is
    signed as before and refused by the receiver: `refused_if` (6)), and a method / URI / origin / destination that is not
    valid UTF-8. -/
theorem sign_refuses (f0 : Fields) (serverName keyID : Str) (mk : JVal → Str)
    (h : contentSignStrict f0.content = false ∨ fieldsUTF8 { f0 with origin := serverName } = false) :
    ∀ f, sign f0 serverName keyID mk ≠ .ok f := by
  intro f hs
  obtain ⟨hu8, _, _, hstrict, _⟩ := sign_shape f0 f serverName keyID mk hs
  rcases h with h | h
  · rw [hstrict] at h; cases h
  · rw [hu8] at h; cases h

theorem accepted_utf8 (req : HttpReq) (now : Millis) (destination : Str) (isLocal : Option (Str → Bool))
    (V : Verifier) (r : Fields) (h : verifyHTTPRequest req now destination isLocal V = .ok r) :
    utf8Valid req.method = true ∧ utf8Valid req.requestURI = true ∧
    ∀ a ∈ xMatrixAuths req.authorization, utf8Valid a.origin = true ∧ utf8Valid a.destination = true := by
  obtain ⟨f, hr, _⟩ := (verifyHTTPRequest_eq_ok req now destination isLocal V r).mp h
  obtain ⟨hmu, _, hauth⟩ := (readHTTPRequest_eq_ok req f).mp hr
  exact ⟨hmu.1, hmu.2, fun a ha => ((readAuth_ok _ _ _ hauth).2.2.2.2.1 a ha).2.2⟩

/-- **Fields that are not valid UTF-8 are refused** (/repo 5a9d079): a transmitted request whose method or request URI, or whose
    X-Matrix origin or destination, is not valid UTF-8 is not accepted — by any verifier.  (json.Marshal wrote U+FFFD for
    every invalid sequence, on both sides: `PUT /a?user=<U+FFFD>` signed, `/a?user=\xc0` transmitted, was accepted.) -/
theorem refused_if_not_utf8 (req : HttpReq) (now : Millis) (destination : Str) (isLocal : Option (Str → Bool)) (V : Verifier)
    (h : utf8Valid req.method = false ∨ utf8Valid req.requestURI = false ∨
      ∃ a ∈ xMatrixAuths req.authorization, utf8Valid a.origin = false ∨ utf8Valid a.destination = false) :
    ∀ r, verifyHTTPRequest req now destination isLocal V ≠ .ok r := by
  intro r hok
  obtain ⟨hm, hu, ha⟩ := accepted_utf8 req now destination isLocal V r hok
  rcases h with h | h | ⟨a, hmem, h | h⟩
  · rw [hm] at h; cases h
  · rw [hu] at h; cases h
  · rw [(ha a hmem).1] at h; cases h
  · rw [(ha a hmem).2] at h; cases h

/-- … in positive form: every signed string field an accepted request reports is valid UTF-8, so the JSON object the
    signature was checked over carries exactly these bytes (`binding` is then a statement about the transmitted bytes). -/
theorem accepted_fields_utf8 (req : HttpReq) (now : Millis) (destination : Str) (isLocal : Option (Str → Bool))
    (V : Verifier) (r : Fields) (h : verifyHTTPRequest req now destination isLocal V = .ok r) :
    utf8Valid r.method = true ∧ utf8Valid r.uri = true ∧ utf8Valid r.origin = true ∧
    (∀ a, claimed req = some a → a.destination ≠ [] → utf8Valid r.destination = true) := by
  obtain ⟨hm, hu, ha⟩ := accepted_utf8 req now destination isLocal V r h
  obtain ⟨f1, f2, _, _, ⟨a, hcl, _, ho, hd⟩, _⟩ := accepted_facts req now destination isLocal V r h
  have hmem : a ∈ xMatrixAuths req.authorization := List.mem_of_getLast? hcl
  refine ⟨f1 ▸ hm, f2 ▸ hu, ho ▸ (ha a hmem).1, fun b hb hne => ?_⟩
  cases hcl.symm.trans hb
  have hde : a.destination.isEmpty = false := by simpa using hne
  rw [hd, hde]
  exact (ha a hmem).2

/-! ### Non-vacuity: the hypotheses are jointly satisfiable -/

/-- a toy scheme: the "signature" is the canonical JSON of the object followed by a key tag -/
def toyScheme : SigScheme where
  sign pk obj := 0x41 :: (encodeCanon obj).filter (fun c => c != 0x2C && c != 0x22 && c < 0x80) ++ [UInt8.ofNat (0x30 + pk % 10)]
  check pk obj sig := sig == 0x41 :: (encodeCanon obj).filter (fun c => c != 0x2C && c != 0x22 && c < 0x80) ++ [UInt8.ofNat (0x30 + pk % 10)]

/-- the toy scheme satisfies `IdealSig` (it is of course not secure: the point is joint satisfiability) -/
example : IdealSig toyScheme where
  correct := by
    intro pk obj obj' h
    simp only [toyScheme, encodeCanon, h, beq_self_eq_true]
  unforgeable := by
    intro pk obj' sig h
    refine ⟨obj', ?_, rfl⟩
    simpa [toyScheme] using h

/-- a concrete accepted request (a bodiless GET), evaluated by the kernel: the model accepts what it produced -/
example :
    (match sign (newRequest (bz!"GET") [] (bz!"b.example") (bz!"/_matrix/federation/v1/version"))
        (bz!"a.example") (bz!"ed25519:1") (toyScheme.sign 3) with
    | .ok f =>
      (match httpRequest f (some f.uri) with
       | .ok req =>
         (match verifyHTTPRequest req 1000 (bz!"b.example") none
            (keyRingVerifier [⟨bz!"a.example", bz!"ed25519:1", 3, 5000, 0⟩] false 2000 toyScheme.check) with
          | .ok r => r.method == bz!"GET" && r.origin == bz!"a.example" && r.destination == bz!"b.example"
          | .error _ => false)
       | .error _ => false)
    | .error _ => false) = true := by
  decide +kernel

/-- the toy scheme is also correct at the level of canonical bytes (hypothesis of `signed_request_accepted_canon`) -/
example : CanonCorrect toyScheme := by
  intro pk obj obj' h
  simp [toyScheme, h]

/-- `hbody` of `signed_request_accepted` is satisfiable by an ordinary body: `{"b":1, "a":[1,"é\n"]}` -/
example : BodyOk (bz!"{\"b\":1, \"a\":[1,\"é\\n\"]}") ∧
    ∀ p, parse (bz!"{\"b\":1, \"a\":[1,\"é\\n\"]}") = some p → noNegZero p = true := by
  have h : (parse (bz!"{\"b\":1, \"a\":[1,\"é\\n\"]}")).all (fun p => noNegZero p) = true := by
    decide +kernel
  refine ⟨by unfold BodyOk; decide +kernel, fun p hp => ?_⟩
  rw [hp] at h
  simpa using h

/-- `hbody` of `signed_request_accepted_canon`: a body containing `-0` is in its domain -/
example : BodyOk (bz!"{\"b\":-0, \"a\":[1,\"é\\n\"]}") := by
  unfold BodyOk; decide +kernel

/-- a concrete accepted request with a body (a PUT whose body contains `-0` and a non-ASCII string, sent with its
    members out of order), evaluated by the kernel: the receiver reports the canonical body -/
example :
    (match setContent (newRequest (bz!"put") [] (bz!"b.example") (bz!"/_matrix/federation/v1/send/1")) (bz!"{\"b\":-0, \"a\":[1,\"é\\n\"]}") with
    | .ok f0 =>
      (match sign f0 (bz!"a.example") (bz!"ed25519:1") (toyScheme.sign 3) with
       | .ok f =>
         (match httpRequest f (some f.uri) with
          | .ok req =>
            (match verifyHTTPRequest req 1000 (bz!"b.example") none
               (keyRingVerifier [⟨bz!"a.example", bz!"ed25519:1", 3, 5000, 0⟩] false 2000 toyScheme.check) with
             | .ok r => r.method == bz!"PUT" && r.origin == bz!"a.example" && r.content == some (bz!"{\"a\":[1,\"é\\n\"],\"b\":0}")
             | .error _ => false)
          | .error _ => false)
       | .error _ => false)
    | .error _ => false) = true := by
  decide +kernel

/-! ### The inputs that /repo 5a9d079 and 185cb68 were written for are refused -/

/-- 5a9d079: `/a?user=\xc0` (signed: `/a?user=<U+FFFD>`) — refused whatever the headers and the verifier -/
example (auth : List Str) (body : Bytes) (mt : Option Str) (now : Millis) (d : Str) (l : Option (Str → Bool)) (V : Verifier) :
    ∀ r, verifyHTTPRequest ⟨bz!"PUT", [0x2F, 0x61, 0x3F, 0x75, 0x73, 0x65, 0x72, 0x3D, 0xC0], body, mt, auth⟩ now d l V ≠ .ok r :=
  refused_if_not_utf8 _ now d l V (Or.inr (Or.inl (by dsimp only; decide +kernel)))

/-- 5a9d079, sending side: Sign refuses `PUT /_matrix/x?q=\xff` (before, it stored `/_matrix/x?q=<U+FFFD>`) -/
example (mk : JVal → Str) : ∀ f, sign (newRequest (bz!"PUT") [] (bz!"b.example") [0x2F, 0x78, 0x3F, 0x71, 0x3D, 0xFF])
    (bz!"a.example") (bz!"ed25519:1") mk ≠ .ok f :=
  sign_refuses _ _ _ mk (Or.inr (by decide +kernel))

/-- 185cb68: the bodies `{"a":"a\ud800b","n":{"x":1}}` and `{"a":"EVIL","a":"ab","n":{"x":1}}` (signed: `{"a":"ab","n":{"x":1}}`) -/
example (m u : Str) (auth : List Str) (now : Millis) (d : Str) (l : Option (Str → Bool)) (table : List KeyEntry) (db : Bool)
    (wc : Nat) (check : Nat → JVal → Str → Bool) :
    (∀ r, verifyWithKeyRing ⟨m, u, bz!"{\"a\":\"a\\ud800b\",\"n\":{\"x\":1}}", some applicationJSON, auth⟩ now d l table db wc check ≠ .ok r) ∧
    (∀ r, verifyWithKeyRing ⟨m, u, bz!"{\"a\":\"EVIL\",\"a\":\"ab\",\"n\":{\"x\":1}}", some applicationJSON, auth⟩ now d l table db wc check ≠ .ok r) :=
  ⟨ambiguous_body_refused _ now d l table db wc check (by dsimp only; decide +kernel),
   ambiguous_body_refused _ now d l table db wc check (by dsimp only; decide +kernel)⟩

/-- … and Sign refuses to sign `{"a":1,"a":2}` -/
example (mk : JVal → Str) : ∀ f, sign { newRequest (bz!"PUT") [] (bz!"b.example") (bz!"/a") with content := some (bz!"{\"a\":1,\"a\":2}") }
    (bz!"a.example") (bz!"ed25519:1") mk ≠ .ok f :=
  sign_refuses _ _ _ mk (Or.inl (by decide +kernel))

end V.C13
