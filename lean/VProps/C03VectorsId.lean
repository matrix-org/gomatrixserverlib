/-
  C03 — concrete builds under an injective toy hash (the identity): the events `build_eventID_injective` and its corollaries
  are not vacuous on, evaluated by the kernel.  The proto-events are defined in VProps/C03.lean.
-/
import VProps.C03
namespace V.C03
open V V.Json V.GoJson V.Redact V.EventParse V.RedactProofs V.EventProofs V.BuildProofs

theorem exMember_ok (name : Bytes) {uns : Option JVal} (hu : ∀ u, uns = some u → u.numsOk = true) : ProtoOk (exMember name uns) :=
  ⟨fun c h => by cases h; rfl, hu, fun s h => by cases h⟩

example : ProtoOk (exMember b!"a" none) ∧ ProtoOk (exMember b!"b" (some (.obj [(b!"age", .num b!"7")]))) :=
  ⟨exMember_ok _ (fun u h => by cases h), exMember_ok _ (fun u h => by cases h; decide)⟩

theorem v10_row : ∃ row, rowOf b!"10" = some row ∧ row.eventFormat = 2 := by
  have hv := v10_format
  cases hr : rowOf b!"10" with
  | none => rw [hr] at hv; cases hv
  | some row => rw [hr] at hv; exact ⟨row, rfl, by simpa using hv⟩

/-- a content hash that passes under the identity as hash function is not empty: it decodes to the hashed bytes, and these
    begin with `{` -/
theorem claimedHash_nonempty {k : EventParse.Obj} (h : contentHashOk Hid k = true) : (claimedHash k).isEmpty = false := by
  cases hc : claimedHash k with
  | cons c cs => rfl
  | nil =>
    rw [contentHashOk, hc, show B64.decode [] = some [] from rfl] at h
    simp [Hid, hashedBytes, encodeCanon, JVal.sorted, encode] at h

/-- the three builds of the examples below, evaluated once -/
theorem exBuilt : (match builtID (exMember b!"a" none) b!"c2ln", builtID (exMember b!"b" none) b!"c2ln",
      builtID (exMember b!"a" (some (.obj [(b!"age", .num b!"7")]))) b!"eHl6" with
  | some i1, some i2, some i3 => i1 != i2 && i1 == i3 && !i1.isEmpty
  | _, _, _ => false) = true := by decide +kernel

theorem build_of_builtID {pe : EventBuild.Proto} {sig : Bytes} (h : (builtID pe sig).isSome = true) :
    ∃ e, EventBuild.build Hid b!"10" pe 1000 b!"hs" b!"ed25519:1" b!"abcdefghijklmnop" sig = .ok e := by
  unfold builtID at h
  split at h
  · exact ⟨_, ‹_›⟩
  · cases h

set_option maxRecDepth 100000 in
/-- what `build_hashed` derives, on a concrete build that succeeds (`exBuilt`): the hypotheses of
    `eventID_determines_hashes` / `eventID_injective_hashed` are satisfiable together (with an injective `H`) -/
example : (match EventBuild.build Hid b!"10" (exMember b!"a" none) 1000 b!"hs" b!"ed25519:1" b!"abcdefghijklmnop" b!"c2ln" with
  | .ok e => (JVal.obj e.obj).numsOk && noDupIn (keysOf e.obj) && contentHashOk Hid e.obj && !(claimedHash e.obj).isEmpty
  | .error _ => false) = true := by
  have h1 : (builtID (exMember b!"a" none) b!"c2ln").isSome = true := by
    have h := exBuilt
    generalize builtID (exMember b!"a" none) b!"c2ln" = i1 at h
    cases i1 with
    | some i => rfl
    | none => cases h
  obtain ⟨e, hb⟩ := build_of_builtID h1
  obtain ⟨row, hrow, hfmt⟩ := v10_row
  obtain ⟨hn, hd, hc, _⟩ := build_hashed hrow hfmt (exMember_ok _ (fun u h => by cases h)) hb
  rw [hb]
  simp only [hn, (noDupIn_iff_nodup _).mpr hd, hc, claimedHash_nonempty hc, Bool.not_false, Bool.and_self]

set_option maxRecDepth 100000 in
/-- three successful builds: two that differ in one (redactable) content field have different IDs; two that differ
    only in `unsigned` and in the signature bytes have the same ID -/
example : (match builtID (exMember b!"a" none) b!"c2ln", builtID (exMember b!"b" none) b!"c2ln",
      builtID (exMember b!"a" (some (.obj [(b!"age", .num b!"7")]))) b!"eHl6" with
  | some i1, some i2, some i3 => i1 != i2 && i1 == i3 && !i1.isEmpty
  | _, _, _ => false) = true := exBuilt

/-- the theorem on the concrete builds above (`Hid`, room version 10): the two member events that differ in `displayname`
    only — whatever `Build` returns for them, at any two times, for any origins, key IDs and signature bytes — have different
    IDs (the evaluated example above shows that both builds succeed) -/
example {now1 now2 : Nat} {o1 o2 k1 k2 r1 r2 s1 s2 : Bytes} {e1 e2 : PDU}
    (hb1 : EventBuild.build Hid b!"10" (exMember b!"a" none) now1 o1 k1 r1 s1 = .ok e1)
    (hb2 : EventBuild.build Hid b!"10" (exMember b!"b" (some (.obj [(b!"age", .num b!"7")]))) now2 o2 k2 r2 s2 = .ok e2) :
    eventID Hid e1 ≠ eventID Hid e2 := by
  obtain ⟨row, hr, hfmt⟩ := v10_row
  refine build_differ_eventID_ne Hid_injective hr hfmt (exMember_ok _ (fun u h => by cases h))
    (exMember_ok _ (fun u h => by cases h; decide)) hb1 hb2 ?_
  refine Or.inr (Or.inr (Or.inr (Or.inr (Or.inr (Or.inr (Or.inr (Or.inr (Or.inl ?_))))))))
  intro h
  exact absurd (congrArg (fun o : Option JVal => o.map encode) h) (by decide +kernel)

end V.C03
