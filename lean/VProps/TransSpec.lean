/-
  Translated-function obligations for spec/servername.go.
-/
import VGen.TransSpec
import VModel.Ident
import VModel.Event
namespace V.Trans.Spec

/-- for every rune (any integer): exactly ASCII letters, digits, `-` and `.`; in particular no rune ≥ 128 -/
theorem isDNSNameChar_iff (r : Int) :
    VGen.TransSpec.isDNSNameChar r = true ↔
      (65 ≤ r ∧ r ≤ 90) ∨ (97 ≤ r ∧ r ≤ 122) ∨ (48 ≤ r ∧ r ≤ 57) ∨ r = 45 ∨ r = 46 := by
  -- the translation is regenerated from the Go source: `simp` normalises whatever order and spelling it gives the
  -- comparisons, `omega` closes what that leaves (nothing, for the present text)
  simp [VGen.TransSpec.isDNSNameChar] <;> omega

/-- `isDNSNameChar` as translated from the Go source = the model's predicate, on every byte (a rune below 256) -/
theorem isDNSNameChar_eq_model (c : UInt8) :
    VGen.TransSpec.isDNSNameChar (Int.ofNat c.toNat) = V.Ident.isDNSNameChar c := by
  rw [Bool.eq_iff_iff, isDNSNameChar_iff]
  simp [V.Ident.isDNSNameChar, UInt8.le_iff_toNat_le, ← UInt8.toNat_inj]
  omega

/-- … and the event-parsing model's copy of it (the same term) -/
theorem isDNSNameChar_eq_event_model (c : UInt8) :
    VGen.TransSpec.isDNSNameChar (Int.ofNat c.toNat) = V.isDNSNameChar c :=
  isDNSNameChar_eq_model c

end V.Trans.Spec
