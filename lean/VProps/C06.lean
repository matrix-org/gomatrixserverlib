/-
  C06 — An event verifies only if every protocol-required server validly signed it.

  Model: VModel.Signers (`requiredSigners`, `requests`, `verifyEventSignatures`, mirroring
  VerifyEventSignatures in eventcrypto.go); specification: `Signers.Spec.required`, written from the
  property text.  The signature verifier (the key ring, C12; the cryptography, C02) is an oracle
  `valid : Request → Bool`; "missing, corrupted, wrong-key or out-of-validity" all enter as `valid r = false`.

  The pseudo-ID room version org.matrix.msc4014 (the sender ID is itself a public key, events are
  self-verified, a join's `mxid_mapping` is verified through the caller's verifier) has its own model
  `verifyPseudo` and its own theorems at the end of the file; `requiredSigners` is the `needed` map of all
  other versions.
-/
import VModel.Signers
import VProofs.Guard
import VProofs.Lists
namespace V.C06
open V.Json V.GoJson V.Signers

/-- The three columns VerifyEventSignatures reads, against the specification's version predicates.  The third conjunct
    (every version names one of the two restricted-join functions, none has a nil one) is what `no_panic` needs. -/
def ColsOk (row : VGen.VersionRow) : Prop :=
  (row.eventIDFormat == 1) = Spec.idNamesServer row.key ∧
  (row.restrictedJoinServernameFunc == "extractAuthorisedViaServerName") = Spec.supportsRestrictedJoins row.key ∧
  (row.restrictedJoinServernameFunc == "extractAuthorisedViaServerName" ∨
    row.restrictedJoinServernameFunc == "emptyAuthorisedViaServerName") ∧
  strictValidity row = Spec.strictFrom5 row.key

instance (row : VGen.VersionRow) : Decidable (ColsOk row) := by unfold ColsOk; exact inferInstance

/-- Event IDs name a server exactly in room versions 1 and 2; the authorising server of a restricted join
    is extracted exactly in 8, 9, 10, 11, 12, hydra, msc3787, msc4014; the strict key-validity rule applies
    exactly from version 5 on.  Checked against the table regenerated from eventversion.go on every run. -/
theorem columns_eq_spec : ∀ row ∈ VGen.roomVersions, ColsOk row := by decide +kernel

theorem cutAt_cons_ne {sep c : UInt8} (h : (c == sep) = false) (rest : Bytes) :
    (cutAt sep (c :: rest)).map (·.2) = (cutAt sep rest).map (·.2) := by
  simp only [cutAt, h]
  cases cutAt sep rest with
  | none => rfl
  | some p => rfl

theorem splitIDDomain_eq_serverOf (sigil : UInt8) (hs : (sigil == 0x3A) = false) (id : Bytes) :
    splitIDDomain sigil id = Spec.serverOf sigil id := by
  cases id with
  | nil => rfl
  | cons c rest =>
    simp only [splitIDDomain, Spec.serverOf]
    by_cases hc : (c == sigil) = true
    · simp only [hc, if_true]
      have : (c == (0x3A : UInt8)) = false := by
        have := eq_of_beq hc
        subst this
        exact hs
      exact cutAt_cons_ne this rest
    · simp [hc]

theorem lookupExact_eq_foldl_filter (kvs : List (Bytes × JVal)) (name : Bytes) :
    lookupExact kvs name = (kvs.filter (fun kv => kv.1 == name)).foldl (fun _ kv => some kv.2) none :=
  List.foldl_filter.symm

theorem lookupExact_of_absent {kvs : List (Bytes × JVal)} {name : Bytes} (h : Spec.exactMember kvs name = .absent) :
    lookupExact kvs name = none := by
  unfold Spec.exactMember at h
  rw [lookupExact_eq_foldl_filter]
  split at h
  · rename_i hf; rw [hf]; rfl
  · cases h
  · cases h

/-- A name that occurs once is found with its value: on JSON objects in the proper sense (no repeated name)
    the code's lookup (last member of that exact name) is THE member of that name. -/
theorem lookupExact_of_val {kvs : List (Bytes × JVal)} {name : Bytes} {v : JVal} (h : Spec.exactMember kvs name = .val v) :
    lookupExact kvs name = some v := by
  unfold Spec.exactMember at h
  rw [lookupExact_eq_foldl_filter]
  split at h
  · cases h
  · rename_i kv hf
    rw [hf]
    cases h
    rfl
  · cases h

theorem membership_ok_iff {e : Event} {m : Bytes} :
    membership e = .ok m ↔ e.stateKey.isSome = true ∧ ∃ c, e.content = some c ∧ membershipField c = some m := by
  unfold membership
  cases e.content with
  | none => exact ⟨fun h => (nomatch h), fun ⟨_, _, h, _⟩ => (nomatch h)⟩
  | some c =>
    simp only [Option.some.injEq, exists_eq_left']
    cases membershipField c with
    | none => exact ⟨fun h => (nomatch h), fun ⟨_, h⟩ => (nomatch h)⟩
    | some m' =>
      cases e.stateKey with
      | none => exact ⟨fun h => (nomatch h), fun ⟨h, _⟩ => (nomatch h)⟩
      | some sk => exact ⟨fun h => by cases h; exact ⟨rfl, rfl⟩, fun ⟨_, h⟩ => by cases h; rfl⟩

theorem membership_of_spec (e : Event) (m : Bytes) (h : Spec.membershipOf e = some m) :
    membership e = .ok m ∧ e.stateKey.isSome = true := by
  unfold Spec.membershipOf at h
  split at h
  · rename_i kvs sk hc hk
    refine ⟨membership_ok_iff.mpr ⟨by rw [hk]; rfl, _, hc, ?_⟩, by rw [hk]; rfl⟩
    unfold membershipField
    simp only
    split at h
    · rename_i hx
      cases h
      rw [lookupExact_of_val hx]
      rfl
    · rename_i hx
      cases h
      rw [lookupExact_of_absent hx]
      rfl
    · rename_i hx
      cases h
      rw [lookupExact_of_val hx]
      rfl
    · cases h
  · rename_i sk hc hk
    cases h
    exact ⟨membership_ok_iff.mpr ⟨by rw [hk]; rfl, _, hc, rfl⟩, by rw [hk]; rfl⟩
  · cases h

theorem membership_obj (e : Event) (m : Bytes) (h : membership e = .ok m) (hm : m ≠ []) :
    ∃ kvs, e.content = some (.obj kvs) := by
  obtain ⟨_, c, hc, hf⟩ := membership_ok_iff.mp h
  cases c with
  | obj kvs => exact ⟨kvs, hc⟩
  | null => cases hf; exact absurd rfl hm
  | _ => cases hf

theorem mem_addNeeded (s x : Bytes) (l : List Bytes) : x ∈ addNeeded s l ↔ x = s ∨ x ∈ l := by
  unfold addNeeded
  split
  · rename_i h
    exact ⟨Or.inr, fun hx => hx.elim (fun hs => hs ▸ List.contains_iff_mem.mp h) id⟩
  · rw [List.mem_append, List.mem_singleton, or_comm]

theorem mem_addNeeded_of_mem (s x : Bytes) (l : List Bytes) (h : x ∈ l) : x ∈ addNeeded s l :=
  (mem_addNeeded s x l).mpr (Or.inr h)

theorem extract_spec (kvs : List (Bytes × JVal)) :
    extractAuthorisedVia (some (.obj kvs)) =
      match lookupExact kvs b!"join_authorised_via_users_server" with
      | none => .ok []
      | some (.str u) =>
        match Spec.serverOf 0x40 u with
        | some d => if d.isEmpty then .error (errRej "authorised-via") else .ok d
        | none => .error (errRej "authorised-via")
      | some _ => .error (errRej "authorised-via") := by
  unfold extractAuthorisedVia
  simp only
  cases lookupExact kvs b!"join_authorised_via_users_server" with
  | none => rfl
  | some v =>
    cases v with
    | str u =>
      simp only [decString, Bool.false_eq_true, if_false]
      rw [splitIDDomain_eq_serverOf 0x40 (by decide)]
      cases Spec.serverOf 0x40 u <;> rfl
    | _ => rfl

/-- What the theorem `required_eq_spec` says for each answer of the specification: the same members, not the same list
    (`needed` is a Go map); nothing where the specification is silent (unreadable membership, one of the two names twice). -/
def Agrees (spec : Spec.Req) (model : Except Err (List Bytes)) : Prop :=
  match spec with
  | .servers l => ∃ l', model = .ok l' ∧ ∀ s, s ∈ l' ↔ s ∈ l
  | .undeterminable => ∃ why, model = .error (.other why)
  | .unspecified => True

theorem addNeeded_agrees {n l : List Bytes} (h : ∀ s, s ∈ n ↔ s ∈ l) (x : Bytes) :
    ∀ s, s ∈ addNeeded x n ↔ s ∈ l ++ [x] := by
  intro s
  rw [mem_addNeeded, h, List.mem_append, List.mem_singleton, or_comm]

/-- Sender and event ID: model and specification add the same servers, and go on in the same way (`F`, `G`)
    if they do so from any lists with the same members. -/
theorem idStage_agrees {row : VGen.VersionRow} (hid : (row.eventIDFormat == 1) = Spec.idNamesServer row.key)
    (id d : Bytes) (F : List Bytes → Spec.Req) (G : List Bytes → Except Err (List Bytes))
    (h : ∀ n idl, (∀ s, s ∈ n ↔ s ∈ d :: idl) → Agrees (F idl) (G n)) :
    Agrees
      (match (if Spec.idNamesServer row.key then (Spec.serverOf 0x24 id).map (fun d0 => [d0]) else some []) with
        | none => .undeterminable
        | some idl => F idl)
      (match (if row.eventIDFormat == 1 then (splitIDDomain 0x24 id).map (fun d0 => addNeeded d0 [d]) else some [d]) with
        | none => .error (errRej "event-id")
        | some n => G n) := by
  rw [← hid, splitIDDomain_eq_serverOf 0x24 (by decide)]
  cases row.eventIDFormat == 1 with
  | false => exact h [d] [] (fun _ => Iff.rfl)
  | true =>
    cases Spec.serverOf 0x24 id with
    | none => exact ⟨_, rfl⟩
    | some d0 => exact h _ [d0] (addNeeded_agrees (l := [d]) (fun _ => Iff.rfl) d0)

/-- **The servers the code requires are the servers the property names**: the sender's server; in room
    versions 1–2 the server named in the event ID; for invites the invited user's server; for joins carrying
    `join_authorised_via_users_server`, in versions with restricted joins, that user's server — "the membership"
    and "join_authorised_via_users_server" being the members of the content with EXACTLY these names (no side
    condition about other spellings: they are not read).  When one of the servers cannot be determined (malformed
    event ID / state key / authorising user, or an authorising user `@user:` without server name) the code rejects. -/
theorem required_eq_spec (row : VGen.VersionRow) (hc : ColsOk row) (e : Event) (d : Bytes) :
    Agrees (Spec.required row.key e (some d)) (requiredSigners row e (.ok (some d))) := by
  obtain ⟨hid, hrj, hrj2, _⟩ := hc
  unfold Spec.required requiredSigners
  refine idStage_agrees hid e.eventID d _ _ (fun n idl hn => ?_)
  by_cases ht : (e.type != b!"m.room.member") = true
  · rw [if_pos ht, if_pos ht]
    exact ⟨n, rfl, hn⟩
  rw [if_neg ht, if_neg ht]
  cases hm : Spec.membershipOf e with
  | none => trivial
  | some m =>
    obtain ⟨hmem, hsk⟩ := membership_of_spec e m hm
    simp only [hmem]
    by_cases hinv : m = b!"invite"
    · subst hinv
      obtain ⟨sk, hk⟩ := Option.isSome_iff_exists.mp hsk
      simp only [hk, Option.bind_some, splitIDDomain_eq_serverOf 0x40 (by decide), beq_self_eq_true, if_true,
        show (b!"invite" == b!"join") = false from by decide, Bool.false_eq_true, if_false]
      cases Spec.serverOf 0x40 sk with
      | none => exact ⟨_, rfl⟩
      | some d' => exact ⟨_, rfl, addNeeded_agrees hn d'⟩
    simp only [beq_false_of_ne hinv, Bool.false_eq_true, if_false]
    by_cases hj : m = b!"join"
    · subst hj
      obtain ⟨kvs, hcont⟩ := membership_obj e _ hmem (by decide)
      simp only [beq_self_eq_true, if_true, Bool.true_and, hcont]
      -- a call of its own: `beq_self_eq_true` is slow to rule out on the string comparisons of `restrictedJoinServername`
      simp only [restrictedJoinServername, hrj]
      cases hx : Spec.supportsRestrictedJoins row.key with
      | false =>
        have he : (row.restrictedJoinServernameFunc == "emptyAuthorisedViaServerName") = true :=
          hrj2.resolve_left (by rw [hrj, hx]; exact Bool.false_ne_true)
        simp only [he, Bool.false_eq_true, if_false, if_true, List.isEmpty_nil]
        exact ⟨n, rfl, hn⟩
      | true =>
        simp only [if_true, extract_spec]
        cases hg : Spec.exactMember kvs b!"join_authorised_via_users_server" with
        | absent =>
          rw [lookupExact_of_absent hg]
          exact ⟨n, rfl, hn⟩
        | dup => trivial
        | val v =>
          rw [lookupExact_of_val hg]
          cases v with
          | str u =>
            simp only
            cases Spec.serverOf 0x40 u with
            | none => exact ⟨_, rfl⟩
            | some d' =>
              cases hne : d'.isEmpty with
              | true => simp only [hne, if_true]; exact ⟨_, rfl⟩
              | false =>
                simp only [hne, Bool.false_eq_true, if_false]
                exact ⟨_, rfl, addNeeded_agrees hn d'⟩
          | _ => exact ⟨_, rfl⟩
    · simp only [beq_false_of_ne hj, Bool.false_and, Bool.false_eq_true, if_false]
      exact ⟨n, rfl, hn⟩

/-- A join (room version 10) whose authorising user is `@x:`: the property demands a signature of "that
    user's server", which does not exist — the event is rejected (it used to need nothing extra; /repo d4c4559). -/
def viaEmptyWitness : Event :=
  { ver := b!"10", eventID := b!"$e", obj :=
      [(b!"type", .str b!"m.room.member"), (b!"sender", .str b!"@a:hs1"), (b!"state_key", .str b!"@a:hs1"),
       (b!"content", .obj [(b!"membership", .str b!"join"), (b!"join_authorised_via_users_server", .str b!"@x:")])] }

/-- list of required servers, `none` on error (decidable form for the examples) -/
def requiredList (ver : String) (e : Event) (d : Bytes) : Option (List Bytes) :=
  match VGen.roomVersions.find? (fun r => r.key == ver) with
  | some row => match requiredSigners row e (.ok (some d)) with
    | .ok l => some l
    | .error _ => none
  | none => none

example : requiredList "10" viaEmptyWitness b!"hs1" = none ∧
    Spec.required "10" viaEmptyWitness (some b!"hs1") = .undeterminable := by
  decide +kernel

/-- The `.servers` case of `required_eq_spec` occurs, with three different servers: an invite in room
    version 1 needs the sender's server, the event ID's server and the invited user's server. -/
def inviteWitness : Event :=
  { ver := b!"1", eventID := b!"$e1:hs4", obj :=
      [(b!"type", .str b!"m.room.member"), (b!"sender", .str b!"@a:hs1"), (b!"state_key", .str b!"@b:hs2:8448"),
       (b!"content", .obj [(b!"membership", .str b!"invite")])] }

example : requiredList "1" inviteWitness b!"hs1" = some [b!"hs1", b!"hs4", b!"hs2:8448"] ∧
    Spec.required "1" inviteWitness (some b!"hs1") = .servers [b!"hs1", b!"hs4", b!"hs2:8448"] := by
  decide +kernel

theorem verify_eq (row : VGen.VersionRow) (e : Event) (sd : Except Err (Option Bytes)) (valid : Request → Bool) (vf : Bool) :
    verifyEventSignatures row e sd valid vf =
      match requiredSigners row e sd with
      | .error err => .error err
      | .ok l =>
        if vf then .error (errRej "verifier")
        else if l.all (fun s => valid ⟨s, e.originServerTS, strictValidity row⟩) then .ok () else .error (errRej "signature") := by
  unfold verifyEventSignatures requests
  cases requiredSigners row e sd with
  | error err => rfl
  | ok l =>
    simp only [List.all_map]
    rfl

theorem verify_ok_iff (row : VGen.VersionRow) (e : Event) (sd : Except Err (Option Bytes)) (valid : Request → Bool)
    (vf : Bool) :
    verifyEventSignatures row e sd valid vf = .ok () ↔
      vf = false ∧ ∃ l, requiredSigners row e sd = .ok l ∧
        ∀ s ∈ l, valid ⟨s, e.originServerTS, strictValidity row⟩ = true := by
  rw [verify_eq]
  cases requiredSigners row e sd with
  | error err => exact ⟨fun h => (nomatch h), fun ⟨_, _, h, _⟩ => (nomatch h)⟩
  | ok l =>
    cases vf with
    | true => exact ⟨fun h => (nomatch h), fun ⟨h, _⟩ => (nomatch h)⟩
    | false =>
      constructor
      · intro h
        exact ⟨rfl, l, rfl, fun s hs => List.all_eq_true.mp (Guard.ok_iff'.mp h).1 s hs⟩
      · rintro ⟨_, l', hl', hall⟩
        cases hl'
        exact if_pos (List.all_eq_true.mpr hall)

/-- **VerifyEventSignatures succeeds exactly when every required server's request is answered valid**
    (each request made at the event's origin_server_ts with the version's key-validity rule). -/
theorem verify_iff (row : VGen.VersionRow) (e : Event) (sd : Except Err (Option Bytes)) (valid : Request → Bool) :
    verifyEventSignatures row e sd valid false = .ok () ↔
      ∃ l, requiredSigners row e sd = .ok l ∧
        ∀ s ∈ l, valid ⟨s, e.originServerTS, strictValidity row⟩ = true := by
  rw [verify_ok_iff]
  exact ⟨fun h => h.2, fun h => ⟨rfl, h⟩⟩

theorem verifyAll_getElem? (row : VGen.VersionRow) (es : List Event) (sd : Event → Except Err (Option Bytes))
    (valid : Event → Request → Bool) (vf : Event → Bool) {i : Nat} (h : i < es.length) :
    (verifyAllEventSignatures row es sd valid vf)[i]? = some (verifyEventSignatures row es[i] (sd es[i]) (valid es[i]) (vf es[i])) := by
  rw [verifyAllEventSignatures, List.getElem?_map, List.getElem?_eq_getElem h, Option.map_some]

/-- **The bulk entry point gives one verdict per event, in order, and each is the verdict of that event alone**:
    no verdict is carried from one event (or one request) to another, whatever else is in the batch — events sharing
    an ID (room versions 1–2), repeated events, events with several required servers. -/
theorem verify_all_pointwise (row : VGen.VersionRow) (es : List Event) (sd : Event → Except Err (Option Bytes))
    (valid : Event → Request → Bool) :
    (verifyAllEventSignatures row es sd valid (fun _ => false)).length = es.length ∧
    ∀ (i : Nat) (h : i < es.length),
      ((verifyAllEventSignatures row es sd valid (fun _ => false))[i]? = some (.ok ()) ↔
        ∃ l, requiredSigners row es[i] (sd es[i]) = .ok l ∧
          ∀ s ∈ l, valid es[i] ⟨s, es[i].originServerTS, strictValidity row⟩ = true) := by
  refine ⟨List.length_map _, fun i h => ?_⟩
  rw [verifyAll_getElem? _ _ _ _ _ h, Option.some.injEq]
  exact verify_iff row es[i] (sd es[i]) (valid es[i])

/-- … so a batch verdict does not depend on the rest of the batch: the verdict of an event is the same in any two
    batches (at whatever positions). -/
theorem verify_all_batch_irrelevant (row : VGen.VersionRow) (es es' : List Event) (sd : Event → Except Err (Option Bytes))
    (valid : Event → Request → Bool) (i j : Nat) (hi : i < es.length) (hj : j < es'.length) (he : es[i] = es'[j]) :
    (verifyAllEventSignatures row es sd valid (fun _ => false))[i]? =
      (verifyAllEventSignatures row es' sd valid (fun _ => false))[j]? := by
  rw [verifyAll_getElem? _ _ _ _ _ hi, verifyAll_getElem? _ _ _ _ _ hj, he]

/-- The same against the specification: when the property's required set is `l`, the event verifies iff
    every server in `l` is answered valid at origin_server_ts under the rule the property names
    (strict from room version 5 on). -/
theorem verify_iff_spec (row : VGen.VersionRow) (hc : ColsOk row) (e : Event) (d : Bytes)
    (l : List Bytes) (hl : Spec.required row.key e (some d) = .servers l) (valid : Request → Bool) :
    verifyEventSignatures row e (.ok (some d)) valid false = .ok () ↔
      ∀ s ∈ l, valid ⟨s, e.originServerTS, Spec.strictFrom5 row.key⟩ = true := by
  have ha := required_eq_spec row hc e d
  rw [hl] at ha
  obtain ⟨l', hl', hmem⟩ := ha
  rw [verify_iff, ← hc.2.2.2]
  constructor
  · rintro ⟨l'', h'', hall⟩ s hs
    rw [hl'] at h''; cases h''
    exact hall s ((hmem s).mpr hs)
  · intro hall
    exact ⟨l', hl', fun s hs => hall s ((hmem s).mp hs)⟩

/-- The bulk entry point against the specification: in a batch, the event at position `i` verifies exactly when every
    server the property requires for THAT event is answered valid at its origin_server_ts under the version's rule. -/
theorem verify_all_spec (row : VGen.VersionRow) (hc : ColsOk row) (es : List Event) (d : Event → Bytes)
    (valid : Event → Request → Bool) (i : Nat) (h : i < es.length)
    (l : List Bytes) (hl : Spec.required row.key es[i] (some (d es[i])) = .servers l) :
    (verifyAllEventSignatures row es (fun e => .ok (some (d e))) valid (fun _ => false))[i]? = some (.ok ()) ↔
      ∀ s ∈ l, valid es[i] ⟨s, es[i].originServerTS, Spec.strictFrom5 row.key⟩ = true := by
  rw [verifyAll_getElem? _ _ _ _ _ h, Option.some.injEq]
  exact verify_iff_spec row hc es[i] (d es[i]) l hl (valid es[i])

/-- When a required server cannot be determined the event never verifies, whatever the verifier says. -/
theorem undeterminable_rejects (row : VGen.VersionRow) (hc : ColsOk row) (e : Event) (d : Bytes)
    (hl : Spec.required row.key e (some d) = .undeterminable) (valid : Request → Bool) (vf : Bool) :
    verifyEventSignatures row e (.ok (some d)) valid vf ≠ .ok () := by
  have ha := required_eq_spec row hc e d
  rw [hl] at ha
  obtain ⟨why, hw⟩ := ha
  rw [verify_eq, hw]
  exact nofun

/-- **Signatures from other servers never matter**: two verifiers that agree on the required servers'
    requests give the same verdict. -/
theorem others_irrelevant (row : VGen.VersionRow) (e : Event) (sd : Except Err (Option Bytes))
    (valid valid' : Request → Bool) (vf : Bool)
    (h : ∀ l, requiredSigners row e sd = .ok l → ∀ s ∈ l,
      valid ⟨s, e.originServerTS, strictValidity row⟩ = valid' ⟨s, e.originServerTS, strictValidity row⟩) :
    verifyEventSignatures row e sd valid vf = verifyEventSignatures row e sd valid' vf := by
  rw [verify_eq, verify_eq]
  cases hr : requiredSigners row e sd with
  | error err => rfl
  | ok l => simp only [Lists.all_congr_mem _ _ l (h l hr)]

/-- **One bad signature fails the event**: a missing, corrupted, wrong-key or out-of-validity signature
    from any one required server (`valid` false on its request) makes verification fail. -/
theorem one_bad_fails (row : VGen.VersionRow) (e : Event) (sd : Except Err (Option Bytes)) (valid : Request → Bool)
    (vf : Bool) (l : List Bytes) (hl : requiredSigners row e sd = .ok l) (s : Bytes) (hs : s ∈ l)
    (hbad : valid ⟨s, e.originServerTS, strictValidity row⟩ = false) :
    verifyEventSignatures row e sd valid vf ≠ .ok () := by
  intro h
  obtain ⟨_, l', hl', hall⟩ := (verify_ok_iff row e sd valid vf).mp h
  cases hl.symm.trans hl'
  exact Bool.false_ne_true (hbad.symm.trans (hall s hs))

theorem bad_sender_rejects (row : VGen.VersionRow) (e : Event) (err : Err) (valid : Request → Bool) (vf : Bool) :
    verifyEventSignatures row e (.error err) valid vf ≠ .ok () := by
  rw [verify_eq]
  exact nofun

theorem membership_errs (e : Event) : ErrsIn (· = errRej "membership") (membership e) := by
  intro err h
  unfold membership at h
  split at h
  · cases h; rfl
  · split at h
    · cases h; rfl
    · split at h
      · cases h; rfl
      · cases h

theorem extract_errs (c : Option JVal) : ErrsIn (· = errRej "authorised-via") (extractAuthorisedVia c) := by
  intro err h
  unfold extractAuthorisedVia at h
  split at h
  · split at h
    · cases h
    · simp only at h
      split at h
      · cases h; rfl
      · split at h
        · split at h
          · cases h; rfl
          · cases h
        · cases h; rfl
  · cases h
  · cases h; rfl

theorem restricted_errs (row : VGen.VersionRow) (hc : ColsOk row) (c : Option JVal) :
    ErrsIn (· = errRej "authorised-via") (restrictedJoinServername row c) := by
  intro err h
  obtain ⟨_, _, hrj2, _⟩ := hc
  unfold restrictedJoinServername at h
  split at h
  · exact extract_errs c err h
  · split at h
    · cases h
    · rename_i h1 h2
      rcases hrj2 with h' | h'
      · exact absurd h' h1
      · exact absurd h' h2

/-- No panic site of `requiredSigners` (the `needed` computation of VerifyEventSignatures) is reachable for a registered
    room version: the dereference of the state key is guarded by `Membership()`, and every version has a restricted-join
    function.  (`verifyPseudo` calls `restrictedJoinServername` as well; there `restricted_errs` rules its panic branch
    out, in no theorem of its own.) -/
theorem no_panic (row : VGen.VersionRow) (hc : ColsOk row) (e : Event) (sd : Except Err (Option Bytes)) (site : String)
    (hsd : sd ≠ .error (.panic site)) : requiredSigners row e sd ≠ .error (.panic site) := by
  fun_cases requiredSigners row e sd
  case case1 => exact fun h => hsd (by cases h; rfl)
  case case4 err hm => cases membership_errs e err hm; nofun
  case case5 m hm n2? err hinv =>
    obtain ⟨sk, hk⟩ := Option.isSome_iff_exists.mp (membership_ok_iff.mp hm).1
    simp only [n2?, hk] at hinv
    split at hinv
    · split at hinv <;> cases hinv <;> nofun
    · cases hinv
  case case6 err hr => cases restricted_errs row hc _ _ hr; nofun
  all_goals nofun

/-! ### The tie to the auth rules (C07): whoever the auth rules take for the authoriser must sign

`Allowed` decides a restricted join on `MemberContent.AuthorisedVia` as `NewMemberContentFromEvent` decodes it
(`memberContent` is its model; the correspondence op `signers.member_reading` compares it, and the property's exact
reading, with the real function).  Before /repo c080830 the two functions read DIFFERENT members: the auth rules a
case variant (`Join_authorised_via_users_server`, last match after folding), the signature check the exact name only —
a join "authorised" by a user whose server never signed was allowed. -/

theorem decString_val_ne {v : Option JVal} (h : (decString v).val ≠ []) : ∃ s, v = some (.str s) ∧ (decString v).val = s := by
  cases v with
  | none => exact absurd rfl h
  | some x =>
    cases x with
    | str s => exact ⟨s, rfl, rfl⟩
    | _ => exact absurd rfl h

theorem memberContent_cases {c : Option JVal} {r : MemberReading} (h : memberContent c = some r) :
    (c = some .null ∧ r = ⟨[], []⟩) ∨
    ∃ kvs, c = some (.obj kvs) ∧ (decString (lookupExact kvs b!"membership")).err = false ∧
      r = ⟨(decString (lookupExact kvs b!"membership")).val,
           (decString (lookupExact kvs b!"join_authorised_via_users_server")).val⟩ := by
  unfold memberContent at h
  cases c with
  | none => cases h
  | some c =>
    cases c with
    | obj kvs =>
      refine Or.inr ⟨kvs, rfl, ?_⟩
      simp only at h
      split at h
      · cases h
      · split at h
        · cases h
        · rename_i hne
          cases h
          simp only [Bool.or_eq_true, not_or, Bool.not_eq_true] at hne
          exact ⟨hne.1.1, rfl⟩
    | null => cases h; exact Or.inl ⟨rfl, rfl⟩
    | _ => cases h

/-- **The membership the signature check reads is the membership the auth rules read** (both: the member named
    exactly `membership`). -/
theorem membership_eq_auth_reading (e : Event) (r : MemberReading) (m : Bytes)
    (hread : memberContent e.content = some r) (hm : membership e = .ok m) : m = r.membership := by
  unfold membership at hm
  rcases memberContent_cases hread with ⟨hc, rfl⟩ | ⟨kvs, hc, herr, rfl⟩
  · simp only [hc, membershipField] at hm
    split at hm
    · cases hm
    · cases hm; rfl
  · simp only [hc, membershipField, herr, Bool.false_eq_true, if_false] at hm
    split at hm
    · cases hm
    · cases hm; rfl

/-- **The authoriser of the auth rules must sign.**  In a room version with restricted joins, for a join on which
    `NewMemberContentFromEvent` yields a non-empty `AuthorisedVia`, every required-server list the signature check
    computes contains that user's server (and if the server cannot be determined, there is no list: the event is
    refused).  No hypothesis about how the content spells its member names. -/
theorem auth_authoriser_required (row : VGen.VersionRow) (hc : ColsOk row)
    (hrv : Spec.supportsRestrictedJoins row.key = true) (e : Event) (sd : Except Err (Option Bytes))
    (htype : e.type = b!"m.room.member") (r : MemberReading) (hread : memberContent e.content = some r)
    (hjoin : r.membership = b!"join") (hvia : r.authorisedVia ≠ [])
    (l : List Bytes) (hl : requiredSigners row e sd = .ok l) :
    ∃ dom, Spec.serverOf 0x40 r.authorisedVia = some dom ∧ dom ≠ [] ∧ dom ∈ l := by
  -- both readings take the member named exactly `membership`: this is a join
  have hm : ∀ m, membership e = .ok m → (m == b!"join") = true := fun m h =>
    beq_iff_eq.mpr ((membership_eq_auth_reading e _ m hread h).trans hjoin)
  rcases memberContent_cases hread with ⟨_, rfl⟩ | ⟨kvs, hcont, _, rfl⟩
  · cases hjoin
  obtain ⟨u, hu, huv⟩ := decString_val_ne hvia
  rw [huv]
  -- the restricted-join stage succeeds only with the server of that user, which is not empty
  have key : ∀ auth, restrictedJoinServername row e.content = .ok auth → Spec.serverOf 0x40 u = some auth ∧ ¬ auth.isEmpty = true := by
    intro auth ha
    rw [restrictedJoinServername, if_pos (hc.2.1.trans hrv), hcont, extract_spec, hu] at ha
    simp only at ha
    split at ha
    · rename_i hso
      split at ha <;> cases ha
      exact ⟨hso, ‹_›⟩
    · cases ha
  revert hl
  fun_cases requiredSigners row e sd
  case case3 ht => rw [htype] at ht; cases ht
  case case7 auth ha hemp => exact absurd hemp (key auth ha).2
  case case8 auth ha hemp =>
    intro h; cases h
    exact ⟨auth, (key auth ha).1, fun h0 => hemp (by rw [h0]; rfl), (mem_addNeeded ..).mpr (Or.inl rfl)⟩
  case case9 m hm' _ _ _ hj => exact absurd (hm m hm') hj
  all_goals nofun

/-- On a JSON object in the proper sense (no name twice) the reading of the auth rules IS what the content says under
    the exact names (`Spec.memberReading`) — in particular a member under another spelling is not read. -/
theorem memberContent_eq_spec (c : Option JVal) (r r' : MemberReading)
    (h : memberContent c = some r) (hs : Spec.memberReading c = some r') : r = r' := by
  rcases memberContent_cases h with ⟨rfl, rfl⟩ | ⟨kvs, rfl, _, rfl⟩
  · cases hs; rfl
  · -- a name that occurs at most once is read alike by the exact last-match lookup and by the specification
    have key : ∀ name x, (match Spec.exactMember kvs name with
          | .absent => some ([] : Bytes)
          | .dup => none
          | .val (.str x) => some x
          | .val _ => some []) = some x → (decString (lookupExact kvs name)).val = x := by
      intro name x hx
      cases hm : Spec.exactMember kvs name with
      | absent => rw [hm] at hx; cases hx; rw [lookupExact_of_absent hm]; rfl
      | dup => rw [hm] at hx; cases hx
      | val v =>
        rw [hm] at hx
        rw [lookupExact_of_val hm]
        cases v <;> (cases hx; rfl)
    unfold Spec.memberReading at hs
    simp only at hs
    split at hs
    · rename_i m v hm hv
      cases hs
      rw [key _ _ hm, key _ _ hv]
    · cases hs

/-- the witness of /repo c080830: `@u:evil.com` joins with a case variant of the authoriser member naming `@admin:good.com`. -/
def caseVariantViaWitness : Event :=
  { ver := b!"10", eventID := b!"$e", obj :=
      [(b!"type", .str b!"m.room.member"), (b!"sender", .str b!"@u:evil.com"), (b!"state_key", .str b!"@u:evil.com"),
       (b!"content", .obj [(b!"membership", .str b!"join"),
          (b!"Join_authorised_via_users_server", .str b!"@admin:good.com")])] }

/-- the witness of /repo 3305f9b: an invite of `@v:good.com` with a second membership under another spelling. -/
def caseVariantMembershipWitness : Event :=
  { ver := b!"10", eventID := b!"$e", obj :=
      [(b!"type", .str b!"m.room.member"), (b!"sender", .str b!"@u:evil.com"), (b!"state_key", .str b!"@v:good.com"),
       (b!"content", .obj [(b!"membership", .str b!"invite"), (b!"Membership", .str b!"leave")])] }

/-- nobody authorised this join for the auth rules (before c080830 `NewMemberContentFromEvent` answered
    `@admin:good.com`, whose server was not required).  The invite needs the invited user's server (before
    3305f9b `Membership()` answered `leave` and `good.com` was not required). -/
example : memberContent caseVariantViaWitness.content = some ⟨b!"join", []⟩ ∧
    requiredList "10" caseVariantViaWitness b!"evil.com" = some [b!"evil.com"] ∧
    memberContent caseVariantMembershipWitness.content = some ⟨b!"invite", []⟩ ∧
    requiredList "10" caseVariantMembershipWitness b!"evil.com" = some [b!"evil.com", b!"good.com"] ∧
    Spec.required "10" caseVariantMembershipWitness (some b!"evil.com") = .servers [b!"evil.com", b!"good.com"] := by
  decide +kernel

/-- The authoriser named twice (possible only in events from trusted JSON: the untrusted constructors refuse
    repeated names): gjson — the reader `extractAuthorisedViaServerName` used before the repair — takes the FIRST
    (`getFirst`), the auth rules the LAST; the signature check now requires the server of the user the auth rules take. -/
def dupViaWitness : Event :=
  { ver := b!"10", eventID := b!"$e", obj :=
      [(b!"type", .str b!"m.room.member"), (b!"sender", .str b!"@u:evil.com"), (b!"state_key", .str b!"@u:evil.com"),
       (b!"content", .obj [(b!"membership", .str b!"join"),
          (b!"join_authorised_via_users_server", .str b!"@a:evil.com"),
          (b!"join_authorised_via_users_server", .str b!"@admin:good.com")])] }

example : getFirst [(b!"join_authorised_via_users_server", .str b!"@a:evil.com"),
      (b!"join_authorised_via_users_server", .str b!"@admin:good.com")] b!"join_authorised_via_users_server" =
    some (.str b!"@a:evil.com") := rfl

example : memberContent dupViaWitness.content = some ⟨b!"join", b!"@admin:good.com"⟩ ∧
    requiredList "10" dupViaWitness b!"evil.com" = some [b!"evil.com", b!"good.com"] := by decide +kernel

theorem decodeMapping_isSome_of_auth_ok (mm : Option JVal) (h1 : (Auth.decodeMxidMapping mm).snd = false)
    (h2 : (Auth.decodeMxidMapping mm).fst.err = false) : ∃ x, decodeMapping mm = some x := by
  unfold Auth.decodeMxidMapping at h1 h2
  unfold decodeMapping
  cases mm with
  | none => exact ⟨_, rfl⟩
  | some v =>
    cases v with
    | null => exact ⟨_, rfl⟩
    | obj kvs =>
      simp only at h1 h2 ⊢
      cases hl : lookupField kvs b!"signatures" with
      | none => simp only [h2, Bool.false_eq_true, if_false]; exact ⟨_, rfl⟩
      | some sv =>
        rw [hl] at h1
        cases sv with
        | null => simp only [Sign.decodeOuterInto, h2, Bool.false_eq_true, if_false]; exact ⟨_, rfl⟩
        | _ => simp at h1
    | _ => simp at h2

/-- **Bridge to C07's model.**  `VModel/Auth.lean` models `NewMemberContentFromEvent` (the reading of the auth rules)
    with the same exact lookups as `memberContent` (the reading of the signature checks): whenever the auth rules
    decode an object content (`.ok mc`; they answer `unmodelled` where `mxid_mapping.signatures` is present), the
    signature checks read the same membership and the same authorising user from it, case variants of the member names
    included. -/
theorem memberContent_eq_auth (kvs : List (Bytes × JVal))
    (mc : Auth.MemberContent) (hd : Auth.decodeMemberContent (some (.obj kvs)) = .ok mc) :
    memberContent (some (.obj kvs)) = some ⟨mc.membership, mc.authorisedVia⟩ := by
  unfold Auth.decodeMemberContent at hd
  unfold memberContent
  simp only at hd
  simp only
  generalize lookupExact kvs b!"mxid_mapping" = mm at hd ⊢
  generalize decString (lookupExact kvs b!"membership") = m at hd ⊢
  generalize Auth.decodeThirdParty (lookupExact kvs b!"third_party_invite") = tp at hd ⊢
  generalize decString (lookupExact kvs b!"join_authorised_via_users_server") = av at hd ⊢
  split at hd
  · cases hd
  · rename_i hun
    split at hd
    · cases hd
    · rename_i hne
      cases hd
      simp only [Bool.or_eq_true, not_or, Bool.not_eq_true] at hne
      obtain ⟨x, hx⟩ := decodeMapping_isSome_of_auth_ok mm (by simpa using hun) hne.2
      rw [hx]
      simp [hne.1.1.1, hne.1.1.2, hne.1.2]

/-- the hypothesis of `memberContent_eq_auth` holds of an ordinary restricted join … -/
example : (match Auth.decodeMemberContent (some (.obj [(b!"membership", .str b!"join"),
      (b!"join_authorised_via_users_server", .str b!"@a:hs2")])) with
    | .ok mc => mc.membership == b!"join" && mc.authorisedVia == b!"@a:hs2"
    | .error _ => false) = true := by decide +kernel
example : memberContent (some (.obj [(b!"membership", .str b!"join"), (b!"join_authorised_via_users_server", .str b!"@a:hs2")])) =
    some ⟨b!"join", b!"@a:hs2"⟩ := by decide +kernel
/-- … and the inputs on which the two readings differed before /repo c080830 (a case variant of a member name, alone or
    after the exact name) are read the same way by both: no authorising user, membership `invite`. -/
example : (match Auth.decodeMemberContent (some (.obj [(b!"membership", .str b!"join"),
      (b!"Join_authorised_via_users_server", .str b!"@admin:good.com")])) with
    | .ok mc => mc.membership == b!"join" && mc.authorisedVia == []
    | .error _ => false) = true := by decide +kernel
example : (match Auth.decodeMemberContent (some (.obj [(b!"membership", .str b!"invite"), (b!"Membership", .str b!"leave")])) with
    | .ok mc => mc.membership == b!"invite"
    | .error _ => false) = true := by decide +kernel
example : memberContent (some (.obj [(b!"membership", .str b!"invite"), (b!"Membership", .str b!"leave")])) =
    some ⟨b!"invite", []⟩ := by decide +kernel

/-! ### The pseudo-ID room version (org.matrix.msc4014) -/

/-- What a verified pseudo-ID event went through: every key of `needed` — the sender's among them — verified the event
    itself; and a join first passed the `mxid_mapping` stage (the mapping is the sender's own, the server of the user it
    names signed it, the caller's verifier accepted every listed server) and the restricted-join stage. -/
theorem pseudo_ok (row : VGen.VersionRow) (e : Event) (valid : Request → Bool) (vf : Bool)
    (selfValid : Bytes → Bool) (h : (verifyPseudo row e valid vf selfValid).verdict = .ok ()) :
    ∃ needed : List Bytes, e.sender ∈ needed ∧ needed.all selfValid = true ∧
    (e.type = b!"m.room.member" → membership e = .ok b!"join" →
      ∃ mp us auth, getMXIDMapping e = .ok mp ∧ vf = false ∧ mp.userRoomKey = e.sender ∧
        splitIDDomain 0x40 mp.userID = some us ∧ us ∈ mp.servers ∧
        (∀ s ∈ mp.servers, valid ⟨s, e.originServerTS, strictValidity row⟩ = true) ∧
        restrictedJoinServername row e.content = .ok auth ∧
        needed = if auth.isEmpty then [e.sender] else addNeeded auth [e.sender]) := by
  unfold verifyPseudo at h
  by_cases ht : e.type = b!"m.room.member"
  · cases hm : membership e with
    | error err =>
      simp only [ht, hm, bne_self_eq_false] at h
      cases h
    | ok m =>
      by_cases hj : m = b!"join"
      · subst hj
        simp only [ht, hm, bne_self_eq_false, beq_self_eq_true, show (b!"join" == b!"invite") = false from rfl, if_true,
          Bool.false_eq_true, if_false] at h
        cases hg : getMXIDMapping e with
        | error err => rw [hg] at h; cases h
        | ok mp =>
          simp only [hg] at h
          cases hkey : mp.userRoomKey != e.sender with
          | true => rw [hkey] at h; cases h
          | false =>
            cases hsp : splitIDDomain 0x40 mp.userID with
            | none => rw [hkey, hsp] at h; cases h
            | some us =>
              simp only [hkey, hsp, Bool.false_eq_true, if_false] at h
              cases hc : mp.servers.contains us with
              | false => rw [hc] at h; cases h
              | true =>
                cases vf with
                | true => rw [hc] at h; cases h
                | false =>
                  cases ha : mp.servers.all (fun s => valid ⟨s, e.originServerTS, strictValidity row⟩) with
                  | false => rw [hc, ha] at h; cases h
                  | true =>
                    simp only [hc, ha, Bool.not_true, Bool.false_eq_true, if_false, if_true] at h
                    cases hr : restrictedJoinServername row e.content with
                    | error err => rw [hr] at h; cases h
                    | ok auth =>
                      rw [hr] at h
                      refine ⟨_, ?_, (Guard.ok_iff'.mp h).1, fun _ _ =>
                        ⟨mp, us, auth, rfl, rfl, by simpa using hkey, hsp, by simpa using hc, fun s hs => List.all_eq_true.mp ha s hs, rfl, rfl⟩⟩
                      split
                      · exact List.mem_singleton_self _
                      · exact mem_addNeeded_of_mem _ _ _ (List.mem_singleton_self _)
      · -- no mapping stage: `needed` is the sender's key, with the invited key for an invite
        have hj' : (m == b!"join") = false := beq_false_of_ne hj
        simp only [ht, hm, hj', bne_self_eq_false, Bool.false_eq_true, if_false] at h
        refine ⟨_, ?_, (Guard.ok_iff'.mp h).1, fun _ hm' => absurd (Except.ok.inj hm') hj⟩
        split
        · split
          · exact mem_addNeeded_of_mem _ _ _ (List.mem_singleton_self _)
          · exact List.mem_singleton_self _
        · exact List.mem_singleton_self _
  · have ht' : (e.type != b!"m.room.member") = true := bne_iff_ne.mpr ht
    simp only [ht', if_true] at h
    exact ⟨_, List.mem_singleton_self _, (Guard.ok_iff'.mp h).1, fun ht'' => absurd ht'' ht⟩

/-- In a pseudo-ID room the event verifies only if the sender's own key validly signed it. -/
theorem pseudo_sender_required (row : VGen.VersionRow) (e : Event) (valid : Request → Bool) (vf : Bool)
    (selfValid : Bytes → Bool) (h : (verifyPseudo row e valid vf selfValid).verdict = .ok ()) :
    selfValid e.sender = true := by
  obtain ⟨needed, hmem, hall, _⟩ := pseudo_ok row e valid vf selfValid h
  exact List.all_eq_true.mp hall _ hmem

/-- …and, for a join, only if the content carries an `mxid_mapping` FOR THE SENDER'S KEY (`user_room_key` = the
    sender — before /repo d3a8318 any validly signed mapping, e.g. a victim's public one, was enough) whose
    signers include the server of the user it names, and the caller's verifier accepts the mapping for EVERY server
    listed in `mxid_mapping.signatures` — in particular for the user's (the sender's) server. -/
theorem pseudo_mapping_signers_valid (row : VGen.VersionRow) (e : Event) (valid : Request → Bool) (vf : Bool)
    (selfValid : Bytes → Bool) (htype : e.type = b!"m.room.member") (hjoin : membership e = .ok b!"join")
    (h : (verifyPseudo row e valid vf selfValid).verdict = .ok ()) :
    ∃ mp userServer, getMXIDMapping e = .ok mp ∧ vf = false ∧ mp.userRoomKey = e.sender ∧
      Spec.serverOf 0x40 mp.userID = some userServer ∧ userServer ∈ mp.servers ∧
      ∀ s ∈ mp.servers, valid ⟨s, e.originServerTS, strictValidity row⟩ = true := by
  obtain ⟨_, _, _, hj⟩ := pseudo_ok row e valid vf selfValid h
  obtain ⟨mp, us, _, hmp, hvf, hkey, hus, hmem, hall, _⟩ := hj htype hjoin
  exact ⟨mp, us, hmp, hvf, hkey, by rw [← splitIDDomain_eq_serverOf 0x40 (by decide)]; exact hus, hmem, hall⟩

/-- **/repo d3a8318, as a refusal**: a pseudo-ID join whose `mxid_mapping` is for another key than the sender never verifies —
    whatever the caller's verifier says about the mapping's signatures and whoever self-signed the event. -/
theorem pseudo_foreign_mapping_rejected (row : VGen.VersionRow) (e : Event) (valid : Request → Bool) (vf : Bool)
    (selfValid : Bytes → Bool) (htype : e.type = b!"m.room.member") (hjoin : membership e = .ok b!"join")
    (mp : Mapping) (hmp : getMXIDMapping e = .ok mp) (hkey : mp.userRoomKey ≠ e.sender) :
    (verifyPseudo row e valid vf selfValid).verdict ≠ .ok () := by
  intro h
  obtain ⟨mp', _, hmp', _, hk, _⟩ := pseudo_mapping_signers_valid row e valid vf selfValid htype hjoin h
  rw [hmp] at hmp'
  cases hmp'
  exact hkey hk

/-- A join whose mapping carries no signatures is rejected whatever the verifier and the sender's key say
    (before /repo e791b10 it verified as long as the sender's own key had signed the event). -/
def unsignedMappingWitness : Event :=
  { ver := b!"org.matrix.msc4014", eventID := b!"$e", obj :=
      [(b!"type", .str b!"m.room.member"), (b!"sender", .str b!"KEY"), (b!"state_key", .str b!"KEY"),
       (b!"content", .obj [(b!"membership", .str b!"join"),
          (b!"mxid_mapping", .obj [(b!"user_room_key", .str b!"KEY"), (b!"user_id", .str b!"@victim:hs1"),
            (b!"signatures", .obj [])])])] }

/-- the same event with the mapping signed by the user's server -/
def signedMappingWitness : Event :=
  { ver := b!"org.matrix.msc4014", eventID := b!"$e", obj :=
      [(b!"type", .str b!"m.room.member"), (b!"sender", .str b!"KEY"), (b!"state_key", .str b!"KEY"),
       (b!"content", .obj [(b!"membership", .str b!"join"),
          (b!"mxid_mapping", .obj [(b!"user_room_key", .str b!"KEY"), (b!"user_id", .str b!"@victim:hs1"),
            (b!"signatures", .obj [(b!"hs1", .obj [(b!"ed25519:1", .str b!"AAAA")])])])])] }

/-- the witness of /repo d3a8318: the attacker's key `KEY` sends (and self-signs) a join carrying the victim's public mapping
    (`VICTIMKEY` ↦ `@victim:hs1`, signed by hs1) -/
def foreignMappingWitness : Event :=
  { ver := b!"org.matrix.msc4014", eventID := b!"$e", obj :=
      [(b!"type", .str b!"m.room.member"), (b!"sender", .str b!"KEY"), (b!"state_key", .str b!"KEY"),
       (b!"content", .obj [(b!"membership", .str b!"join"),
          (b!"mxid_mapping", .obj [(b!"user_room_key", .str b!"VICTIMKEY"), (b!"user_id", .str b!"@victim:hs1"),
            (b!"signatures", .obj [(b!"hs1", .obj [(b!"ed25519:1", .str b!"AAAA")])])])])] }

def pseudoAccepted (e : Event) (valid : Request → Bool) (selfValid : Bytes → Bool) : Bool :=
  match VGen.roomVersions.find? (fun r => r.key == "org.matrix.msc4014") with
  | some row => match (verifyPseudo row e valid false selfValid).verdict with
    | .ok _ => true
    | .error _ => false
  | none => false

example : pseudoAccepted unsignedMappingWitness (fun _ => true) (fun n => n == b!"KEY") = false ∧
    pseudoAccepted signedMappingWitness (fun r => r.server == b!"hs1") (fun n => n == b!"KEY") = true ∧
    pseudoAccepted signedMappingWitness (fun _ => false) (fun n => n == b!"KEY") = false ∧
    -- refused although every signature involved is valid (it verified before d3a8318)
    pseudoAccepted foreignMappingWitness (fun _ => true) (fun _ => true) = false := by decide +kernel

end V.C06
