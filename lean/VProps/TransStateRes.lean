/-
  Translated-function obligations for stateresolutionv2heaps.go: the two comparators the power ordering and the
  mainline ordering are sorted with.  `VGen.TransStateRes.*` is printed from the CURRENT Go source by tools/extract/trans.go;
  the theorems say that, for all arguments, the translated comparators are the model's `powerLt` / `otherLt`
  (VModel/StateRes.lean), whose strict-total-order and permutation-invariance theorems are C11's.
-/
import VGen.TransStateRes
import VModel.StateRes
import VProofs.StateResSort
namespace V.Trans.StateRes
open V.Json V.StateRes GoSem

/-- Go's three-way comparison of byte strings, read through the model's strict order -/
theorem compareBytes_eq : ∀ x y : List UInt8,
    compareBytes x y = if bytesLt x y then -1 else if bytesLt y x then 1 else 0
  | [], [] => rfl
  | [], _ :: _ => rfl
  | _ :: _, [] => rfl
  | a :: as, b :: bs => by
    rw [compareBytes, bytesLt, bytesLt, compareBytes_eq as bs]
    by_cases h1 : a < b
    · simp [h1]
    · by_cases h2 : b < a <;> simp [h1, h2]

theorem compareBytes_zero_iff (x y : List UInt8) : (compareBytes x y = 0) ↔ x = y := by
  rw [compareBytes_eq]
  refine ⟨fun h => ?_, fun e => by simp [e, bytesLt_irrefl]⟩
  cases h1 : bytesLt x y <;> cases h2 : bytesLt y x <;> simp [h1, h2] at h
  exact bytesLt_total x y h1 h2

theorem compareBytes_range (x y : List UInt8) : compareBytes x y = -1 ∨ compareBytes x y = 0 ∨ compareBytes x y = 1 := by
  rw [compareBytes_eq]
  cases bytesLt x y <;> cases bytesLt y x <;> simp

/-! The Go comparators answer -1 / 1 on the first field that differs and hand the rest on; the model's strict comparators do
    the same with `true` / `false`.  One field of the one against one field of the other: -/

theorem cmp_step {p q p' q' : Prop} [Decidable p] [Decidable q] [Decidable p'] [Decidable q'] (hp : p ↔ p') (hq : q ↔ q')
    {r : Int} {r' : Bool} (h : decide (r < 0) = r') :
    decide ((if decide p then (-1 : Int) else if decide q then 1 else r) < 0) = (if p' then true else if q' then false else r') := by
  by_cases h1 : p
  · simp [h1, hp.mp h1]
  · by_cases h2 : q
    · simp [h1, h2, mt hp.mpr h1, hq.mp h2]
    · simp [h1, h2, mt hp.mpr h1, mt hq.mpr h2, h]

/-- one integer field of Go's three-way comparison: the answer is 0 only if the two values are equal and the rest answers 0 -/
theorem cmp_zero {x y r : Int} :
    (if decide (x < y) then (-1 : Int) else if decide (y < x) then 1 else r) = 0 ↔ x = y ∧ r = 0 := by
  rcases Int.lt_trichotomy x y with h | h | h
  · simp [h, Int.ne_of_lt h]
  · simp [h]
  · simp [h, Int.lt_asymm h, Int.ne_of_gt h]

theorem compareBytes_neg (x y : List UInt8) : decide (compareBytes x y < 0) = bytesLt x y := by
  rw [compareBytes_eq]
  cases bytesLt x y <;> cases bytesLt y x <;> rfl

/-- a non-negative Go integer against the natural number the model keeps (`uint64`, `int` positions) -/
theorem lt_iff_toNat {a b : Int} (ha : 0 ≤ a) (hb : 0 ≤ b) : a < b ↔ a.toNat < b.toNat := by omega

/-- the sort key of the model that a Go heap entry denotes (`origin_server_ts` is unsigned in Go) -/
def powerKey (a : VGen.TransStateRes.stateResV2ConflictedPowerLevel) : PowerKey :=
  { power := a.powerLevel, ts := a.originServerTS.toNat, id := a.eventID }

def otherKey (a : VGen.TransStateRes.stateResV2ConflictedOther) : OtherKey :=
  { pos := a.mainlinePosition.toNat, steps := a.mainlineSteps.toNat, ts := a.originServerTS.toNat, id := a.eventID }

/-- **power ordering comparator**: for all heap entries (timestamps non-negative, as a `uint64` is), the Go comparator
    translated from the current source says "a before b" exactly when the model's `powerLt` does. -/
theorem powerLevelHeap_lt_eq_model (a b : VGen.TransStateRes.stateResV2ConflictedPowerLevel)
    (ha : 0 ≤ a.originServerTS) (hb : 0 ≤ b.originServerTS) :
    decide (VGen.TransStateRes.sortStateResV2ConflictedPowerLevelHeap a b < 0) = powerLt (powerKey a) (powerKey b) :=
  cmp_step Iff.rfl Iff.rfl (cmp_step (lt_iff_toNat ha hb) (lt_iff_toNat hb ha) (compareBytes_neg _ _))

/-- the comparator answers 0 only for entries with the same key (so sorting with it is deterministic) -/
theorem powerLevelHeap_zero_iff (a b : VGen.TransStateRes.stateResV2ConflictedPowerLevel) :
    VGen.TransStateRes.sortStateResV2ConflictedPowerLevelHeap a b = 0 ↔
      a.powerLevel = b.powerLevel ∧ a.originServerTS = b.originServerTS ∧ a.eventID = b.eventID := by
  unfold VGen.TransStateRes.sortStateResV2ConflictedPowerLevelHeap
  -- the power levels are compared with `>` first, i.e. as `cmp_zero` reads them with the two entries exchanged
  rw [cmp_zero, cmp_zero, compareBytes_zero_iff, eq_comm (a := b.powerLevel)]

/-- **mainline ordering comparator** -/
theorem otherHeap_lt_eq_model (a b : VGen.TransStateRes.stateResV2ConflictedOther)
    (ha : 0 ≤ a.originServerTS) (hb : 0 ≤ b.originServerTS)
    (hap : 0 ≤ a.mainlinePosition) (hbp : 0 ≤ b.mainlinePosition)
    (has : 0 ≤ a.mainlineSteps) (hbs : 0 ≤ b.mainlineSteps) :
    decide (VGen.TransStateRes.sortStateResV2ConflictedOtherHeap a b < 0) = otherLt (otherKey a) (otherKey b) :=
  cmp_step (lt_iff_toNat hap hbp) (lt_iff_toNat hbp hap)
    (cmp_step (lt_iff_toNat has hbs) (lt_iff_toNat hbs has)
      (cmp_step (lt_iff_toNat ha hb) (lt_iff_toNat hb ha) (compareBytes_neg _ _)))

/-- **The Go comparator is a strict total order** (what a subtraction-based rewrite loses: seeded change C11-r8m2).
    Stated on the function translated from the current source, for heap entries with unsigned timestamps:
    transitive, asymmetric, and two entries neither of which comes first have the same sort key. -/
theorem powerLevelHeap_strict_total
    (a b c : VGen.TransStateRes.stateResV2ConflictedPowerLevel)
    (ha : 0 ≤ a.originServerTS) (hb : 0 ≤ b.originServerTS) (hc : 0 ≤ c.originServerTS) :
    (VGen.TransStateRes.sortStateResV2ConflictedPowerLevelHeap a b < 0 →
        VGen.TransStateRes.sortStateResV2ConflictedPowerLevelHeap b c < 0 →
        VGen.TransStateRes.sortStateResV2ConflictedPowerLevelHeap a c < 0) ∧
    (VGen.TransStateRes.sortStateResV2ConflictedPowerLevelHeap a b < 0 →
        ¬ VGen.TransStateRes.sortStateResV2ConflictedPowerLevelHeap b a < 0) ∧
    (¬ VGen.TransStateRes.sortStateResV2ConflictedPowerLevelHeap a b < 0 →
        ¬ VGen.TransStateRes.sortStateResV2ConflictedPowerLevelHeap b a < 0 → powerKey a = powerKey b) := by
  have hst := V.StateRes.powerLt_strictTotal
  -- "comes first" in Go's terms is "comes first" in the model's, for any two of the three entries; read so, the three clauses are `hst`'s
  have e : ∀ x y, 0 ≤ x.originServerTS → 0 ≤ y.originServerTS →
      (VGen.TransStateRes.sortStateResV2ConflictedPowerLevelHeap x y < 0 ↔ powerLt (powerKey x) (powerKey y) = true) :=
    fun x y hx hy => by rw [← powerLevelHeap_lt_eq_model x y hx hy, decide_eq_true_iff]
  rw [e a b ha hb, e b c hb hc, e a c ha hc, e b a hb ha]
  exact ⟨hst.trans _ _ _, fun h1 h2 => Bool.false_ne_true ((hst.asymm _ _ h1).symm.trans h2),
    fun h1 h2 => hst.total _ _ (Bool.eq_false_iff.mpr h1) (Bool.eq_false_iff.mpr h2)⟩

theorem compareBytes_pos (x y : List UInt8) : decide (compareBytes x y > 0) = bytesLt y x := by
  rw [compareBytes_eq]
  cases h1 : bytesLt x y <;> cases h2 : bytesLt y x <;> simp
  exact absurd (bytesLt_strictTotal.asymm _ _ h1) (by simp [h2])

/-- **version-1 tie-break** (`conflictedEventSorter.Less`, translated as a function of the two elements it reads):
    lower depth first, and at equal depth the event whose SHA-1 is *greater* first — the model's `v1Lt`. -/
theorem v1Less_eq_model (a b : VGen.TransStateRes.conflictedEvent) :
    VGen.TransStateRes.Less a b = v1Lt ⟨a.depth, a.eventIDSHA1⟩ ⟨b.depth, b.eventIDSHA1⟩ := by
  unfold VGen.TransStateRes.Less v1Lt
  rw [compareBytes_pos]

/-- non-vacuity: concrete entries meeting the hypotheses, ordered by the event-ID tie-break -/
example : decide (VGen.TransStateRes.sortStateResV2ConflictedPowerLevelHeap
    ⟨[0x24, 0x61], 5, 100⟩ ⟨[0x24, 0x62], 5, 100⟩ < 0) = true := by decide

end V.Trans.StateRes
