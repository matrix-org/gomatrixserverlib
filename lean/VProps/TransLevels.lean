/-
  Translated-function obligations for eventcontent.go: the three level readers of `PowerLevelContent` that the
  authorisation rules (C07), the escalation checks (C08) and the power ordering of state resolution (C10) go through.
  `VGen.TransLevels.*` is printed from the CURRENT Go source by tools/extract/trans.go.
-/
import VGen.TransLevels
import VModel.Auth
namespace V.Trans.Levels
open V.Auth

/-- the Go value a model `PowerLevels` denotes -/
def goContent (p : PowerLevels) : VGen.TransLevels.PowerLevelContent :=
  { Ban := p.ban, Invite := p.invite, Kick := p.kick, Redact := p.redact, UsersDefault := p.usersDefault,
    EventsDefault := p.eventsDefault, StateDefault := p.stateDefault, Users := p.users, Events := p.events,
    Notifications := p.notifications }

theorem mapGet_eq (m : List (Bytes × Int)) (k : Bytes) : GoSem.mapGet m k = V.GoJson.mapGet m k := rfl

theorem getD_aux (x : Option Int) (d : Int) : (if x.isSome = true then x.getD 0 else d) = x.getD d := by
  cases x <;> simp

/-- **UserLevel**: explicit entry if present, `users_default` otherwise — equal to the model's reader for every content and user -/
theorem userLevel_eq_model (p : PowerLevels) (u : Bytes) :
    VGen.TransLevels.UserLevel (goContent p) u = p.userLevel u := by
  unfold VGen.TransLevels.UserLevel PowerLevels.userLevel goContent
  exact getD_aux _ _

/-- **EventLevel**: `m.room.third_party_invite` needs the invite level whatever `events` says; otherwise the explicit
    entry, otherwise `state_default` / `events_default` -/
theorem eventLevel_eq_model (p : PowerLevels) (t : Bytes) (isState : Bool) :
    VGen.TransLevels.EventLevel (goContent p) t isState = p.eventLevel t isState := by
  unfold VGen.TransLevels.EventLevel PowerLevels.eventLevel goContent
  simp only [mapGet_eq]
  have hb : (b!"m.room.third_party_invite" : Bytes) =
      [109, 46, 114, 111, 111, 109, 46, 116, 104, 105, 114, 100, 95, 112, 97, 114, 116, 121, 95, 105, 110, 118, 105, 116, 101] := by decide
  rw [hb]
  by_cases ht : t = [109, 46, 114, 111, 111, 109, 46, 116, 104, 105, 114, 100, 95, 112, 97, 114, 116, 121, 95, 105, 110, 118, 105, 116, 101]
  · simp [ht]
  · have : (t == ([109, 46, 114, 111, 111, 109, 46, 116, 104, 105, 114, 100, 95, 112, 97, 114, 116, 121, 95, 105, 110, 118, 105, 116, 101] : List UInt8)) = false := by
      simpa using ht
    simp only [this]
    cases h : V.GoJson.mapGet p.events t <;> cases isState <;> simp

/-- **NotificationLevel**: explicit entry, default 50 -/
theorem notificationLevel_eq_model (p : PowerLevels) (n : Bytes) :
    VGen.TransLevels.NotificationLevel (goContent p) n = p.notificationLevel n := by
  unfold VGen.TransLevels.NotificationLevel PowerLevels.notificationLevel goContent
  exact getD_aux _ _

/-- the rule text directly, on the translated function: a third-party-invite event is gated by `invite` alone -/
theorem eventLevel_third_party_invite (c : VGen.TransLevels.PowerLevelContent) (isState : Bool) :
    VGen.TransLevels.EventLevel c
      [109, 46, 114, 111, 111, 109, 46, 116, 104, 105, 114, 100, 95, 112, 97, 114, 116, 121, 95, 105, 110, 118, 105, 116, 101] isState
      = c.Invite := by
  unfold VGen.TransLevels.EventLevel; simp

end V.Trans.Levels
