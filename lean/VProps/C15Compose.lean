/-
  C15 composed with C07 and C06 — the oracles of the handshake handlers discharged by the models of the functions the
  code really calls there.

  make_join / make_leave.  `TemplateAns.built ty stateOK allowed` carries two oracle bits.  Here they are COMPUTED from
  what the caller's `BuildEventTemplate` returned — an event and a list of state events —

      stateOK  :=  `NewAuthEvents(state)` succeeds              — every state event has a state key
      allowed  :=  `Allowed(event, NewAuthEvents(state)) == nil` — VModel.Auth.allowedFresh (C07) on Provider.ofEvents

  so that "the resulting event passes the auth rules" reads, without oracles: the C07 model of `Allowed` accepts the
  event the builder made against the provider `NewAuthEvents` makes of the builder's state — and, through the `Valid()`
  gate of `Allowed` (C07 `different_rooms_refused`, `AuthNeeded.valid_ofEvents`), a state that spans two rooms never yields a
  template.  With the builder the harness uses (`templateEvent`: the proto event of the handler made into an event) the
  accepted event is an `m.room.member` event of the room, sent by the user with the user as state key, whose content —
  in the reading of the auth rules, `NewMemberContentFromEvent` (VModel.Signers.memberContent) — is the membership
  `join` / `leave` and the authorising user the restricted-join stage picked.

  send_join / invite.  The `verify` field of `SendJoinIn` / `InviteIn` is NOT shaped like `VerifyEventSignatures`: the
  handlers (/repo handlejoin.go:442-461, handleinvite.go:98-120) redact the event themselves and hand the caller's
  verifier ONE request

      VerifyJSONRequest{ ServerName: sender.Domain(), Message: redacted, AtTS: event.OriginServerTS(),
                         ValidityCheckingFunc: StrictValiditySignatureCheck }

  — for the server of the user the user-ID querier named, at the event's origin_server_ts, under the STRICT key-validity
  rule whatever the room version.  That is what is modelled here (`VerifierWorld`, `handlerRequest`): the theorems say
  that this one request was reported valid, that its server is the requesting server (send_join), and that it is one of the
  servers `V.Signers.requiredSigners` (C06) lists for the event; the other servers C06 would require of a join are
  accounted for in `sendJoin_required_signers_covered`: the authorising user's server is the local server, whose
  signature the handler adds itself (`sendJoin_signs_unmodified`), and only the server named in a version-1/2 event ID
  is checked by nobody on this path.  `invite_required_signers_covered` says the same of HandleInvite (the third server
  there is the invited user's: the one the handler signs for).
-/
import VProps.C15
import VProps.C06
import VProps.C07
import VProofs.AuthNeededProviders
import VProofs.Guard
namespace V.C15
open V.Json V.GoJson V.Handshake V.Handshake.Spec V.Signers V.Auth

/-! ## make_join / make_leave: the template against the C07 model of `Allowed` -/

/-- what the caller's `BuildEventTemplate(&proto)` returned -/
inductive BuilderAns where
  | err                                         -- templateErr != nil
  | nilEvent
  | nilState
  | built (ev : Event) (state : List Event)
  deriving Inhabited

/-- `NewAuthEvents(state)` succeeds: every event has a state key -/
def stateOKOf (state : List Event) : Bool := state.all (fun e => e.stateKey.isSome)

/-- `Allowed(ev, NewAuthEvents(state), …) == nil` by the C07 model -/
def allowedOf (ev : Event) (state : List Event) : Bool := allowedFresh ev (Provider.ofEvents state) == .ok

/-- the oracle bits of `TemplateAns` computed by the models of what the handler calls on the builder's answer -/
def BuilderAns.toTemplateAns : BuilderAns → TemplateAns
  | .err => .err
  | .nilEvent => .nilEvent
  | .nilState => .nilState
  | .built ev state => .built ev.type (stateOKOf state) (allowedOf ev state)

/-- HandleMakeJoin's input with the template oracle instantiated: `build via` is what the builder returns for the proto
    event whose content names `via` as authorising user -/
def composedMakeJoin (i : MakeJoinIn) (build : Bytes → BuilderAns) : MakeJoinIn :=
  { i with template := fun via => (build via).toTemplateAns }

def composedMakeLeave (i : MakeLeaveIn) (build : BuilderAns) : MakeLeaveIn :=
  { i with template := build.toTemplateAns }

theorem allowedOf_iff (ev : Event) (state : List Event) :
    allowedOf ev state = true ↔ allowedFresh ev (Provider.ofEvents state) = .ok :=
  beq_iff_eq

/-- an event the C07 model accepts against `NewAuthEvents(state)` sees a state of ONE room: the `Valid()` gate -/
theorem allowed_state_one_room (ev : Event) (state : List Event) (sig : Bool)
    (h : allowedFresh ev (Provider.ofEvents state) sig = .ok) :
    ∀ a ∈ state, ∀ b ∈ state, a.roomID = b.roomID := by
  refine (AuthNeeded.valid_ofEvents state).mp (Decidable.byContradiction fun hv => ?_)
  rw [C07.different_rooms_refused ev _ sig hv] at h
  cases h

theorem templateOK_computed {b : BuilderAns} (h : templateOK b.toTemplateAns = true) :
    ∃ ev state, b = .built ev state ∧ ev.type = b!"m.room.member" ∧ (∀ s ∈ state, s.stateKey.isSome = true) ∧
      allowedFresh ev (Provider.ofEvents state) = .ok := by
  cases b with
  | built ev state =>
    simp only [BuilderAns.toTemplateAns, templateOK, Bool.and_eq_true, beq_iff_eq] at h
    exact ⟨ev, state, rfl, h.1.1, List.all_eq_true.mp h.1.2, (allowedOf_iff ev state).mp h.2⟩
  | _ => cases h

/-- **HandleMakeJoin, without the `Allowed` oracle.**  If the handler returns a template, the builder returned — for the
    authorising user the handler answers with — an `m.room.member` event and a state all of whose events are state events
    of one room, and the C07 model of `Allowed` accepts that event against `NewAuthEvents(state)`. -/
theorem makeJoin_template_allowed (i : MakeJoinIn) (build : Bytes → BuilderAns) (o : MakeJoinOut)
    (h : handleMakeJoin (composedMakeJoin i build) = .ok o) :
    ∃ ev state, build o.authorisedVia = .built ev state ∧ ev.type = b!"m.room.member" ∧
      (∀ s ∈ state, s.stateKey.isSome = true) ∧
      allowedFresh ev (Provider.ofEvents state) = .ok ∧
      (∀ a ∈ state, ∀ b ∈ state, a.roomID = b.roomID) := by
  obtain ⟨_, ht, _, _, _⟩ := makeJoin_ok_implies_guards _ o h
  obtain ⟨ev, state, hb, hty, hsk, hal⟩ := templateOK_computed (b := build o.authorisedVia) ht
  exact ⟨ev, state, hb, hty, hsk, hal, allowed_state_one_room ev state false hal⟩

/-- **HandleMakeLeave, without the `Allowed` oracle.** -/
theorem makeLeave_template_allowed (i : MakeLeaveIn) (build : BuilderAns) (v : Bytes)
    (h : handleMakeLeave (composedMakeLeave i build) = .ok v) :
    ∃ ev state, build = .built ev state ∧ ev.type = b!"m.room.member" ∧
      (∀ s ∈ state, s.stateKey.isSome = true) ∧
      allowedFresh ev (Provider.ofEvents state) = .ok ∧
      (∀ a ∈ state, ∀ b ∈ state, a.roomID = b.roomID) := by
  obtain ⟨hg, _⟩ := makeLeave_ok_implies_guards _ v h
  have ht : templateOK build.toTemplateAns = true := by
    simp only [makeLeaveGuards, Bool.and_eq_true] at hg
    exact hg.2
  obtain ⟨ev, state, hb, hty, hsk, hal⟩ := templateOK_computed ht
  exact ⟨ev, state, hb, hty, hsk, hal, allowed_state_one_room ev state false hal⟩

/-- **A state that spans two rooms never yields a join template**: whatever else the input says, if the state the builder
    hands back (for every authorising user) contains events of two rooms, HandleMakeJoin refuses. -/
theorem makeJoin_cross_room_refused (i : MakeJoinIn) (build : Bytes → BuilderAns)
    (hx : ∀ via ev state, build via = .built ev state → ∃ a ∈ state, ∃ b ∈ state, a.roomID ≠ b.roomID) :
    ∀ o, handleMakeJoin (composedMakeJoin i build) ≠ .ok o := by
  intro o h
  obtain ⟨ev, state, hb, _, _, _, hroom⟩ := makeJoin_template_allowed i build o h
  obtain ⟨a, ha, b, hb', hne⟩ := hx _ ev state hb
  exact hne (hroom a ha b hb')

theorem makeLeave_cross_room_refused (i : MakeLeaveIn) (ev : Event) (state : List Event)
    (hx : ∃ a ∈ state, ∃ b ∈ state, a.roomID ≠ b.roomID) :
    ∀ v, handleMakeLeave (composedMakeLeave i (.built ev state)) ≠ .ok v := by
  intro v h
  obtain ⟨ev', state', hb, _, _, _, hroom⟩ := makeLeave_template_allowed i _ v h
  cases hb
  obtain ⟨a, ha, b, hb', hne⟩ := hx
  exact hne (hroom a ha b hb')

/-! ### The builder of the correspondence check: the handler's proto event made into an event

  (`templateEvent` / `templateAns` of VDriver/Handshake.lean, at model level: the proto event of HandleMakeJoin /
  HandleMakeLeave is `{type: m.room.member, sender, room_id, state_key: sender, content: {membership, and
  join_authorised_via_users_server when not ""}}`; the builder adds depth, a timestamp and one prev event.) -/

def memberContentKVs (membership via : Bytes) : List (Bytes × JVal) :=
  [(b!"membership", .str membership)] ++ (if via.isEmpty then [] else [(b!"join_authorised_via_users_server", .str via)])

def templateEvent (ver : Bytes) (type sender roomID : Bytes) (membership via : Bytes) : Event :=
  { ver := ver, eventID := b!"$template:hs1",
    obj := [(b!"type", .str type), (b!"sender", .str sender), (b!"room_id", .str roomID), (b!"state_key", .str sender),
            (b!"content", .obj (memberContentKVs membership via)), (b!"depth", .num b!"10"), (b!"origin_server_ts", .num b!"1"),
            (b!"prev_events", .arr (if ((versionRow? ver).map (·.eventFormat)).getD 2 == 1
                then [.arr [.str b!"$prev:hs1", .obj [(b!"sha256", .str b!"47DEQpj8HBSa+/TImW+5JCeuQeRkm5NMpJWZG3hSuFU")]]]
                else [.str b!"$prev:hs1"])),
            (b!"auth_events", .arr [])] }

/-- the builder that makes the proto event into `templateEvent` and hands back `state` -/
def protoBuilder (ver : Bytes) (state : List Event) (user roomID membership : Bytes) : Bytes → BuilderAns :=
  fun via => .built (templateEvent ver b!"m.room.member" user roomID membership via) state

/-- the shape of the template event, as the accessors report it: an `m.room.member` event of the room, sent by the user
    with the user as state key, whose content reads — as `NewMemberContentFromEvent` reads it, the reading of the auth
    rules — as the membership and the authorising user -/
theorem templateEvent_shape (ver user roomID membership via : Bytes) :
    (templateEvent ver b!"m.room.member" user roomID membership via).type = b!"m.room.member" ∧
    (templateEvent ver b!"m.room.member" user roomID membership via).sender = user ∧
    (templateEvent ver b!"m.room.member" user roomID membership via).stateKey = some user ∧
    (templateEvent ver b!"m.room.member" user roomID membership via).roomID = roomID ∧
    Signers.memberContent (templateEvent ver b!"m.room.member" user roomID membership via).content = some ⟨membership, via⟩ := by
  refine ⟨rfl, rfl, rfl, ?_, ?_⟩
  · have hc : (templateEvent ver b!"m.room.member" user roomID membership via).isCreate = false := rfl
    unfold Event.roomID
    rw [hc, Bool.and_false]
    rfl
  · show Signers.memberContent (some (.obj (memberContentKVs membership via))) = _
    unfold memberContentKVs
    cases hv : via.isEmpty with
    | true =>
      have : via = [] := List.isEmpty_iff.mp hv
      subst this
      rfl
    | false => rfl

/-- **make_join with the handler's own proto event.**  If HandleMakeJoin returns a template — authorising user `via` —
    then the join event made of it (type `m.room.member`, membership `join`, sender = state key = the user, the room,
    `join_authorised_via_users_server = via` when `via` is not empty) passes the auth rules — the C07 model of `Allowed` —
    against `NewAuthEvents(state)`, and `state` is a list of state events of one room. -/
theorem makeJoin_proto_template_allowed (i : MakeJoinIn) (ver : Bytes) (state : List Event) (user roomID : Bytes)
    (o : MakeJoinOut)
    (h : handleMakeJoin (composedMakeJoin i (protoBuilder ver state user roomID b!"join")) = .ok o) :
    allowedFresh (templateEvent ver b!"m.room.member" user roomID b!"join" o.authorisedVia) (Provider.ofEvents state) = .ok ∧
    (∀ s ∈ state, s.stateKey.isSome = true) ∧ (∀ a ∈ state, ∀ b ∈ state, a.roomID = b.roomID) := by
  obtain ⟨ev, st, hb, _, hsk, hal, hroom⟩ := makeJoin_template_allowed i _ o h
  cases hb
  exact ⟨hal, hsk, hroom⟩

/-- **make_leave with the handler's own proto event** (membership `leave`, no authorising user). -/
theorem makeLeave_proto_template_allowed (i : MakeLeaveIn) (ver : Bytes) (state : List Event) (user roomID : Bytes)
    (v : Bytes)
    (h : handleMakeLeave (composedMakeLeave i (protoBuilder ver state user roomID b!"leave" [])) = .ok v) :
    allowedFresh (templateEvent ver b!"m.room.member" user roomID b!"leave" []) (Provider.ofEvents state) = .ok ∧
    (∀ s ∈ state, s.stateKey.isSome = true) ∧ (∀ a ∈ state, ∀ b ∈ state, a.roomID = b.roomID) := by
  obtain ⟨ev, st, hb, _, hsk, hal, hroom⟩ := makeLeave_template_allowed i _ v h
  cases hb
  exact ⟨hal, hsk, hroom⟩

/-- … and a state with events of two rooms yields no template, whoever authorises -/
theorem makeJoin_proto_cross_room_refused (i : MakeJoinIn) (ver : Bytes) (state : List Event) (user roomID : Bytes)
    (hx : ∃ a ∈ state, ∃ b ∈ state, a.roomID ≠ b.roomID) :
    ∀ o, handleMakeJoin (composedMakeJoin i (protoBuilder ver state user roomID b!"join")) ≠ .ok o := by
  apply makeJoin_cross_room_refused
  intro via ev st hb
  cases hb
  exact hx

/-! ## send_join / invite: the verifier's answer to the ONE request the handlers make -/

/-- the caller's `JSONVerifier` as the two handlers use it: `VerifyJSONs` fails as a whole, or reports per request
    whether the signature is valid (the message of the request is the redacted event: VModel.Signers) -/
structure VerifierWorld where
  callFails : Bool
  valid : Request → Bool

def VerifierWorld.answer (w : VerifierWorld) (r : Request) : VerifyAns :=
  if w.callFails then .callErr else if w.valid r then .good else .bad

/-- the request of HandleSendJoin / HandleInvite: the server of the user the user-ID querier named for the sender
    (`sender.Domain()`), at the event's origin_server_ts, `StrictValiditySignatureCheck` — in EVERY room version (where
    `VerifyEventSignatures` would use the version's rule: strict from version 5 on).  Without a user the handlers never
    reach the verifier: the answer for the server `[]` of that case is never read. -/
def handlerRequest (sd : SenderAns) (e : Event) : Request :=
  { server := match sd with
      | .dom d => d
      | _ => [],
    ts := e.originServerTS, strict := true }

/-- HandleSendJoin's input with the verification oracle instantiated for the event `e` -/
def composedSendJoin (i : SendJoinIn) (e : Event) (w : VerifierWorld) : SendJoinIn :=
  { i with verify := w.answer (handlerRequest i.senderDomain e) }

def composedInvite (i : InviteIn) (e : Event) (w : VerifierWorld) : InviteIn :=
  { i with verify := w.answer (handlerRequest i.senderDomain e) }

theorem answer_good {w : VerifierWorld} {r : Request} (h : w.answer r = .good) : w.callFails = false ∧ w.valid r = true := by
  unfold VerifierWorld.answer at h
  cases hc : w.callFails <;> cases hv : w.valid r <;> simp_all

/-- adding a server to the `needed` set keeps the sender's server in it, and keeps any description of its members
    that the added server fits -/
theorem addNeeded_keeps {Q : Bytes → Prop} {d x : Bytes} {n : List Bytes} (hx : Q x) (hn : d ∈ n ∧ ∀ s ∈ n, Q s) :
    d ∈ addNeeded x n ∧ ∀ s ∈ addNeeded x n, Q s :=
  ⟨C06.mem_addNeeded_of_mem x d n hn.1, fun s hs => ((C06.mem_addNeeded x s n).mp hs).elim (fun h => h ▸ hx) (hn.2 s)⟩

/-- why the C06 model requires the signature of server `s` on the event `e` of a user of `d`: it is the sender's server;
    in event format 1 the server named in the event ID; of an invite the invited user's server; of a join the authoriser's -/
def RequiredFor (row : VGen.VersionRow) (e : Event) (d s : Bytes) : Prop :=
  s = d ∨ (row.eventIDFormat = 1 ∧ splitIDDomain 0x24 e.eventID = some s) ∨
  (Signers.membership e = .ok b!"invite" ∧ ∃ sk, e.stateKey = some sk ∧ splitIDDomain 0x40 sk = some s) ∨
  (Signers.membership e = .ok b!"join" ∧ restrictedJoinServername row e.content = .ok s ∧ s ≠ [])

theorem required_cases (row : VGen.VersionRow) (e : Event) (d : Bytes) (l : List Bytes)
    (h : requiredSigners row e (.ok (some d)) = .ok l) : d ∈ l ∧ ∀ s ∈ l, RequiredFor row e d s := by
  unfold requiredSigners at h
  simp only at h
  split at h
  · cases h
  rename_i n1 hn1
  -- the sender's server, then the event-ID server
  have h1 : d ∈ n1 ∧ ∀ s ∈ n1, RequiredFor row e d s := by
    have h0 : d ∈ [d] ∧ ∀ s ∈ [d], RequiredFor row e d s :=
      ⟨List.mem_singleton.mpr rfl, fun s hs => Or.inl (List.mem_singleton.mp hs)⟩
    split at hn1
    · rename_i hf
      cases hx : splitIDDomain 0x24 e.eventID with
      | none => rw [hx] at hn1; cases hn1
      | some x =>
        rw [hx] at hn1
        cases hn1
        exact addNeeded_keeps (Or.inr (Or.inl ⟨by simpa using hf, hx⟩)) h0
    · cases hn1
      exact h0
  split at h
  · cases h; exact h1
  split at h
  · cases h
  rename_i m hm
  split at h
  · cases h
  rename_i n2 hn2
  -- of an invite, the invited user's server
  have h2 : d ∈ n2 ∧ ∀ s ∈ n2, RequiredFor row e d s := by
    split at hn2
    · rename_i hinv
      split at hn2
      · cases hn2
      rename_i sk hsk
      split at hn2
      · rename_i dd hdd
        cases hn2
        rw [beq_iff_eq] at hinv
        exact addNeeded_keeps (Or.inr (Or.inr (Or.inl ⟨hinv ▸ hm, sk, hsk, hdd⟩))) h1
      · cases hn2
    · cases hn2; exact h1
  -- of a join, the authoriser's server
  split at h
  · rename_i hjoin
    split at h
    · cases h
    rename_i auth hauth
    split at h
    · cases h; exact h2
    · rename_i hne
      cases h
      rw [beq_iff_eq] at hjoin
      exact addNeeded_keeps (Or.inr (Or.inr (Or.inr ⟨hjoin ▸ hm, hauth, fun hc => hne (by rw [hc]; rfl)⟩))) h2
  · cases h; exact h2

theorem sender_server_required (row : VGen.VersionRow) (e : Event) (d : Bytes) (l : List Bytes)
    (h : requiredSigners row e (.ok (some d)) = .ok l) : d ∈ l :=
  (required_cases row e d l h).1

/-- **HandleSendJoin, without the verification oracle.**  The handler does not call `VerifyEventSignatures`; it asks the
    verifier about ONE server.  If it accepts, the user-ID querier placed the sender on the requesting server, the
    verifier call succeeded and it reported the REQUESTING server's signature valid at the event's
    origin_server_ts under the strict key-validity rule; and that server is one of the servers
    `requiredSigners` (C06) lists for the event under any version row. -/
theorem sendJoin_origin_signature_valid (i : SendJoinIn) (e : Event) (w : VerifierWorld) (o : SendJoinOut)
    (h : handleSendJoin (composedSendJoin i e w) = .ok o) :
    i.senderDomain = .dom i.requestOrigin ∧ w.callFails = false ∧
    w.valid ⟨i.requestOrigin, e.originServerTS, true⟩ = true ∧
    (∀ row l, requiredSigners row e (.ok (some i.requestOrigin)) = .ok l → i.requestOrigin ∈ l) := by
  obtain ⟨hd, hv, _⟩ := sendJoinGuards_reads (sendJoin_ok_implies_guards _ o h).1
  have hd' : i.senderDomain = .dom i.requestOrigin := hd
  have hv' : w.answer (handlerRequest i.senderDomain e) = .good := hv
  rw [hd'] at hv'
  obtain ⟨h1, h2⟩ := answer_good hv'
  exact ⟨hd', h1, h2, fun row l hl => sender_server_required row e _ l hl⟩

/-- **HandleInvite, without the verification oracle**: the verifier reported the signature of the SENDER's server (the
    server of the user the querier named for the event's sender; HandleInviteInput has no request origin)
    valid at the event's origin_server_ts under the strict rule; it is one of the servers `requiredSigners`
    lists for the event. -/
theorem invite_sender_signature_valid (i : InviteIn) (e : Event) (w : VerifierWorld) (o : InviteOut)
    (h : handleInvite (composedInvite i e w) = .ok o) :
    ∃ d, i.senderDomain = .dom d ∧ w.callFails = false ∧ w.valid ⟨d, e.originServerTS, true⟩ = true ∧
      (∀ row l, requiredSigners row e (.ok (some d)) = .ok l → d ∈ l) := by
  obtain ⟨_, _, _, _, hd, hv, _⟩ := handleInvite_ok h
  have hd' : senderKnown i.senderDomain = true := hd
  have hv' : w.answer (handlerRequest i.senderDomain e) = .good := hv
  revert hd' hv'
  cases i.senderDomain with
  | dom d =>
    intro _ hv'
    obtain ⟨h1, h2⟩ := answer_good hv'
    exact ⟨d, rfl, h1, h2, fun row l hl => sender_server_required row e d l hl⟩
  | _ => intro hd'; cases hd'

/-! ### The other servers C06 requires of a join

  `requiredSigners` lists, for an `m.room.member` join: the sender's server, in event format 1 (room versions 1, 2) the
  server named in the event ID, and the server of `join_authorised_via_users_server`.  HandleSendJoin verifies the
  first; insists that the third is the local server — and adds that signature itself; nobody checks the second on this
  path.  Stated for an input whose event facts are the accessors' readings of the event. -/

/-- `MemberContent.AuthorisedVia` of the event: the member named exactly `join_authorised_via_users_server` of the
    content, decoded as a Go string (what HandleSendJoin reads after its `json.Unmarshal(exactMembersOnly(…))`) -/
def authorisedViaOf (e : Event) : Bytes :=
  match e.content with
  | some (.obj kvs) => (decString (lookupExact kvs b!"join_authorised_via_users_server")).val
  | _ => []

/-- the standard `spec.NewUserID(id, true)` as the user-ID oracle (`userIDOracle` of the driver) -/
def stdUserID : UserIDOracle := fun id =>
  match parseUserID? id with
  | some (some u) => some u.domain
  | _ => none

/-- the event facts of `SendJoinIn` that matter below are read off the event `e` -/
structure JoinReadOff (e : Event) (i : SendJoinIn) : Prop where
  type : i.evType = e.type
  /-- `event.Membership()`: the exact `membership` member, then the state-key check — the same reading as
      `membershipForSignatures`, which `Signers.membership` models -/
  membership : i.membership = (Signers.membership e).toOption
  via : i.authorisedVia = authorisedViaOf e
  userID : i.userID = stdUserID

theorem stdUserID_domain {id dom : Bytes} (h : stdUserID id = some dom) : splitIDDomain 0x40 id = some dom := by
  unfold stdUserID at h
  revert h
  fun_cases parseUserID? id
  all_goals intro h
  case case6 rest l d hc _ _ _ =>
    cases h
    show (if (0x40 : UInt8) == 0x40 then (cutAt 0x3A (0x40 :: rest)).map (·.2) else none) = some d
    rw [if_pos (beq_self_eq_true _), C06.cutAt_cons_ne (by decide) rest, hc]
    rfl
  -- every other answer of `spec.NewUserID` is a refusal
  all_goals cases h

/-- the authoriser's server C06 requires is the server part of `MemberContent.AuthorisedVia` -/
theorem restricted_server_of_via (row : VGen.VersionRow) (e : Event) (s : Bytes)
    (h : restrictedJoinServername row e.content = .ok s) (hs : s ≠ []) :
    splitIDDomain 0x40 (authorisedViaOf e) = some s := by
  unfold restrictedJoinServername at h
  unfold authorisedViaOf
  split at h
  · revert h
    fun_cases extractAuthorisedVia e.content
    all_goals intro h
    case case4 kvs c hlook _ _ dom hsplit _ =>
      cases h
      dsimp only
      rw [hlook]
      exact hsplit
    -- every other branch is an error, or names nobody
    all_goals cases h <;> exact absurd rfl hs
  · split at h <;> cases h <;> exact absurd rfl hs

theorem join_required_cases (row : VGen.VersionRow) (e : Event) (d : Bytes) (l : List Bytes)
    (hm : Signers.membership e = .ok b!"join")
    (h : requiredSigners row e (.ok (some d)) = .ok l) :
    ∀ s ∈ l, s = d ∨ (row.eventIDFormat = 1 ∧ splitIDDomain 0x24 e.eventID = some s) ∨
      (restrictedJoinServername row e.content = .ok s ∧ s ≠ []) := by
  intro s hs
  rcases (required_cases row e d l h).2 s hs with h1 | h1 | ⟨hi, _⟩ | ⟨_, h1⟩
  · exact Or.inl h1
  · exact Or.inr (Or.inl h1)
  · exact absurd (Except.ok.inj (hm.symm.trans hi)) (by decide)
  · exact Or.inr (Or.inr h1)

/-- **Every server C06 requires of an accepted join is accounted for.**  For an event whose facts the input reads off
    (`JoinReadOff`), under any version row: each server `requiredSigners` lists for it — with the sender lookup answering
    the requesting server, as it did — is
      * the requesting server, whose signature the verifier reported valid (origin_server_ts, strict rule), or
      * the LOCAL server (the authorising user's: "whose authorising user is local"), whose signature is the one the
        handler adds to what it returns (`o.sig.signer`), or
      * in event format 1 (room versions 1 and 2) the server named in the event ID — which nobody verifies on this path. -/
theorem sendJoin_required_signers_covered (row : VGen.VersionRow) (e : Event) (i : SendJoinIn) (w : VerifierWorld)
    (o : SendJoinOut) (hr : JoinReadOff e i) (h : handleSendJoin (composedSendJoin i e w) = .ok o)
    (l : List Bytes) (hl : requiredSigners row e (.ok (some i.requestOrigin)) = .ok l) :
    i.requestOrigin ∈ l ∧
    ∀ s ∈ l, (s = i.requestOrigin ∧ w.valid ⟨s, e.originServerTS, true⟩ = true)
      ∨ (s = i.localServer ∧ o.sig.signer = s)
      ∨ (row.eventIDFormat = 1 ∧ splitIDDomain 0x24 e.eventID = some s) := by
  obtain ⟨_, _, hvalid, hmem⟩ := sendJoin_origin_signature_valid i e w o h
  obtain ⟨hg, _, hm⟩ := sendJoin_ok_implies_guards _ o h
  obtain ⟨hsig, _⟩ := sendJoin_signs_unmodified _ o h
  have hm' : Signers.membership e = .ok b!"join" := Guard.eq_ok_of_toOption (hr.membership.symm.trans hm)
  have hvia : i.authorisedVia.isEmpty = true ∨ i.userID i.authorisedVia = some i.localServer :=
    (sendJoinGuards_reads hg).2.2
  refine ⟨hmem row l hl, ?_⟩
  intro s hs
  rcases join_required_cases row e _ l hm' hl s hs with h1 | h1 | ⟨h1, h2⟩
  · exact Or.inl ⟨h1, by rw [h1]; exact hvalid⟩
  · exact Or.inr (Or.inr h1)
  · right; left
    rcases hvia with he | hu
    · -- no authorising user in the content: C06 requires nobody for it
      have hv := restricted_server_of_via row e s h1 h2
      rw [← hr.via, List.isEmpty_iff.mp he] at hv
      cases hv
    · rw [hr.userID, hr.via] at hu
      -- the server C06 requires for the authorising user is the domain `spec.NewUserID` reads off that user
      have : s = i.localServer := Option.some.inj ((restricted_server_of_via row e s h1 h2).symm.trans (stdUserID_domain hu))
      exact ⟨this, by rw [hsig, this]; rfl⟩

/-- **What HandleSendJoin returns would pass `VerifyEventSignatures`** (C06 model) in the room versions whose event IDs
    name no server and whose key-validity rule is the strict one (versions 5 on): given that the signature the handler
    adds for the local server is one the verifier reports valid (C02: it is made with the local key) and that the
    required servers can be determined at all, every request `VerifyEventSignatures` makes for the event is answered
    "valid". -/
theorem sendJoin_passes_verifyEventSignatures (row : VGen.VersionRow) (e : Event) (i : SendJoinIn) (w : VerifierWorld)
    (o : SendJoinOut) (hr : JoinReadOff e i) (h : handleSendJoin (composedSendJoin i e w) = .ok o)
    (hstrict : strictValidity row = true) (hfmt : row.eventIDFormat ≠ 1)
    (hlocal : w.valid ⟨o.sig.signer, e.originServerTS, true⟩ = true)
    (hdet : ∃ l, requiredSigners row e (.ok (some i.requestOrigin)) = .ok l) :
    verifyEventSignatures row e (.ok (some i.requestOrigin)) w.valid false = .ok () := by
  obtain ⟨l, hl⟩ := hdet
  rw [C06.verify_iff]
  refine ⟨l, hl, ?_⟩
  intro s hs
  rw [hstrict]
  rcases (sendJoin_required_signers_covered row e i w o hr h l hl).2 s hs with ⟨_, h1⟩ | ⟨_, h1⟩ | ⟨h1, _⟩
  · exact h1
  · rw [← h1]; exact hlocal
  · exact absurd h1 hfmt

theorem invite_required_cases (row : VGen.VersionRow) (e : Event) (d : Bytes) (l : List Bytes)
    (hm : Signers.membership e = .ok b!"invite")
    (h : requiredSigners row e (.ok (some d)) = .ok l) :
    ∀ s ∈ l, s = d ∨ (row.eventIDFormat = 1 ∧ splitIDDomain 0x24 e.eventID = some s) ∨
      (∃ sk, e.stateKey = some sk ∧ splitIDDomain 0x40 sk = some s) := by
  intro s hs
  rcases (required_cases row e d l h).2 s hs with h1 | h1 | ⟨_, h1⟩ | ⟨hj, _⟩
  · exact Or.inl h1
  · exact Or.inr (Or.inl h1)
  · exact Or.inr (Or.inr h1)
  · exact absurd (Except.ok.inj (hm.symm.trans hj)) (by decide)

/-- **Every server C06 requires of an accepted invite is accounted for.**  For an invite whose type, membership and state
    key the input reads off the event, handed to HandleInvite for a user of the server it signs for
    (`input.InvitedUser.Domain()` is the domain of `input.InvitedUser`; `input.InvitedSenderID` is that user ID — user-ID
    room versions — or left empty): each server `requiredSigners` lists is the sender's server, reported valid by the
    verifier; or the invited user's server, whose signature is the one the handler adds; or (format 1) the event-ID
    server, which nobody verifies on this path. -/
theorem invite_required_signers_covered (row : VGen.VersionRow) (e : Event) (i : InviteIn) (w : VerifierWorld)
    (o : InviteOut)
    (hty : i.eventType = e.type) (hms : i.membership = (Signers.membership e).toOption) (hsk : i.stateKey = e.stateKey)
    (hsid : i.invitedSenderID = i.invitedUserID ∨ i.invitedSenderID = []) (hdom : stdUserID i.invitedUserID = some i.invitedUserDomain)
    (h : handleInvite (composedInvite i e w) = .ok o) :
    ∃ d, i.senderDomain = .dom d ∧ ∀ l, requiredSigners row e (.ok (some d)) = .ok l →
      d ∈ l ∧
      ∀ s ∈ l, (s = d ∧ w.valid ⟨s, e.originServerTS, true⟩ = true)
        ∨ (s = i.invitedUserDomain ∧ o.sig.signer = s)
        ∨ (row.eventIDFormat = 1 ∧ splitIDDomain 0x24 e.eventID = some s) := by
  obtain ⟨d, hd, _, hvalid, hmem⟩ := invite_sender_signature_valid i e w o h
  obtain ⟨_, _, _, hm', _, _, sk, hsk', hor, _⟩ := handleInvite_ok h
  obtain ⟨hsig, _⟩ := invite_signs_unmodified _ o h
  refine ⟨d, hd, fun l hl => ⟨hmem row l hl, ?_⟩⟩
  have hm'' : Signers.membership e = .ok b!"invite" := Guard.eq_ok_of_toOption (hms.symm.trans hm')
  intro s hs
  rcases invite_required_cases row e d l hm'' hl s hs with h1 | h1 | ⟨sk', hk1, hk2⟩
  · exact Or.inl ⟨h1, by rw [h1]; exact hvalid⟩
  · exact Or.inr (Or.inr h1)
  · right; left
    have hsk2 : sk' = i.invitedUserID := by
      have : some sk = some sk' := by rw [← hk1, ← hsk]; exact hsk'.symm
      cases this
      rcases hor with h2 | h2
      · rcases hsid with h3 | h3
        · exact h2.trans h3
        · have h4 : sk = [] := h2.trans h3
          rw [h4] at hk2
          cases hk2
      · exact h2
    rw [hsk2, stdUserID_domain hdom] at hk2
    cases hk2
    exact ⟨rfl, by rw [hsig]; rfl⟩

/-! ## Non-vacuity (kernel-evaluated)

  A room `!room:hs1` of version 10 with restricted joins: create event, join rules, power levels (invite level 50,
  @alice:hs1 at 50) and @alice:hs1's membership.  @bob:hs5 asks hs1 for a join template; the queriers are those of
  `makeJoinWitness` (VProps/C15.lean): the restricted-join stage picks @alice:hs1. -/

def xsEv (room id type sender sk : Bytes) (content : List (Bytes × JVal)) : Event :=
  { ver := b!"10", eventID := id,
    obj := [(b!"type", .str type), (b!"sender", .str sender), (b!"room_id", .str room), (b!"state_key", .str sk),
            (b!"content", .obj content), (b!"origin_server_ts", .num b!"5"), (b!"depth", .num b!"1"),
            (b!"prev_events", .arr [.str b!"$p"]), (b!"auth_events", .arr [])] }

def xsCreate : Event :=
  xsEv b!"!room:hs1" b!"$c" b!"m.room.create" b!"@creator:hs1" []
    [(b!"creator", .str b!"@creator:hs1"), (b!"room_version", .str b!"10")]

def xsState : List Event :=
  [xsCreate,
   xsEv b!"!room:hs1" b!"$j" b!"m.room.join_rules" b!"@creator:hs1" []
     [(b!"join_rule", .str b!"restricted"),
      (b!"allow", .arr [.obj [(b!"type", .str b!"m.room_membership"), (b!"room_id", .str b!"!a:hs1")]])],
   xsEv b!"!room:hs1" b!"$l" b!"m.room.power_levels" b!"@creator:hs1" []
     [(b!"users", .obj [(b!"@creator:hs1", .num b!"100"), (b!"@alice:hs1", .num b!"50")]), (b!"invite", .num b!"50")],
   xsEv b!"!room:hs1" b!"$m" b!"m.room.member" b!"@alice:hs1" b!"@alice:hs1" [(b!"membership", .str b!"join")]]

/-- a state event of ANOTHER room -/
def xsForeign : Event := xsEv b!"!other:hs1" b!"$n" b!"m.room.name" b!"@creator:hs1" [] [(b!"name", .str b!"n")]

def xsMakeJoin (state : List Event) : MakeJoinIn :=
  composedMakeJoin (makeJoinWitness (.ans (some infoWitness))) (protoBuilder b!"10" state b!"@bob:hs5" b!"!room:hs1" b!"join")

/-- the hypothesis of `makeJoin_proto_template_allowed` holds with `authorisedVia = @alice:hs1`: the handler returns the
    template; the join it describes is accepted by the C07 model, and WITHOUT the authorising user it is not (the `allowed`
    bit is a real verdict of the auth rules, not a constant) -/
example : isOkVia (handleMakeJoin (xsMakeJoin xsState)) b!"@alice:hs1" = true
    ∧ allowedFresh (templateEvent b!"10" b!"m.room.member" b!"@bob:hs5" b!"!room:hs1" b!"join" b!"@alice:hs1")
        (Provider.ofEvents xsState) = .ok
    ∧ allowedFresh (templateEvent b!"10" b!"m.room.member" b!"@bob:hs5" b!"!room:hs1" b!"join" [])
        (Provider.ofEvents xsState) = .notAllowed := by
  decide +kernel

/-- the same request with one state event of another room added to the builder's state is refused (M_FORBIDDEN):
    `makeJoin_proto_cross_room_refused` on a concrete input -/
example : isErr (handleMakeJoin (xsMakeJoin (xsState ++ [xsForeign]))) eForbidden = true := by decide +kernel

example : ∃ a ∈ xsState ++ [xsForeign], ∃ b ∈ xsState ++ [xsForeign], a.roomID ≠ b.roomID :=
  ⟨xsForeign, List.mem_append_right _ (List.mem_singleton.mpr rfl),
   xsCreate, List.mem_append_left _ List.mem_cons_self, by decide +kernel⟩

/-- make_leave: @alice:hs1 (joined) may leave — `makeLeave_proto_template_allowed` applies; with a state that spans two
    rooms she gets no template (`makeLeave_cross_room_refused`) -/
def xsMakeLeave (user dom : Bytes) (state : List Event) : MakeLeaveIn :=
  composedMakeLeave { roomVersion := b!"10", userDomain := dom, requestOrigin := dom, localServerInRoom := true, template := .err }
    (protoBuilder b!"10" state user b!"!room:hs1" b!"leave" [])

def leaveOutcome (r : Handshake.R Bytes) : Option HErr :=
  match r with
  | .ok _ => none
  | .error e => some e

example : leaveOutcome (handleMakeLeave (xsMakeLeave b!"@alice:hs1" b!"hs1" xsState)) = none
    ∧ leaveOutcome (handleMakeLeave (xsMakeLeave b!"@alice:hs1" b!"hs1" (xsState ++ [xsForeign]))) = some eForbidden := by
  decide +kernel

/-! send_join: @bob:hs2 sends his join — authorised by @alice:hs1 — to hs1; the input facts are read off the event -/

def xsJoin (ver id : Bytes) : Event :=
  { ver := ver, eventID := id,
    obj := [(b!"type", .str b!"m.room.member"), (b!"sender", .str b!"@bob:hs2"), (b!"room_id", .str b!"!room:hs1"),
            (b!"state_key", .str b!"@bob:hs2"),
            (b!"content", .obj [(b!"membership", .str b!"join"), (b!"join_authorised_via_users_server", .str b!"@alice:hs1")]),
            (b!"origin_server_ts", .num b!"5"), (b!"depth", .num b!"7"),
            (b!"prev_events", .arr [.str b!"$p"]), (b!"auth_events", .arr [])] }

def xsSendJoinIn (e : Event) : SendJoinIn :=
  { sendJoinWitness with
    evType := e.type, stateKey := e.stateKey, sender := e.sender, eventRoomID := e.roomID, eventID := e.eventID,
    reqEventID := e.eventID,
    membership := (Signers.membership e).toOption, authorisedVia := authorisedViaOf e, userID := stdUserID }

/-- the verifier reports hs2 valid at timestamp 5 under the strict rule (`good`), or nothing -/
def xsVerifier (good : Bool) : VerifierWorld :=
  { callFails := false, valid := fun r => good && r.server == b!"hs2" && r.ts == 5 && r.strict }

def signerOf (r : Handshake.R SendJoinOut) : Option Bytes :=
  match r with
  | .ok o => some o.sig.signer
  | .error _ => none

def requiredIn (ver : String) (e : Event) (d : Bytes) : Option (List Bytes) :=
  (VGen.roomVersions.find? (fun r => r.key == ver)).bind (fun row =>
    match requiredSigners row e (.ok (some d)) with
    | .ok l => some l
    | .error _ => none)

example : JoinReadOff (xsJoin b!"10" b!"$e") (xsSendJoinIn (xsJoin b!"10" b!"$e")) := ⟨rfl, rfl, rfl, rfl⟩

/-- room version 10: accepted (and counter-signed by hs1) when the verifier vouches for hs2, refused when it does not;
    C06 requires hs2 and hs1 — the hypotheses of `sendJoin_required_signers_covered` hold and both disjuncts occur -/
example :
    signerOf (handleSendJoin (composedSendJoin (xsSendJoinIn (xsJoin b!"10" b!"$e")) (xsJoin b!"10" b!"$e") (xsVerifier true)))
      = some b!"hs1"
    ∧ signerOf (handleSendJoin (composedSendJoin (xsSendJoinIn (xsJoin b!"10" b!"$e")) (xsJoin b!"10" b!"$e") (xsVerifier false)))
      = none
    ∧ requiredIn "10" (xsJoin b!"10" b!"$e") b!"hs2" = some [b!"hs2", b!"hs1"] := by
  decide +kernel

/-- room version 1, an event ID that names a third server: the handler accepts on hs2's signature alone although C06
    requires `elsewhere` too — the third disjunct of `sendJoin_required_signers_covered` is not idle (version 1 has no
    restricted joins: nobody is required for the authorising user) -/
example :
    signerOf (handleSendJoin (composedSendJoin (xsSendJoinIn (xsJoin b!"1" b!"$e:elsewhere")) (xsJoin b!"1" b!"$e:elsewhere")
      (xsVerifier true))) = some b!"hs1"
    ∧ requiredIn "1" (xsJoin b!"1" b!"$e:elsewhere") b!"hs2" = some [b!"hs2", b!"elsewhere"] := by
  decide +kernel

/-! invite: @carol:hs2 invites @alice:hs1; hs1 is handed the invite (`inviteWitness` of VProps/C15.lean, read off the event) -/

def xsInvite : Event :=
  { ver := b!"10", eventID := b!"$i",
    obj := [(b!"type", .str b!"m.room.member"), (b!"sender", .str b!"@carol:hs2"), (b!"room_id", .str b!"!room:hs2"),
            (b!"state_key", .str b!"@alice:hs1"), (b!"content", .obj [(b!"membership", .str b!"invite")]),
            (b!"origin_server_ts", .num b!"5"), (b!"depth", .num b!"7"),
            (b!"prev_events", .arr [.str b!"$p"]), (b!"auth_events", .arr [])] }

def xsInviteIn : InviteIn :=
  { inviteWitness with eventType := xsInvite.type, membership := (Signers.membership xsInvite).toOption,
                       stateKey := xsInvite.stateKey, eventRoomID := xsInvite.roomID }

def inviteSignerOf (r : Handshake.R InviteOut) : Option Bytes :=
  match r with
  | .ok o => some o.sig.signer
  | .error _ => none

/-- the hypotheses of `invite_required_signers_covered` hold: accepted (counter-signed for hs1) exactly when the verifier
    vouches for hs2; C06 requires hs2 and hs1 -/
example :
    inviteSignerOf (handleInvite (composedInvite xsInviteIn xsInvite (xsVerifier true))) = some b!"hs1"
    ∧ inviteSignerOf (handleInvite (composedInvite xsInviteIn xsInvite (xsVerifier false))) = none
    ∧ stdUserID xsInviteIn.invitedUserID = some xsInviteIn.invitedUserDomain
    ∧ xsInviteIn.invitedSenderID = xsInviteIn.invitedUserID
    ∧ requiredIn "10" xsInvite b!"hs2" = some [b!"hs2", b!"hs1"] := by
  decide +kernel

end V.C15
