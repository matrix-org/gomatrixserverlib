/-
  C04 — Untrusted events whose content hash fails surface only their redacted form.

  Model: `V.EventParse.parseUntrusted H ver text` (newEventFromUntrustedJSONV1/V2/V3), with SHA-256 a
  parameter `H`.  The redaction itself is C05's (`V.Redact.redactJSON`; `V.C05.redact_exact` says which
  keys it leaves).
-/
import VProofs.EventParse
import VProofs.RedactValues
import VProps.C05
namespace V.AccProofs
open V V.Json V.GoJson V.Redact V.EventParse V.RedactProofs V.EventProofs

theorem redacted_numbers_ok {ver : Bytes} {kvs rk : EventParse.Obj} (hn : jNumbersOkMembers kvs = true)
    (hr : redactJSON ver (.obj kvs) = .ok (.obj rk)) : jNumbersOkMembers rk = true := by
  obtain ⟨a, ha, hr⟩ := redactJSON_algo hr
  exact (jNumMembers_iff rk).mpr (redactWith_vals jNumbersOk_valProp (tablesOk_parts (C05.algoOf_ok ha).1).1 ((jNumMembers_iff kvs).mp hn) hr)

end V.AccProofs

namespace V.C04
open V V.Json V.GoJson V.Redact V.EventParse V.RedactProofs V.EventProofs

/-- the stages of `parseUntrusted` that every accepted input has passed -/
structure Received (ver text : Bytes) (row : VGen.VersionRow) (fmt : Fmt) (p : PVal) (e0 : PDU) : Prop where
  hrow : rowOf ver = some row
  hfmt : fmtOfName row.newEventFromUntrustedJSONFunc = some fmt
  hparse : parse text = some p
  noHeader : hasUnderscoreKey p.toJVal = false
  numbers : enforces row = some true → p.numbersOk = true
  noDup : p.toJVal.noDupKeys = true
  noVariant : hasFieldVariant p.toJVal = false
  hcons : construct fmt ver false (encodeCanon (stripped fmt p.toJVal)) (stripped fmt p.toJVal) = .ok e0

theorem parseUntrusted_ok {H : Bytes → Bytes} {ver text : Bytes} {e : PDU} (h : parseUntrusted H ver text = .ok e) :
    ∃ row fmt p e0, Received ver text row fmt p e0 ∧
      finishUntrusted H row fmt ver (encodeCanon (stripped fmt p.toJVal)) (resetID fmt e0) = .ok e := by
  unfold parseUntrusted at h
  split at h
  · cases h
  · rename_i row hrow
    split at h
    · rename_i fmt enf hfmt henf
      split at h
      · cases h
      · rename_i p hp
        -- the four tests in a row, each by the one-test inversion (a `split at h` per test re-elaborates all that follows it)
        simp only [Guard.ok_iff] at h
        obtain ⟨h1, h2, h3, h4, h⟩ := h
        split at h
        · cases h
        · rename_i e0 hc
          refine ⟨row, fmt, p, e0, ⟨hrow, hfmt, hp, by simpa using h1, fun he => ?_, by simpa using h3, by simpa using h4, hc⟩, h⟩
          rw [henf] at he
          cases he
          simpa using h2
    · cases h

/-- every version's trusted and untrusted constructors fill the same struct, and every keep struct
    has an `event_id` field -/
theorem table_facts : ∀ row ∈ VGen.roomVersions,
    (fmtOfName row.newEventFromUntrustedJSONFunc == fmtOfName row.newEventFromTrustedJSONFunc &&
     (fmtOfName row.newEventFromUntrustedJSONFunc).isSome &&
     (match algoByName row.redactionAlgorithm with
      | some a => a.fields.any (fun f => f.name == b!"event_id")
      | none => false)) = true := by
  intro row h
  obtain ⟨a, ha, hk, h1, _⟩ := C05.rowAll_parts h
  rw [ha, show (_ && _) = true from h1]
  exact (C05.keepOk_parts hk).2.2.2.2.1

theorem row_facts {ver : Bytes} {row : VGen.VersionRow} (h : rowOf ver = some row) :
    fmtOfName row.newEventFromUntrustedJSONFunc = fmtOfName row.newEventFromTrustedJSONFunc ∧
    ∃ a, algoOf ver = some a ∧ a.fields.any (fun f => f.name == b!"event_id") = true := by
  have hmem : row ∈ VGen.roomVersions := List.mem_of_find?_eq_some h
  have := table_facts row hmem
  simp only [Bool.and_eq_true, beq_iff_eq] at this
  obtain ⟨⟨h1, _⟩, h3⟩ := this
  refine ⟨h1, ?_⟩
  cases ha : algoByName row.redactionAlgorithm with
  | none => rw [ha] at h3; cases h3
  | some a =>
    rw [ha] at h3
    exact ⟨a, by simp [algoOf, h, ha], h3⟩

theorem redactJSON_obj {ver : Bytes} {j r0 : JVal} (h : redactJSON ver j = .ok r0) :
    ∃ a rk, algoOf ver = some a ∧ redactWith a j = .ok (.obj rk) ∧ r0 = .obj rk := by
  obtain ⟨a, ha, h⟩ := redactJSON_algo h
  obtain ⟨_, _, _, _, _, _, rfl⟩ := redactWith_reads (tablesOk_parts (C05.algoOf_ok ha).1).1 h
  exact ⟨a, _, ha, h, rfl⟩

theorem redactJSON_output {ver : Bytes} {kvs rk : EventParse.Obj} (h : redactJSON ver (.obj kvs) = .ok (.obj rk)) :
    ∃ a tf cf ty c, algoOf ver = some a ∧ Reads a (fun f => lookupExact kvs f.name) tf cf ty c ∧
      rk = written a (fun f => lookupExact kvs f.name) ty c := by
  obtain ⟨a, ha, h⟩ := redactJSON_algo h
  obtain ⟨tf, cf, ty, c, R, hv⟩ := (redactWith_iff (tablesOk_parts (C05.algoOf_ok ha).1).1 kvs _).mp h
  exact ⟨a, tf, cf, ty, c, ha, R, JVal.obj.inj hv⟩

/-- the V1 constructor has checked that an event it accepts can be redacted -/
theorem redactable_of_v1 {ver : Bytes} {e1 : PDU} (h : redactableV1 .v1 ver e1 = .ok ()) :
    ∃ rk, redactJSON ver (.obj e1.obj) = .ok (.obj rk) := by
  unfold redactableV1 at h
  rw [if_pos (by rfl)] at h
  split at h
  · rename_i r hr
    obtain ⟨_, rk, _, _, rfl⟩ := redactJSON_obj hr
    exact ⟨rk, hr⟩
  · split at h <;> cases h
  · cases h

theorem redaction_keys {ver : Bytes} {kvs rk : EventParse.Obj} (h : redactJSON ver (.obj kvs) = .ok (.obj rk)) :
    ∃ a, algoOf ver = some a ∧ (keysOf rk).Nodup ∧ ∀ kv ∈ rk, ∃ f ∈ a.fields, kv.1 = f.name := by
  obtain ⟨a, tf, cf, ty, c, ha, _, rfl⟩ := redactJSON_output h
  exact ⟨a, ha, (pick_wf (tablesOk_parts (C05.algoOf_ok ha).1).1 _).nodup,
    fun kv hkv => (mem_pick.mp hkv).imp fun _ h => ⟨h.1, h.2.1⟩⟩

/-- no name of a redaction keep struct is a case variant of an event-struct field name (regenerated tables) -/
theorem keep_names_no_variant : ∀ row ∈ VGen.roomVersions,
    (match algoByName row.redactionAlgorithm with
     | some a => a.fields.all (fun f => !(structFieldNames.any (fun n => f.name != n && foldBytes f.name == foldBytes n)))
     | none => false) = true := by
  intro row h
  obtain ⟨a, ha, hk, _⟩ := C05.rowAll_parts h
  rw [ha]
  exact (C05.keepOk_parts hk).2.2.2.2.2

/-- what receipt checked of the text, as far as it passes on to any part of the members and to their redaction -/
structure Clean (row : VGen.VersionRow) (fmt : Fmt) (K : EventParse.Obj) : Prop where
  nodup : (keysOf K).Nodup
  novar : hasFieldVariant (.obj K) = false
  numbers : enforces row = some true → jNumbersOkMembers K = true
  noid : fmt ≠ .v1 → lookupExact K b!"event_id" = none

theorem Clean.sub {row : VGen.VersionRow} {fmt : Fmt} {K K' : EventParse.Obj} (C : Clean row fmt K) (hs : K'.Sublist K) :
    Clean row fmt K' := by
  refine ⟨(hs.map _).nodup C.nodup, ?_, fun he => jNumMembers_sub hs.subset (C.numbers he), fun hv => ?_⟩
  · have := C.novar
    simp only [hasFieldVariant, List.any_eq_false] at this ⊢
    exact fun kv hkv => this kv (hs.subset hkv)
  · have := C.noid hv
    rw [lookupExact_eq, lastSome_none_iff] at this ⊢
    exact fun kv hkv => this kv (hs.subset hkv)

/-- the keys of a redaction are names of the keep struct, none of which is a case variant of an event-struct field name -/
theorem Clean.redacted {ver : Bytes} {row : VGen.VersionRow} {fmt : Fmt} {K rk : EventParse.Obj} (hrow : rowOf ver = some row)
    (C : Clean row fmt K) (hr : redactJSON ver (.obj K) = .ok (.obj rk)) : Clean row fmt rk := by
  obtain ⟨a, ha, hnd, hkeep⟩ := redaction_keys hr
  refine ⟨hnd, ?_, fun he => AccProofs.redacted_numbers_ok (C.numbers he) hr,
    fun hv => C05.redact_drops_unlisted hr (by decide) (by decide) (C.noid hv)⟩
  have htab := keep_names_no_variant row (List.mem_of_find?_eq_some hrow)
  rw [show algoByName row.redactionAlgorithm = some a by simpa [algoOf, hrow] using ha] at htab
  simp only [hasFieldVariant, List.any_eq_false]
  intro kv hkv
  obtain ⟨f, hf, hkf⟩ := hkeep kv hkv
  rw [hkf]
  simpa using List.all_eq_true.mp htab f hf

theorem Received.clean {ver text : Bytes} {row : VGen.VersionRow} {fmt : Fmt} {p : PVal} {e0 : PDU} {kvs : EventParse.Obj}
    (R : Received ver text row fmt p e0) (hs : stripped fmt p.toJVal = .obj kvs) : Clean row fmt kvs := by
  obtain ⟨kvs0, hj, rfl⟩ := stripped_obj hs
  have C0 : Clean row .v1 kvs0 := ⟨keys_nodup_of_noDupKeys (hj ▸ R.noDup), hj ▸ R.noVariant,
    fun he => by have := R.numbers he; rwa [← BuildProofs.jNumbersOk_toJVal, hj] at this, fun hv => absurd rfl hv⟩
  have C1 := C0.sub (deleteKeys_sublist (stripKeys fmt) kvs0)
  exact ⟨C1.nodup, C1.novar, C1.numbers, fun hv => stripped_no_event_id hv R.noDup hs⟩

theorem dropEventID_sub {fmt : Fmt} {rk K : EventParse.Obj} (h : dropEventID fmt (.obj rk) = .obj K) : K.Sublist rk := by
  unfold dropEventID at h
  split at h <;> cases h
  · exact .refl _
  · exact deleteFirst_sublist _ _

/-- what every accepted untrusted event satisfies: what the accessors rely on (`Inv`), what `Redact()` relies on (`Intact`), `JSON()` and the
    fields are those of the object held, and what receipt checked of that object -/
structure Accepted (H : Bytes → Bytes) (ver : Bytes) (row : VGen.VersionRow) (e : PDU) : Prop
    extends AccProofs.Inv H ver row e, AccProofs.Intact ver row e where
  hjson : e.json = encodeCanon (.obj e.obj)
  hfields : FieldsFrom e.fmt e
  clean : Clean row e.fmt e.obj

/-- What `parseUntrusted` returns, by branch: the content hash matched, or the event was redacted.  (The stages of the text are
    named by the caller: they are determined by it.) -/
theorem accepted_cases {H : Bytes → Bytes} {ver text : Bytes} {e : PDU} (h : parseUntrusted H ver text = .ok e)
    {row : VGen.VersionRow} {fmt : Fmt} {p : PVal} {kvs : EventParse.Obj}
    (hrow : rowOf ver = some row) (hfmt : fmtOfName row.newEventFromUntrustedJSONFunc = some fmt)
    (hp : parse text = some p) (hs : stripped fmt p.toJVal = .obj kvs) :
    Accepted H ver row e ∧ e.fmt = fmt ∧
      ((contentHashOk H kvs = true ∧ e.redacted = false ∧ e.obj = kvs ∧ FieldsFrom fmt e) ∨
       (contentHashOk H kvs = false ∧ e.redacted = true ∧
          ∃ r0, redactJSON ver (.obj kvs) = .ok r0 ∧ e.json = encodeCanon (dropEventID fmt r0) ∧
            (e.obj = kvs ∨ dropEventID fmt r0 = .obj e.obj))) := by
  obtain ⟨row', fmt', p', e0, R, hfin⟩ := parseUntrusted_ok h
  obtain rfl : row = row' := Option.some.inj (hrow.symm.trans R.hrow)
  obtain rfl : fmt = fmt' := Option.some.inj (hfmt.symm.trans R.hfmt)
  obtain rfl : p = p' := Option.some.inj (hp.symm.trans R.hparse)
  obtain ⟨kvs', hj, D, rfl⟩ := construct_ok_iff.mp R.hcons
  obtain rfl : kvs = kvs' := JVal.obj.inj (hs.symm.trans hj)
  -- every branch returns a `mkEvent`: made of an object that decodes, with its ID, `CheckFields` passed, redactable (format 1
  -- computes no reference, so there that the event can be redacted has to come from elsewhere)
  have acc : ∀ {red K id}, Decodes fmt K → StoredID H row ver fmt K id →
      checkFields (mkEvent ver fmt red (encodeCanon (.obj K)) K id) = .ok () →
      (fmt = .v1 → ∃ rk, redactJSON ver (.obj K) = .ok (.obj rk)) → Clean row fmt K →
      Accepted H ver row (mkEvent ver fmt red (encodeCanon (.obj K)) K id) :=
    fun {red K id} D hid hcf hr C => ⟨⟨R.hrow, rfl, R.hfmt, D.room, hcf, hid.2⟩,
      ⟨D.err, D.unm, if hv : fmt = .v1 then hr hv else referenceID_redactable (hid.2 hv), C.numbers⟩, rfl, rfl, C⟩
  have Ck := R.clean hj
  rw [hj] at hfin
  have ho : (resetID fmt (mkEvent ver fmt false (encodeCanon (.obj kvs)) kvs (decodeFields fmt kvs).f.eventIDRaw)).obj = kvs :=
    resetID_obj _ _
  unfold finishUntrusted at hfin
  obtain ⟨_, hfin⟩ := Guard.ok_iff.mp hfin
  split at hfin
  · rename_i hh
    rw [ho] at hh
    split at hfin
    · cases hfin
    · rename_i hra
      obtain ⟨id, hid, rfl, hcf⟩ := idAndChecks_reset_iff.mp hfin
      exact ⟨acc D hid hcf (fun hv => by subst hv; exact ho ▸ redactable_of_v1 hra) Ck, rfl, Or.inl ⟨hh, rfl, rfl, rfl⟩⟩
  · rename_i hh
    have hno : contentHashOk H kvs = false := by simpa [ho] using hh
    unfold onMismatch at hfin
    split at hfin
    · split at hfin <;> cases hfin
    · cases hfin
    · rename_i r0 hr
      rw [ho] at hr
      obtain ⟨_, rk, _, _, rfl⟩ := redactJSON_obj hr
      simp only at hfin
      split at hfin
      · -- the canonical redaction differs from the text: the event is decoded again, from the redacted JSON, by the trusted constructor
        split at hfin
        · cases hfin
        · rename_i e' ht
          split at hfin
          · cases hfin
          · rename_i hcf
            cases hfin
            obtain ⟨fmt', R', id, hf, hR, D', hid, rfl⟩ := trustedCore_ok_iff.mp ht
            obtain rfl : fmt' = fmt := Option.some.inj (by rw [← hf, ← (row_facts R.hrow).1, R.hfmt])
            have hredR : fmt' = .v1 → ∃ rk, redactJSON ver (.obj R') = .ok (.obj rk) := fun hv => by
              subst hv; exact ⟨R', hR ▸ C05.redact_idem hr⟩
            rw [hR] at hcf ⊢
            exact ⟨acc D' hid hcf hredR ((Ck.redacted R.hrow hr).sub (dropEventID_sub hR)), rfl,
              Or.inr ⟨hno, rfl, _, hr, congrArg encodeCanon hR.symm, Or.inr hR⟩⟩
      · -- it is the text: the decoded event is kept, flagged as redacted
        rename_i heq
        rw [resetID_redacted] at hfin
        obtain ⟨id, hid, rfl, hcf⟩ := idAndChecks_reset_iff.mp hfin
        exact ⟨acc D hid hcf (fun _ => ⟨rk, hr⟩) Ck, rfl, Or.inr ⟨hno, rfl, _, hr,
          (show encodeCanon (dropEventID fmt (.obj rk)) = encodeCanon (.obj kvs) by simpa using heq).symm, Or.inl rfl⟩⟩

theorem accepted {H : Bytes → Bytes} {ver text : Bytes} {e : PDU} (h : parseUntrusted H ver text = .ok e) :
    ∃ row, Accepted H ver row e := by
  obtain ⟨row, _, _, _, R, _⟩ := parseUntrusted_ok h
  obtain ⟨_, hj, _, _⟩ := construct_ok_iff.mp R.hcons
  exact ⟨row, (accepted_cases h R.hrow R.hfmt R.hparse hj).1⟩

theorem accepted_keys_nodup {H : Bytes → Bytes} {ver text : Bytes} {e : PDU} (h : parseUntrusted H ver text = .ok e) :
    (keysOf e.obj).Nodup :=
  (accepted h).elim fun _ A => A.clean.nodup

/-- **The object an accepted event holds has no case variant of a struct field name either**: it is the stripped input,
    or the redaction of it (whose keys are names of the keep struct). -/
theorem accepted_no_variant {H : Bytes → Bytes} {ver text : Bytes} {e : PDU} (h : parseUntrusted H ver text = .ok e) :
    hasFieldVariant (.obj e.obj) = false :=
  (accepted h).elim fun _ A => A.clean.novar

/-- An event received through `NewEventFromUntrustedJSON` in a format with a computed ID holds no
    `event_id` member: the key is deleted on receipt, and a redacted event is (re-parsed from) a redaction,
    which has none. -/
theorem accepted_no_event_id {H : Bytes → Bytes} {ver text : Bytes} {e : PDU} (h : parseUntrusted H ver text = .ok e)
    (hv : e.fmt ≠ .v1) : lookupExact e.obj b!"event_id" = none :=
  (accepted h).elim fun _ A => A.clean.noid hv

/-- **Accessors only see the JSON.**  An event returned by `NewEventFromUntrustedJSON` holds as
    `JSON()` the canonical encoding of a value `e.obj`; every accessor other than the event ID
    reports what the struct decoding reads from that value; in the later formats the event ID is the
    reference hash of that value.  (So a key that is not in the JSON is not observable.) -/
theorem accessors_only_see_json {H : Bytes → Bytes} {ver text : Bytes} {e : PDU} (h : parseUntrusted H ver text = .ok e) :
    e.json = encodeCanon (.obj e.obj) ∧ FieldsFromJSON e ∧ e.ver = ver ∧
    (e.fmt ≠ .v1 → ∃ row, rowOf ver = some row ∧ referenceID H row ver (.obj e.obj) = .ok e.f.eventIDRaw) := by
  obtain ⟨_, hA⟩ := accepted h
  exact ⟨hA.hjson, ⟨_, hA.hfields⟩, hA.hver, fun hne => ⟨_, hA.hrow, hA.hid hne⟩⟩

/-- **Hash matches ⇒ intact.**  If `hashes.sha256` is the hash of the hashed fields, the event is
    returned not redacted and holds exactly the stripped input (every member intact; `JSON()` is
    its canonical form). -/
theorem hash_match_intact {H : Bytes → Bytes} {ver text : Bytes} {e : PDU} (h : parseUntrusted H ver text = .ok e)
    {row : VGen.VersionRow} {fmt : Fmt} {p : PVal} {kvs : EventParse.Obj}
    (hrow : rowOf ver = some row) (hfmt : fmtOfName row.newEventFromUntrustedJSONFunc = some fmt)
    (hp : parse text = some p) (hs : stripped fmt p.toJVal = .obj kvs) (hh : contentHashOk H kvs = true) :
    e.redacted = false ∧ e.obj = kvs ∧ e.json = encodeCanon (.obj kvs) := by
  obtain ⟨hA, _, hcase⟩ := accepted_cases h hrow hfmt hp hs
  rcases hcase with ⟨_, hr, ho, _⟩ | ⟨hf, _⟩
  · exact ⟨hr, ho, by rw [hA.hjson, ho]⟩
  · rw [hh] at hf; cases hf

/-- **Hash mismatch ⇒ redacted form only.**  If the hash does not match, the event is flagged
    redacted and its `JSON()` is the canonical encoding of the room version's redaction of the
    stripped input (`dropEventID fmt r0 = r0`: `dropEventID_noop` below): by `C05.redact_exact` /
    `C05.redact_drops_unlisted` no top-level key and no content key outside the keep-lists is in it, and by `accessors_only_see_json` no
    accessor reports anything that is not in that JSON. -/
theorem hash_mismatch_redacted {H : Bytes → Bytes} {ver text : Bytes} {e : PDU} (h : parseUntrusted H ver text = .ok e)
    {row : VGen.VersionRow} {fmt : Fmt} {p : PVal} {kvs : EventParse.Obj}
    (hrow : rowOf ver = some row) (hfmt : fmtOfName row.newEventFromUntrustedJSONFunc = some fmt)
    (hp : parse text = some p) (hs : stripped fmt p.toJVal = .obj kvs) (hh : contentHashOk H kvs = false) :
    e.redacted = true ∧ ∃ r0, redactJSON ver (.obj kvs) = .ok r0 ∧ e.json = encodeCanon (dropEventID fmt r0) ∧
      encodeCanon (.obj e.obj) = encodeCanon (dropEventID fmt r0) := by
  obtain ⟨hA, _, hcase⟩ := accepted_cases h hrow hfmt hp hs
  rcases hcase with ⟨hf, _⟩ | ⟨_, hr, r0, hred, hj, _⟩
  · rw [hh] at hf; cases hf
  · exact ⟨hr, r0, hred, hj, by rw [← hA.hjson, hj]⟩

theorem received_of_parse {H : Bytes → Bytes} {ver text : Bytes} {e : PDU} (h : parseUntrusted H ver text = .ok e)
    {p : PVal} (hp : parse text = some p) : ∃ row fmt e0, Received ver text row fmt p e0 := by
  obtain ⟨row, fmt, p', e0, R, _⟩ := parseUntrusted_ok h
  obtain rfl : p' = p := Option.some.inj (R.hparse.symm.trans hp)
  exact ⟨row, fmt, e0, R⟩

/-- For the formats with a computed ID, the redaction of the stripped form of an accepted event has no
    `event_id` member: the exact key was deleted on receipt and redaction matches keys exactly — a case
    variant such as `Event_id` is not re-emitted (it was, before the repair of `redactEventJSON`). -/
theorem redaction_no_event_id {H : Bytes → Bytes} {ver text : Bytes} {e : PDU} (h : parseUntrusted H ver text = .ok e)
    {fmt : Fmt} (hv : fmt ≠ .v1) {p : PVal} {kvs : EventParse.Obj}
    (hp : parse text = some p) (hs : stripped fmt p.toJVal = .obj kvs)
    {rk : EventParse.Obj} (hr : redactJSON ver (.obj kvs) = .ok (.obj rk)) : lookupExact rk b!"event_id" = none := by
  obtain ⟨_, _, _, R⟩ := received_of_parse h hp
  exact C05.redact_drops_unlisted hr (by decide) (by decide) (stripped_no_event_id hv R.noDup hs)

/-- The later formats delete `event_id` from the redacted JSON (`dropEventID`; eventV2.go keeps that statement):
    on the redaction of a received event it removes nothing, so in `hash_mismatch_redacted` the returned JSON is
    the canonical encoding of the redaction itself. -/
theorem dropEventID_noop {H : Bytes → Bytes} {ver text : Bytes} {e : PDU} (h : parseUntrusted H ver text = .ok e)
    {fmt : Fmt} {p : PVal} {kvs : EventParse.Obj} (hp : parse text = some p) (hs : stripped fmt p.toJVal = .obj kvs)
    {r0 : JVal} (hred : redactJSON ver (.obj kvs) = .ok r0) : dropEventID fmt r0 = r0 := by
  unfold dropEventID
  split
  · rfl
  · rename_i hv
    have hv' : fmt ≠ .v1 := by simpa using hv
    obtain ⟨_, rk, _, _, hr0⟩ := redactJSON_obj hred
    subst hr0
    simp only [deleteFirst_absent _ _ (redaction_no_event_id h hv' hp hs hred)]

theorem accepted_obj {H : Bytes → Bytes} {ver text : Bytes} {e : PDU} (h : parseUntrusted H ver text = .ok e)
    {row : VGen.VersionRow} {fmt : Fmt} {p : PVal} {kvs : EventParse.Obj}
    (hrow : rowOf ver = some row) (hfmt : fmtOfName row.newEventFromUntrustedJSONFunc = some fmt)
    (hp : parse text = some p) (hs : stripped fmt p.toJVal = .obj kvs) :
    e.obj = kvs ∨ redactJSON ver (.obj kvs) = .ok (.obj e.obj) := by
  obtain ⟨_, _, hcase⟩ := accepted_cases h hrow hfmt hp hs
  rcases hcase with ⟨_, _, ho, _⟩ | ⟨_, _, r0, hred, _, ho | hdrop⟩
  · exact Or.inl ho
  · exact Or.inl ho
  · rw [dropEventID_noop h hp hs hred] at hdrop
    exact Or.inr (hdrop ▸ hred)

/-- **An accepted event redacts to what the stripped input redacts to**, in every format, whether it passed the hash
    check or was redacted on receipt (redaction is idempotent). -/
theorem redaction_of_accepted {H : Bytes → Bytes} {ver text : Bytes} {e : PDU} (h : parseUntrusted H ver text = .ok e)
    {row : VGen.VersionRow} {fmt : Fmt} {p : PVal} {kvs : EventParse.Obj}
    (hrow : rowOf ver = some row) (hfmt : fmtOfName row.newEventFromUntrustedJSONFunc = some fmt)
    (hp : parse text = some p) (hs : stripped fmt p.toJVal = .obj kvs)
    {rk : EventParse.Obj} (hr : redactJSON ver (.obj kvs) = .ok (.obj rk)) : redactJSON ver (.obj e.obj) = .ok (.obj rk) := by
  rcases accepted_obj h hrow hfmt hp hs with ho | hr'
  · rw [ho]
    exact hr
  · obtain rfl : rk = e.obj := JVal.obj.inj (Except.ok.inj (hr.symm.trans hr'))
    exact C05.redact_idem hr

/-- What the identity of an accepted event (formats with a computed ID) is computed from: the
    redaction of the stripped input.  No side condition: whether the event passed the hash check or
    was redacted, and whatever case variants of `event_id` it carries, its redaction is that of the
    stripped input and its ID is the reference hash of that redaction. -/
theorem identity_of_accepted {H : Bytes → Bytes} {ver text : Bytes} {e : PDU} (h : parseUntrusted H ver text = .ok e)
    {row : VGen.VersionRow} {fmt : Fmt} {p : PVal} {kvs : EventParse.Obj}
    (hrow : rowOf ver = some row) (hfmt : fmtOfName row.newEventFromUntrustedJSONFunc = some fmt) (hv : fmt ≠ .v1)
    (hp : parse text = some p) (hs : stripped fmt p.toJVal = .obj kvs)
    {rk : EventParse.Obj} (hr : redactJSON ver (.obj kvs) = .ok (.obj rk)) :
    redactJSON ver (.obj e.obj) = .ok (.obj rk) ∧
    referenceID H row ver (.obj e.obj) = .ok e.f.eventIDRaw := by
  obtain ⟨hA, hef, _⟩ := accepted_cases h hrow hfmt hp hs
  exact ⟨redaction_of_accepted h hrow hfmt hp hs hr, hA.hid (hef ▸ hv)⟩

/-- **Tampering with redactable material keeps the identity.**  Two received events (same room
    version, event-ID format 2 or 3) whose stripped forms have the same redaction get the same event
    ID, and every signature check gives the same verdict on both — whichever of them passed the
    content-hash check, and whatever else they carry (extra top-level keys, case variants of protected
    keys such as `Event_id`, other content).

    There is no side condition because `redactEventJSON` matches keys to the keep struct exactly: while it matched them
    case-insensitively, a sender-made `{"Event_id":"$x", valid hash}` and its content-tampered copy had the same
    redaction and different IDs (such a text is refused on receipt as well, `refuses_field_variant`; VProps/C04Vectors.lean
    evaluates it). -/
theorem tamper_redactable_same_identity {H : Bytes → Bytes} {ver t1 t2 : Bytes} {e1 e2 : PDU}
    (h1 : parseUntrusted H ver t1 = .ok e1) (h2 : parseUntrusted H ver t2 = .ok e2)
    {row : VGen.VersionRow} {fmt : Fmt} {p1 p2 : PVal} {k1 k2 : EventParse.Obj}
    (hrow : rowOf ver = some row) (hfmt : fmtOfName row.newEventFromUntrustedJSONFunc = some fmt) (hv : fmt ≠ .v1)
    (hp1 : parse t1 = some p1) (hp2 : parse t2 = some p2)
    (hs1 : stripped fmt p1.toJVal = .obj k1) (hs2 : stripped fmt p2.toJVal = .obj k2)
    {rk : EventParse.Obj} (hr1 : redactJSON ver (.obj k1) = .ok (.obj rk)) (hr2 : redactJSON ver (.obj k2) = .ok (.obj rk)) :
    e1.f.eventIDRaw = e2.f.eventIDRaw ∧
    ∀ verify name kid pk, C05.sigValid verify ver (.obj e1.obj) name kid pk = C05.sigValid verify ver (.obj e2.obj) name kid pk := by
  obtain ⟨ha1, hi1⟩ := identity_of_accepted h1 hrow hfmt hv hp1 hs1 hr1
  obtain ⟨ha2, hi2⟩ := identity_of_accepted h2 hrow hfmt hv hp2 hs2 hr2
  constructor
  · simp only [referenceID, ha1] at hi1
    simp only [referenceID, ha2] at hi2
    rw [hi1] at hi2
    injection hi2
  · intro verify name kid pk
    simp only [C05.sigValid, signingPayload, referenceBytes, signaturesOf, ha1, ha2]

/-- The instance in which both events passed the hash check. -/
theorem same_redaction_same_identity_intact {H : Bytes → Bytes} {ver t1 t2 : Bytes} {e1 e2 : PDU}
    (h1 : parseUntrusted H ver t1 = .ok e1) (h2 : parseUntrusted H ver t2 = .ok e2)
    {row : VGen.VersionRow} {fmt : Fmt} {p1 p2 : PVal} {k1 k2 : EventParse.Obj}
    (hrow : rowOf ver = some row) (hfmt : fmtOfName row.newEventFromUntrustedJSONFunc = some fmt) (hv : fmt ≠ .v1)
    (hp1 : parse t1 = some p1) (hp2 : parse t2 = some p2)
    (hs1 : stripped fmt p1.toJVal = .obj k1) (hs2 : stripped fmt p2.toJVal = .obj k2)
    {rk : EventParse.Obj} (hr1 : redactJSON ver (.obj k1) = .ok (.obj rk)) (hr2 : redactJSON ver (.obj k2) = .ok (.obj rk))
    (_hi1 : e1.redacted = false) (_hi2 : e2.redacted = false) :
    e1.f.eventIDRaw = e2.f.eventIDRaw ∧
    ∀ verify name kid pk, C05.sigValid verify ver (.obj e1.obj) name kid pk = C05.sigValid verify ver (.obj e2.obj) name kid pk :=
  tamper_redactable_same_identity h1 h2 hrow hfmt hv hp1 hp2 hs1 hs2 hr1 hr2

/-! ## Refusal on receipt: texts that do not denote one event, members that are not the field they look like

C04 "returned … with every field intact", C03 "identity is a function of the redacted content", C06, C17, C18: the
library's JSON readers disagree on a text that repeats a member name (gjson / sjson: first occurrence; encoding/json:
last), and the struct decoding reads a case variant of a field name as the field.  Since /repo 7c511f2 and 849cf70 the
untrusted constructors refuse both (`checkUntrustedEventJSON`). -/

/-- **A text that repeats a member name in some object — at any depth — is refused**, in every room version, whatever
    its content hash. -/
theorem refuses_repeated_member (H : Bytes → Bytes) {ver text : Bytes} {p : PVal} (hp : parse text = some p)
    (hd : p.toJVal.noDupKeys = false) : ∀ e, parseUntrusted H ver text ≠ .ok e := by
  intro e h
  obtain ⟨_, _, _, R⟩ := received_of_parse h hp
  cases hd.symm.trans R.noDup

/-- **A text with a top-level member whose name is a case variant of an event-struct field name** (`Type`, `Room_id`,
    `SENDER`, `ſtate_key`, … — equal under Unicode simple case folding, not equal) **is refused.** -/
theorem refuses_field_variant (H : Bytes → Bytes) {ver text : Bytes} {p : PVal} (hp : parse text = some p)
    (hv : hasFieldVariant p.toJVal = true) : ∀ e, parseUntrusted H ver text ≠ .ok e := by
  intro e h
  obtain ⟨_, _, _, R⟩ := received_of_parse h hp
  cases hv.symm.trans R.noVariant

/-- on an object that is well-formed for a keep struct, the members the struct decoding reads into a field of that
    struct are exactly the member with the field's name -/
theorem members_wf {fs : List Field} {kvs : EventParse.Obj} (W : WfTop fs kvs) {f : Field} (hf : f ∈ fs) :
    members kvs f.name = (lookupExact kvs f.name).toList := by
  rw [C05.members_eq_sel, sel_wf W hf]
  cases lookupExact kvs f.name <;> rfl

theorem members_exact {n : Bytes} {kvs : EventParse.Obj} (hnd : (keysOf kvs).Nodup)
    (hnv : ∀ kv ∈ kvs, kv.1 ≠ n → foldBytes kv.1 ≠ foldBytes n) : members kvs n = (lookupExact kvs n).toList :=
  -- the object is well-formed for a keep struct with the one field `n`
  members_wf (fs := [⟨n, false, .raw⟩]) (f := ⟨n, false, .raw⟩)
    { nodup := hnd
      novar := fun kv hkv f hf hfold => by
        rw [List.mem_singleton.mp hf] at hfold ⊢
        exact Decidable.byContradiction fun hne => hnv kv hkv hne hfold }
    (List.mem_singleton_self _)

/-- **Every accessor reports the exact member of `JSON()`.**  For an event `NewEventFromUntrustedJSON` returned and
    every field name `n` of the event structs, the members of `e.obj` (the value `JSON()` denotes) that the struct
    decoding reads into the field are: the member named exactly `n`, if there is one, and nothing else.  With
    `accessors_only_see_json` (every field is decoded from `e.obj`): `Type()`, `SenderID()`, `RoomID()`, `StateKey()`,
    `Content()`, `Depth()`, … are functions of the members `type`, `sender`, `room_id`, … of the event's JSON — the JSON
    that is hashed, signed, redacted and stored — and of nothing else; the length limits of `CheckFields` are checked on
    those members. -/
theorem accessors_read_exact_members {H : Bytes → Bytes} {ver text : Bytes} {e : PDU} (h : parseUntrusted H ver text = .ok e) :
    ∀ n ∈ structFieldNames, members e.obj n = (lookupExact e.obj n).toList := by
  intro n hn
  have hnv := accepted_no_variant h
  simp only [hasFieldVariant, List.any_eq_false] at hnv
  exact members_exact (accepted_keys_nodup h) fun kv hkv hne hfold =>
    hnv kv hkv (List.any_eq_true.mpr ⟨n, hn, by simp [hne, hfold]⟩)

/-! ## Concrete received events (room version 10, toy hashes); they are evaluated in VProps/C04Vectors.lean -/

def exText (h : String) : Bytes :=
  ("{\"auth_events\":[],\"content\":{\"body\":\"x\"},\"depth\":1,\"hashes\":{\"sha256\":\"" ++ h ++
   "\"},\"origin_server_ts\":1,\"prev_events\":[],\"room_id\":\"!r:h\",\"sender\":\"@a:h\",\"type\":\"m.x\",\"unsigned\":{\"age\":1}}"
  ).toList.flatMap (fun c => utf8Encode c.toNat)

theorem sb_append (s t : String) : sb (s ++ t) = sb s ++ sb t := by
  simp only [sb, String.toList_append, List.flatMap_append]

/-- A string literal unfolds to `String.ofList` of its characters, so through this lemma the kernel gets the bytes of
    a literal without decoding the string. -/
theorem sb_ofList (l : List Char) : sb (String.ofList l) = l.flatMap (fun c => utf8Encode c.toNat) := by
  unfold sb
  rw [String.toList_ofList]

theorem append_congr {a a' b b' : Bytes} (h1 : a = a') (h2 : b = b') : a ++ b = a' ++ b' := h1 ▸ h2 ▸ rfl

/-- The text as bytes.  The examples of VProps/C04Vectors.lean evaluate the constructors on this form: for the kernel, decoding the
    `String` of a text into its characters costs many times the parse, the redaction and the hashes together, and
    grows faster than the length.  (Piece by piece: the literal pieces by evaluation, the variable one stays.) -/
theorem exText_eq (h : String) : exText h =
    b!"{\"auth_events\":[],\"content\":{\"body\":\"x\"},\"depth\":1,\"hashes\":{\"sha256\":\"" ++ sb h ++
    b!"\"},\"origin_server_ts\":1,\"prev_events\":[],\"room_id\":\"!r:h\",\"sender\":\"@a:h\",\"type\":\"m.x\",\"unsigned\":{\"age\":1}}" := by
  show sb _ = _
  simp only [sb_append]
  exact append_congr (append_congr ((sb_ofList _).trans (by decide +kernel)) rfl) ((sb_ofList _).trans (by decide +kernel))

def H0 : Bytes → Bytes := fun _ => []

def H1 : Bytes → Bytes := fun b => [UInt8.ofNat b.length]

/-- an event with an optional extra member, a content body and a declared hash -/
def exEv (extra : String) (body h : String) : Bytes :=
  ("{" ++ extra ++ "\"auth_events\":[],\"content\":{\"body\":\"" ++ body ++
   "\"},\"depth\":1,\"hashes\":{\"sha256\":\"" ++ h ++
   "\"},\"origin_server_ts\":1,\"prev_events\":[],\"room_id\":\"!r:h\",\"sender\":\"@a:h\",\"type\":\"m.x\"}"
  ).toList.flatMap (fun c => utf8Encode c.toNat)

theorem exEv_eq (extra body h : String) : exEv extra body h =
    b!"{" ++ sb extra ++ b!"\"auth_events\":[],\"content\":{\"body\":\"" ++ sb body ++
    b!"\"},\"depth\":1,\"hashes\":{\"sha256\":\"" ++ sb h ++
    b!"\"},\"origin_server_ts\":1,\"prev_events\":[],\"room_id\":\"!r:h\",\"sender\":\"@a:h\",\"type\":\"m.x\"}" := by
  show sb _ = _
  simp only [sb_append]
  exact append_congr (append_congr (append_congr (append_congr (append_congr (append_congr
    ((sb_ofList _).trans (by decide +kernel)) rfl) ((sb_ofList _).trans (by decide +kernel))) rfl)
    ((sb_ofList _).trans (by decide +kernel))) rfl) ((sb_ofList _).trans (by decide +kernel))

/-- canonical bytes of the redaction of the stripped form of a text (room version 10) -/
def exRedaction (t : Bytes) : Option Bytes :=
  match parse t with
  | some p =>
    match redactJSON b!"10" (stripped .v2 p.toJVal) with
    | .ok (.obj rk) => some (encodeCanon (.obj rk))
    | _ => none
  | none => none

def refused (r : Except Err PDU) : Bool :=
  match r with
  | .error .badJSON => true
  | _ => false

end V.C04
