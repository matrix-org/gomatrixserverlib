/-
  C03 — Events round-trip and their identity is a function of the redacted content.

  Model: VModel/EventParse.lean (`parseUntrusted`, `parseTrusted`, `parseHeadered`, `redact`,
  `setUnsigned`, `signWith`, `eventID`, `roomID`, `authEventIDs`, `referenceID`), SHA-256 a parameter `H`;
  `EventBuilder.Build`: VModel/EventBuild.lean.  Where a theorem asks for `row.eventFormat = 2` or `e.fmt ≠ .v1` it is
  about room versions 3 and later (event ID formats 2 and 3: the ID is the reference hash).
-/
import VProofs.RedactCongr
import VProofs.EventParse
import VProofs.B64
import VProps.C04
import VModel.EventBuild
import VProofs.EventBuildRoundtrip
import VProofs.EventIdInj
namespace V.C03
open V V.Json V.GoJson V.Redact V.EventParse V.RedactProofs V.EventProofs V.BuildProofs

/-- no keep struct lists `unsigned` (or another key stripped on receipt); `signatures` is an omitempty raw field -/
def tableOk (a : Algo) : Bool :=
  unlisted a b!"unsigned" && unlisted a b!"age_ts" && unlisted a b!"outlier" && unlisted a b!"destinations" &&
  a.fields.any (fun f => f.name == b!"signatures" && f.kind == .raw && f.omitempty) &&
  a.fields.all (fun f => !(f.kind == .raw) || f.omitempty)

theorem tables_ok : ∀ row ∈ VGen.roomVersions,
    (match algoByName row.redactionAlgorithm with
     | some a => tableOk a
     | none => false) = true := by
  intro row h
  obtain ⟨a, ha, hk, _⟩ := C05.rowAll_parts h
  rw [ha]
  exact (C05.keepOk_parts hk).2.2.1

theorem algoOf_tableOk {ver : Bytes} {a : Algo} (h : algoOf ver = some a) : tableOk a = true :=
  (C05.keepOk_parts (C05.algoOf_keepOk h)).2.2.1

/-! ## `unsigned` -/

theorem redactJSON_obj_eq {ver : Bytes} {kvs kvs' : EventParse.Obj}
    (h : ∀ a, algoOf ver = some a → redactWith a (.obj kvs') = redactWith a (.obj kvs)) :
    redactJSON ver (.obj kvs') = redactJSON ver (.obj kvs) := by
  unfold redactJSON
  cases ha : algoOf ver with
  | none => rfl
  | some a => exact h a ha

/-- the four keys a receiver strips are listed by no keep struct: the redaction does not see them -/
theorem redactJSON_strip4 (ver : Bytes) (kvs : EventParse.Obj) :
    redactJSON ver (.obj (deleteKeys strip4 kvs)) = redactJSON ver (.obj kvs) := by
  apply redactJSON_obj_eq
  intro a ha
  have hT := algoOf_tableOk ha
  simp only [tableOk, Bool.and_eq_true] at hT
  obtain ⟨⟨⟨⟨⟨hu1, hu2⟩, hu3⟩, hu4⟩, _⟩, _⟩ := hT
  simp only [strip4, deleteKeys, List.foldl_cons, List.foldl_nil]
  rw [redactWith_deleteFirst a _ _ hu1, redactWith_deleteFirst a _ _ hu2, redactWith_deleteFirst a _ _ hu4,
    redactWith_deleteFirst a _ _ hu3]

/-- The redaction — hence the reference hash, the event ID and the signing payload — of an event
    does not depend on its `unsigned` member: setting, replacing or removing it changes nothing. -/
theorem referenceID_ignores_unsigned (H : Bytes → Bytes) (row : VGen.VersionRow) (ver : Bytes) (kvs : EventParse.Obj) (u : JVal) :
    redactJSON ver (.obj (setFirst b!"unsigned" u kvs)) = redactJSON ver (.obj kvs) ∧
    redactJSON ver (.obj (deleteFirst b!"unsigned" kvs)) = redactJSON ver (.obj kvs) ∧
    referenceID H row ver (.obj (setFirst b!"unsigned" u kvs)) = referenceID H row ver (.obj kvs) ∧
    referenceID H row ver (.obj (deleteFirst b!"unsigned" kvs)) = referenceID H row ver (.obj kvs) ∧
    signingPayload ver (.obj (setFirst b!"unsigned" u kvs)) = signingPayload ver (.obj kvs) := by
  have hu : ∀ a, algoOf ver = some a → unlisted a b!"unsigned" = true := by
    intro a ha
    have := algoOf_tableOk ha
    simp only [tableOk, Bool.and_eq_true] at this
    exact this.1.1.1.1.1
  have h1 : redactJSON ver (.obj (setFirst b!"unsigned" u kvs)) = redactJSON ver (.obj kvs) :=
    redactJSON_obj_eq (fun a ha => redactWith_setFirst a _ u kvs (hu a ha))
  have h2 : redactJSON ver (.obj (deleteFirst b!"unsigned" kvs)) = redactJSON ver (.obj kvs) :=
    redactJSON_obj_eq (fun a ha => redactWith_deleteFirst a _ kvs (hu a ha))
  refine ⟨h1, h2, ?_, ?_, ?_⟩
  · simp only [referenceID, h1]
  · simp only [referenceID, h2]
  · simp only [signingPayload, referenceBytes, h1]

theorem setUnsigned_ok {e e' : PDU} {u : JVal} (h : setUnsigned e u = .ok e') :
    ∃ row, rowOf e.ver = some row ∧
      e' = { e with json := encodeCanon (.obj (setFirst b!"unsigned" u (dedupLast e.obj))),
                    obj := setFirst b!"unsigned" u (dedupLast e.obj), f := { e.f with unsigned := some u } } := by
  unfold setUnsigned at h
  split at h
  · cases h
  · rename_i row hrow
    dsimp only at h
    split at h
    · cases h
    · cases h
    · cases h; exact ⟨row, hrow, rfl⟩

/-- **`SetUnsigned` keeps the event ID** (events without duplicate top-level keys; the stored ID is
    copied, and where it is computed it is computed from a redaction that ignores `unsigned`). -/
theorem eventID_ignores_unsigned (H : Bytes → Bytes) {e e' : PDU} {u : JVal} (h : setUnsigned e u = .ok e')
    (hn : (keysOf e.obj).Nodup) : eventID H e' = eventID H e := by
  obtain ⟨row, hrow, rfl⟩ := setUnsigned_ok h
  unfold eventID
  simp only [hrow]
  rw [dedupLast_nodup e.obj hn, (referenceID_ignores_unsigned H row e.ver e.obj u).2.2.1]

/-! ## `signatures` -/

theorem signatures_field {a : Algo} (hS : tableOk a = true) :
    ∃ g ∈ a.fields, g.name = b!"signatures" ∧ g.kind = .raw ∧ g.omitempty = true := by
  simp only [tableOk, Bool.and_eq_true] at hS
  obtain ⟨g, hg, hgp⟩ := List.any_eq_true.mp hS.1.2
  simp only [Bool.and_eq_true, beq_iff_eq] at hgp
  exact ⟨g, hg, hgp.1.1, hgp.1.2, hgp.2⟩

/-- Two events that hold the same under every name but `signatures` have redactions that differ at most in their
    `signatures` member (and one can be redacted iff the other can). -/
theorem redactWith_sigs {a : Algo} (hT : tablesOk a = true) (hS : tableOk a = true) {kvs kvs' : EventParse.Obj} {v : JVal}
    (hl : ∀ n, n ≠ b!"signatures" → lookupExact kvs' n = lookupExact kvs n) (h : redactWith a (.obj kvs) = .ok v) :
    ∃ r r', v = .obj r ∧ redactWith a (.obj kvs') = .ok (.obj r') ∧ stripSigs r' = stripSigs r := by
  obtain ⟨g, hg, hgn, hgk, hgo⟩ := signatures_field hS
  obtain ⟨r, r', hv, hr', hf⟩ := redactWith_agree hT hg hgk hgo (hgn ▸ hl) h
  exact ⟨r, r', hv, hr', hf (fun k => !(k == b!"signatures" || k == b!"unsigned")) (by rw [hgn]; rfl)⟩

theorem redactWith_signatures {a : Algo} (hT : tablesOk a = true) (hS : tableOk a = true) (s : JVal) {kvs : EventParse.Obj} {v : JVal}
    (h : redactWith a (.obj kvs) = .ok v) :
    ∃ r r', v = .obj r ∧ redactWith a (.obj (setFirst b!"signatures" s kvs)) = .ok (.obj r') ∧ stripSigs r' = stripSigs r :=
  redactWith_sigs hT hS (fun _ hn => lookupExact_setFirst_other s kvs hn.symm) h

/-- The reference hash input (= the signing payload) and the event ID do not depend on the
    `signatures` member. -/
theorem referenceID_ignores_signatures (H : Bytes → Bytes) (row : VGen.VersionRow) (ver : Bytes) (kvs : EventParse.Obj) (s : JVal)
    (hfmt : row.eventFormat = 2) {id : Bytes} (h : referenceID H row ver (.obj kvs) = .ok id) :
    referenceID H row ver (.obj (setFirst b!"signatures" s kvs)) = .ok id ∧
    referenceBytes ver (.obj (setFirst b!"signatures" s kvs)) = referenceBytes ver (.obj kvs) := by
  obtain ⟨r, hr⟩ := referenceID_redactable h
  obtain ⟨a, ha, hro'⟩ := redactJSON_algo hr
  obtain ⟨_, r', hvr, hr', hstrip⟩ := redactWith_signatures (C05.algoOf_ok ha).1 (algoOf_tableOk ha) s hro'
  have hr2 : redactJSON ver (.obj (setFirst b!"signatures" s kvs)) = .ok (.obj r') := redactJSON_of_algo ha _ ▸ hr'
  cases hvr
  -- the ID and the reference bytes are read off the redaction without `signatures`
  exact ⟨by rw [referenceID_hashed H row ver hfmt hr2, hstrip, ← referenceID_hashed H row ver hfmt hr]; exact h,
    by simp only [referenceBytes, hr, hr2, hstrip]⟩

theorem signWith_ok {e e' : PDU} {name kid sig : Bytes} (h : signWith e name kid sig = .ok e') :
    ∃ row ns, rowOf e.ver = some row ∧
      e' = { e with json := encodeCanon (.obj (setFirst b!"signatures" ns (dedupLast e.obj))),
                    obj := setFirst b!"signatures" ns (dedupLast e.obj) } := by
  unfold signWith at h
  split at h
  · cases h
  · rename_i row hrow
    split at h
    · split at h <;> cases h
    · cases h
    · split at h
      · cases h
      · rename_i ns _
        dsimp only at h
        split at h
        · cases h
        · cases h
        · cases h; exact ⟨row, ns, hrow, rfl⟩

/-- **`Sign` keeps the event ID** (events without duplicate top-level keys, event formats with
    hashed IDs). -/
theorem eventID_ignores_signatures (H : Bytes → Bytes) {e e' : PDU} {name kid sig : Bytes} (h : signWith e name kid sig = .ok e')
    (hn : (keysOf e.obj).Nodup) {row : VGen.VersionRow} (hrow : rowOf e.ver = some row) (hfmt : row.eventFormat = 2)
    {id : Bytes} (hid : eventID H e = .ok id) : eventID H e' = .ok id := by
  obtain ⟨_, ns, _, rfl⟩ := signWith_ok h
  rw [eventID_ok_iff] at hid ⊢
  split at hid
  · rename_i hc; rw [if_pos hc]; exact hid
  · rename_i hc
    rw [if_neg hc]
    obtain ⟨row2, hrow2, hr⟩ := hid
    cases hrow.symm.trans hrow2
    exact ⟨row, hrow, by rw [dedupLast_nodup e.obj hn]; exact (referenceID_ignores_signatures H row e.ver e.obj ns hfmt hr).1⟩

/-- **`Redact()` keeps the event ID** (event formats with hashed IDs), for every event whose JSON has no
    member with the key `event_id` (`hnoid` — a condition on the event itself, not on its redaction: redaction
    matches keys exactly, so neither a case variant such as `Event_id` nor anything else can put an `event_id`
    member into the redacted JSON).  It holds of every event received through `NewEventFromUntrustedJSON`
    (`eventID_redact_invariant_received`: the key is stripped on receipt) and of every `EventBuilder.Build`
    output of these formats (`Build` writes no `event_id`).

    What remains outside: TRUSTED JSON (`NewEventFromTrustedJSON`, `…WithEventID`, the headered form) that carries
    an `event_id` member in a hashed-ID format.  The constructors take the stored ID from it (or from the
    argument), `Redact()` re-reads the member from the redacted JSON: the two can differ (a case variant read by
    the struct decoding, an `…WithEventID` argument different from the member). -/
theorem eventID_redact_invariant (H : Bytes → Bytes) {e e' : PDU} (h : redact e = .ok e') (hv : e.fmt ≠ .v1)
    (hnoid : lookupExact e.obj b!"event_id" = none) :
    eventID H e' = eventID H e := by
  unfold redact at h
  split at h
  · cases h; rfl
  · split at h
    · cases h
    · rename_i row hrow
      cases hr : redactJSON e.ver (.obj e.obj) with
      | error x =>
        rw [hr] at h
        cases x with
        | other w => simp only at h; split at h <;> cases h
        | badJSON => cases h
        | panic s => cases h
      | ok r =>
        rw [hr] at h
        dsimp only at h
        obtain ⟨a', rk, ha', hro, hrk⟩ := C04.redactJSON_obj hr
        subst hrk
        have hm : members rk b!"event_id" = [] := by
          obtain ⟨_, a, ha, hev⟩ := C04.row_facts hrow
          cases ha'.symm.trans ha
          obtain ⟨g, hg, hgn⟩ := List.any_eq_true.mp hev
          rw [← beq_iff_eq.mp hgn, C04.members_wf (redactWith_wf (C05.algoOf_ok ha).1 hro) hg, beq_iff_eq.mp hgn,
            C05.redact_drops_unlisted hr (by decide) (by decide) hnoid]
          rfl
        have hv' : (e.fmt == Fmt.v1) = false := by simp [hv]
        have hraw : (decodeFields Fmt.v2 rk).f.eventIDRaw = [] := by
          simp only [decodeFields, hm, seqString, List.foldl_nil]
        have href := (C05.redact_preserves_reference hr H row).2
        cases henf : enforcedOkVal row (.obj rk) with
        | none => rw [henf] at h; cases h
        | some b =>
          rw [henf] at h
          cases b with
          | false => cases h
          | true =>
            dsimp only at h
            simp only [hv', Bool.false_eq_true, if_false] at h
            split at h
            · cases h
            · split at h
              · cases h
              · cases h
                unfold eventID
                simp only [hv', Bool.false_or, hraw, List.isEmpty_nil, if_true, hrow, href]

/-- `Redact()` keeps the ID of every event received through `NewEventFromUntrustedJSON` (formats with hashed
    IDs) — no proviso: the receiver stripped `event_id`, and redaction cannot bring one back. -/
theorem eventID_redact_invariant_received (H : Bytes → Bytes) {ver text : Bytes} {e e' : PDU}
    (hp : parseUntrusted H ver text = .ok e) (h : redact e = .ok e') (hv : e.fmt ≠ .v1) :
    eventID H e' = eventID H e :=
  eventID_redact_invariant H h hv (C04.accepted_no_event_id hp hv)

/-- **The event ID determines the redacted, signature- and unsigned-stripped event** (collision-free
    `H`): two events with the same ID (event formats with hashed IDs) have the same reference bytes,
    i.e. the same canonical encoding of their redacted forms without `signatures` / `unsigned`; for
    values with well-formed number literals those forms are then equal up to member order and the
    spelling of zero (`C01.encodeCanon_injective`).  Since `hashes` is part of the redacted form, events
    built from proto-events that differ in a hashed field differ in `hashes.sha256` (again by collision
    freeness of `H`: `hash_injective`) and hence in their ID.  That last step is formalised at the end of this
    file: `eventID_determines_hashes` (equal IDs ⇒ equal `hashes` members up to canonical form, equal
    `hashes.sha256`), `eventID_injective_hashed` (… and valid content hashes ⇒ equal hashed fields) and
    `build_eventID_injective` (the statement about `EventBuilder.Build`). -/
theorem eventID_injective (H : Bytes → Bytes) (hH : Function.Injective H) (row : VGen.VersionRow) (ver : Bytes)
    (hfmt : row.eventFormat = 2) {j1 j2 : JVal} {id : Bytes}
    (h1 : referenceID H row ver j1 = .ok id) (h2 : referenceID H row ver j2 = .ok id) :
    referenceBytes ver j1 = referenceBytes ver j2 := by
  obtain ⟨r1, hr1, _, rfl⟩ := referenceID_hashed_ok H row ver hfmt h1
  obtain ⟨r2, hr2, _, he⟩ := referenceID_hashed_ok H row ver hfmt h2
  have good : B64.GoodAlphabet (if row.eventIDFormat = 2 then B64.stdAlphabet else B64.urlAlphabet) := by
    split
    · exact B64.std_good
    · exact B64.url_good
  simp only [referenceBytes, hr1, hr2]
  rw [hH (B64.encodeWith_injective good (List.cons.inj he).2)]

/-- equal, valid content hashes ⇒ equal hashed fields (collision-free `H`) -/
theorem hash_injective (H : Bytes → Bytes) (hH : Function.Injective H) {k1 k2 : EventParse.Obj}
    (h1 : contentHashOk H k1 = true) (h2 : contentHashOk H k2 = true) (he : claimedHash k1 = claimedHash k2) :
    hashedBytes k1 = hashedBytes k2 := by
  unfold contentHashOk at h1 h2
  rw [he] at h1
  cases hd : B64.decode (claimedHash k2) with
  | none => rw [hd] at h2; cases h2
  | some d =>
    rw [hd] at h1 h2
    simp only [beq_iff_eq] at h1 h2
    rw [h1] at h2
    exact hH h2

/-- **The ID uses the prescribed alphabet**: `$` followed by characters of the standard base64
    alphabet (ID format 2) resp. the URL-safe alphabet (ID format 3); 43 of them for a 32-byte hash. -/
theorem eventID_alphabet (H : Bytes → Bytes) (row : VGen.VersionRow) (ver : Bytes) (hfmt : row.eventFormat = 2)
    {j : JVal} {id : Bytes} (h : referenceID H row ver j = .ok id) :
    ∃ s, id = 0x24 :: s ∧
      (row.eventIDFormat = 2 → ∀ c ∈ s, ∃ i : Fin 64, c = B64.encChar B64.stdAlphabet i.val) ∧
      (row.eventIDFormat = 3 → ∀ c ∈ s, ∃ i : Fin 64, c = B64.encChar B64.urlAlphabet i.val) ∧
      ((∀ x, (H x).length = 32) → s.length = 43) := by
  obtain ⟨r, _, _, rfl⟩ := referenceID_hashed_ok H row ver hfmt h
  refine ⟨_, rfl, fun h2 => ?_, fun h3 => ?_, fun hl => by rw [B64.encodeWith_length, hl]⟩
  · rw [if_pos h2]; exact B64.encodeWith_chars _ _
  · rw [if_neg (by omega)]; exact B64.encodeWith_chars _ _

/-- **v12: a create event's room ID is its event ID with the sigil swapped.** -/
theorem v12_create_roomID (H : Bytes → Bytes) {e : PDU} (hf : e.fmt = .v3) (hc : isCreate e = true)
    {rid id : Bytes} (hr : roomID H e = .ok rid) (hi : eventID H e = .ok id) : rid = 0x21 :: id.drop 1 := by
  unfold roomID at hr
  simp only [hf, hc, beq_self_eq_true, Bool.and_self, if_true, hi] at hr
  cases id with
  | nil => cases hr
  | cons c rest =>
    simp only [newRoomIDOrPanic] at hr
    split at hr
    · cases hr
    · cases hr; rfl
    · cases hr

/-- **v12: every other event reports the create event (the room ID with the sigil swapped) as its
    first auth event.** -/
theorem v12_auth_first {e : PDU} (hf : e.fmt = .v3) (hc : isCreate e = false)
    {l : Option (List Bytes)} (h : authEventIDs e = .ok l) :
    ∃ rest, l = some ((0x24 :: e.f.roomID.drop 1) :: rest) := by
  unfold authEventIDs at h
  simp only [hf, hc, Bool.false_eq_true, if_false] at h
  split at h
  · cases h
  · rename_i c rest hroom
    cases h
    exact ⟨_, by rw [hroom]; rfl⟩

/-- a v12 create event has no auth events -/
theorem v12_create_no_auth {e : PDU} (hf : e.fmt = .v3) (hc : isCreate e = true) : authEventIDs e = .ok (some []) := by
  unfold authEventIDs
  simp only [hf, hc, if_true]

/-! ### The events `Sign`, `SetUnsigned` and `SetUnsignedField` return are the same event

`Sign()` and `SetUnsigned()` return a copy, `SetUnsignedField()` edits in place; in every room version the result is an
event of the SAME struct (eventV3 overrides `Sign` and `SetUnsigned` since /repo 2aa10ca — before it the result for a
version-12 event was an `*eventV2`: `RoomID()` of a create event panicked, `AuthEventIDs()` of any other event lost the
create event; `event.derived` is the correspondence op) with the same decoded fields, so the two version-12 clauses
above — and every accessor C03 lists — carry over to it. -/

/-- the struct, version, redaction flag and every decoded field but `unsigned` -/
def SameDerived (e' e : PDU) : Prop :=
  e'.fmt = e.fmt ∧ e'.ver = e.ver ∧ e'.redacted = e.redacted ∧ ∃ u, e'.f = { e.f with unsigned := u }

theorem signWith_same {e e' : PDU} {name kid sig : Bytes} (h : signWith e name kid sig = .ok e') : SameDerived e' e := by
  obtain ⟨_, _, _, rfl⟩ := signWith_ok h
  exact ⟨rfl, rfl, rfl, e.f.unsigned, rfl⟩

theorem setUnsigned_same {e e' : PDU} {u : JVal} (h : setUnsigned e u = .ok e') : SameDerived e' e := by
  obtain ⟨_, _, rfl⟩ := setUnsigned_ok h
  exact ⟨rfl, rfl, rfl, some u, rfl⟩

theorem setUnsignedField_same {e e' : PDU} {k : Bytes} {v : JVal} (h : setUnsignedField e k v = .ok e') : SameDerived e' e := by
  unfold setUnsignedField at h
  simp only at h
  split at h
  · cases h
  · cases h; exact ⟨rfl, rfl, rfl, _, rfl⟩

/-- **Every accessor C03 lists reports on the derived event what it reports on the original**: type, sender, state key,
    content, depth, timestamp, prev / auth references (in version 12: the create event first) and — for an event with a
    stored ID, i.e. anything a constructor other than `…WithEventID("")` returned — the event ID and the room ID (in
    version 12: of a create event, its own event ID with the sigil swapped). -/
theorem derived_same_accessors (H : Bytes → Bytes) {e' e : PDU} (h : SameDerived e' e)
    (hid : e.fmt = .v1 ∨ e.f.eventIDRaw ≠ []) :
    e'.f.type = e.f.type ∧ e'.f.sender = e.f.sender ∧ e'.f.stateKey = e.f.stateKey ∧ e'.f.content = e.f.content ∧
    e'.f.depth = e.f.depth ∧ e'.f.originServerTS = e.f.originServerTS ∧ prevEventIDs e' = prevEventIDs e ∧
    authEventIDs e' = authEventIDs e ∧ eventID H e' = eventID H e ∧ roomID H e' = roomID H e := by
  obtain ⟨hf, _, _, u, hu⟩ := h
  have hc : isCreate e' = isCreate e := by simp only [isCreate, isCreateF, hu]
  have he : eventID H e' = eventID H e := by
    unfold eventID
    have hraw : e'.f.eventIDRaw = e.f.eventIDRaw := by rw [hu]
    have hcond : (e.fmt == .v1 || !e.f.eventIDRaw.isEmpty) = true := by
      rcases hid with h1 | h1
      · simp [h1]
      · cases hr : e.f.eventIDRaw with
        | nil => exact absurd hr h1
        | cons c r => simp
    rw [hf, hraw, if_pos hcond, if_pos hcond]
  refine ⟨by rw [hu], by rw [hu], by rw [hu], by rw [hu], by rw [hu], by rw [hu], ?_, ?_, he, ?_⟩
  · simp only [prevEventIDs, hf, hu]
  · simp only [authEventIDs, hf, hc, hu]
  · simp only [roomID, hf, hc, he, hu]

/-- the struct fields C03 lists, by JSON name -/
def coreNames : List Bytes := [b!"room_id", b!"sender", b!"type", b!"state_key", b!"content", b!"redacts", b!"depth",
  b!"origin_server_ts", b!"prev_events", b!"auth_events"]

theorem strip_keeps_core : ∀ fmt : Fmt, ∀ k ∈ stripKeys fmt, ∀ n ∈ coreNames, matchesField k n = false := by
  intro fmt
  cases fmt <;> decide +kernel

/-- the fields C03 lists -/
structure SameCore (f g : Fields) : Prop where
  roomID : f.roomID = g.roomID
  sender : f.sender = g.sender
  type : f.type = g.type
  stateKey : f.stateKey = g.stateKey
  content : f.content = g.content
  redacts : f.redacts = g.redacts
  depth : f.depth = g.depth
  ts : f.originServerTS = g.originServerTS
  prev : f.prevEvents = g.prevEvents
  auth : f.authEvents = g.authEvents

/-- the listed fields are decoded from the members under their names (whatever ID is stored afterwards) -/
theorem decodeFields_core_congr (fmt : Fmt) {kvs kvs' : EventParse.Obj} (h : ∀ n ∈ coreNames, members kvs' n = members kvs n)
    (a b : Bytes) :
    SameCore { (decodeFields fmt kvs').f with eventIDRaw := a } { (decodeFields fmt kvs).f with eventIDRaw := b } := by
  simp only [coreNames, List.forall_mem_cons, List.not_mem_nil, false_imp_iff, implies_true, and_true] at h
  obtain ⟨h1, h2, h3, h4, h5, h6, h7, h8, h9, h10⟩ := h
  simp only [decodeFields, h1, h2, h3, h4, h5, h6, h7, h8, h9, h10]
  exact ⟨rfl, rfl, rfl, rfl, rfl, rfl, rfl, rfl, rfl, rfl⟩

/-- **Round trip through the constructors.**  If a text is accepted as trusted input and as
    untrusted input and its content hash is valid, the two events agree on type, sender, room ID,
    state key, content, redacts, depth, timestamp and prev / auth references, and neither is
    marked redacted; if the text has no `event_id` member (no case variant either) the two events have
    the same (computed) event ID.

    `_partial`: a statement about arbitrary texts under the hypotheses `ht`, `hu`, `hh`; that the
    output of `EventBuilder.Build` satisfies them — and the full round trip, headered form included —
    is `build_roundtrip` below. -/
theorem reparse_same_partial {H : Bytes → Bytes} {ver text : Bytes} {e e' : PDU}
    (ht : parseTrusted H ver false text = .ok e) (hu : parseUntrusted H ver text = .ok e')
    (hh : ∀ row fmt p kvs, rowOf ver = some row → fmtOfName row.newEventFromUntrustedJSONFunc = some fmt →
      parse text = some p → stripped fmt p.toJVal = .obj kvs → contentHashOk H kvs = true) :
    SameCore e'.f e.f ∧ e'.redacted = false ∧ e.redacted = false ∧
    (e.fmt ≠ .v1 → members e.obj b!"event_id" = [] → e'.f.eventIDRaw = e.f.eventIDRaw) := by
  obtain ⟨row, p, hrow, hp, htc⟩ := parseTrusted_ok_iff.mp ht
  obtain ⟨fmt, kvs, id, hf, hj, _, hid, rfl⟩ := trustedCore_ok_iff.mp htc
  -- both constructors read the same row, the same parse, the same struct
  obtain ⟨e0, R⟩ : ∃ e0, C04.Received ver text row fmt p e0 := by
    obtain ⟨row', fmt', e0, R⟩ := C04.received_of_parse hu hp
    cases R.hrow.symm.trans hrow
    cases R.hfmt.symm.trans ((C04.row_facts hrow).1.trans hf)
    exact ⟨e0, R⟩
  have hs : stripped fmt p.toJVal = .obj (deleteKeys (stripKeys fmt) kvs) := by rw [hj]; rfl
  obtain ⟨hA, hef, hcase⟩ := C04.accepted_cases hu hrow R.hfmt hp hs
  rcases hcase with ⟨_, hr, ho, hff⟩ | ⟨hbad, _⟩
  · refine ⟨?_, hr, rfl, fun hne hnoid => ?_⟩
    · rw [show e'.f = _ from hff, ho]
      exact decodeFields_core_congr fmt (fun n hn => members_deleteKeys _ n kvs (fun k hk => strip_keeps_core fmt k hk n hn)) _ _
    · have hidu := hA.hid (hef ▸ hne)
      -- a member with the key event_id would be among the members the struct field selects
      have hne' : ∀ kv ∈ kvs, kv.1 ≠ b!"event_id" := by
        intro kv hkv he
        have hmem : kv.2 ∈ members kvs b!"event_id" :=
          List.mem_map.mpr ⟨kv, List.mem_filter.mpr ⟨hkv, by rw [he]; exact matchesField_self _⟩, rfl⟩
        rw [show members kvs b!"event_id" = [] from hnoid] at hmem; cases hmem
      -- the untrusted event's ID is computed from the stripped value: unsigned / age_ts / … and the
      -- (absent) event_id do not enter the redaction
      have hidt := hid.2 hne
      simp only [ho, referenceID, stripKeys_eq fmt kvs (fun _ => hne'), redactJSON_strip4] at hidu
      simp only [referenceID] at hidt
      exact (Except.ok.inj (hidt.symm.trans hidu)).symm
  · rw [hh row fmt p _ hrow R.hfmt hp hs] at hbad; cases hbad

/-! ## `EventBuilder.Build` -/

theorem build_ok {H : Bytes → Bytes} {ver : Bytes} {pe : EventBuild.Proto} {now : Nat} {origin kid rand16 sig : Bytes} {e : PDU}
    (h : EventBuild.build H ver pe now origin kid rand16 sig = .ok e) :
    ∃ row signed p, rowOf ver = some row ∧ EventBuild.signedMembers H row ver pe now origin kid rand16 sig = .ok signed ∧
      enforcedOkVal row (.obj signed) = some true ∧ (JVal.obj signed).noDupKeys = true ∧
      parse (encodeCanon (.obj signed)) = some p ∧
      trustedCore H row ver false (encodeCanon (.obj signed)) p.toJVal = .ok e ∧ checkFields e = .ok () := by
  unfold EventBuild.build at h
  split at h
  · cases h
  · rename_i row hrow
    split at h
    · cases h
    · rename_i signed hsm
      unfold EventBuild.finishBuild at h
      split at h
      · cases h
      · cases h
      · rename_i henf
        split at h
        · cases h
        · rename_i hnd
          split at h
          · cases h
          · rename_i p hp
            split at h
            · cases h
            · rename_i e1 ht
              split at h
              · cases h
              · rename_i hcf
                cases h
                exact ⟨row, signed, p, hrow, hsm, henf, by simpa using hnd, hp, ht, hcf⟩

/-- **What `Build` returns has passed its own field checks, is not marked redacted, and is the
    trusted parse of a canonical JSON text** (`build_roundtrip` below is the full round-trip
    statement). -/
theorem build_checked_partial {H : Bytes → Bytes} {ver : Bytes} {pe : EventBuild.Proto} {now : Nat}
    {origin kid rand16 sig : Bytes} {e : PDU} (h : EventBuild.build H ver pe now origin kid rand16 sig = .ok e) :
    checkFields e = .ok () ∧ e.redacted = false ∧ e.ver = ver ∧ (ProtoOk pe → e.json = encodeCanon (.obj e.obj)) ∧
    ∃ row, rowOf ver = some row ∧ trustedCore H row ver false e.json (.obj e.obj) = .ok e := by
  obtain ⟨row, signed, p, hrow, hsm, _, hnd, hp, ht, hcf⟩ := build_ok h
  obtain ⟨fmt, kvs, id, hf, hj, D, hid, rfl⟩ := trustedCore_ok_iff.mp ht
  refine ⟨hcf, rfl, rfl, fun hpe => ?_, row, hrow, trustedCore_ok_iff.mpr ⟨fmt, kvs, id, hf, rfl, D, hid, rfl⟩⟩
  obtain rfl : canonMembers signed = kvs := JVal.obj.inj ((parse_canon_text (signed_numsOk hpe hsm) hp).symm.trans hj)
  exact (encodeCanon_canon _ hnd).symm

theorem build_table_facts : ∀ row ∈ VGen.roomVersions, C05.buildOk row = true := by
  intro row h
  obtain ⟨_, _, _, _, h2, _⟩ := C05.rowAll_parts h
  exact h2

theorem build_row_facts {ver : Bytes} {row : VGen.VersionRow} {fmt : Fmt} (hrow : rowOf ver = some row)
    (hf : fmtOfName row.newEventFromTrustedJSONFunc = some fmt) :
    fmtOfName row.newEventFromTrustedJSONWithEventIDFunc = some fmt ∧ (fmt ≠ .v1 → (row.eventFormat == 2) = true) := by
  have := build_table_facts row (List.mem_of_find?_eq_some hrow)
  simp only [C05.buildOk, Bool.and_eq_true, beq_iff_eq, Bool.or_eq_true] at this
  obtain ⟨⟨h1, h2⟩, h3⟩ := this
  refine ⟨by rw [h1, hf], fun hne => ?_⟩
  rw [hf] at h2
  have : (some fmt == some Fmt.v1) = false := by simp [hne]
  rw [this] at h2
  rcases h3 with h3 | h3
  · rw [h3] at h2; simp at h2
  · simp [h3]

/-- `CheckFields` reads the format, the version, the listed fields and the size of the JSON -/
theorem checkFields_congr {e e' : PDU} (hf : e'.fmt = e.fmt) (hv : e'.ver = e.ver) (hc : SameCore e'.f e.f)
    (hl : e'.json.length ≤ e.json.length) (h : checkFields e = .ok ()) : checkFields e' = .ok () := by
  have ha : authEventIDs e' = authEventIDs e := by
    unfold authEventIDs isCreate isCreateF
    rw [hf, hc.type, hc.stateKey, hc.roomID, hc.auth]
  have hp : prevEventIDs e' = prevEventIDs e := by
    unfold prevEventIDs
    rw [hf, hc.prev]
  unfold checkFields at h ⊢
  rw [ha, hp, hv, hc.type, hc.stateKey, hc.sender]
  cases hae : authEventIDs e with
  | error x => rw [hae] at h; cases h
  | ok a =>
    rw [hae] at h
    simp only at h ⊢
    -- only the size guard differs
    obtain ⟨c1, h⟩ := Guard.ok_iff.mp h
    obtain ⟨c2, h⟩ := Guard.ok_iff.mp h
    rw [if_neg c1, if_neg (by omega)]
    exact h

/-- **`e'` is the event `e`**, as far as the accessors C03 lists can tell: same room version and
    struct, same type / sender / room ID / state key / content / redacts / depth / timestamp /
    prev- and auth-event lists (`SameCore`), same stored and reported event ID, same `RoomID()`,
    `PrevEventIDs()`, `AuthEventIDs()`; not marked redacted; passes `CheckFields`. -/
structure SameEvent (H : Bytes → Bytes) (e' e : PDU) : Prop where
  ver : e'.ver = e.ver
  fmt : e'.fmt = e.fmt
  core : SameCore e'.f e.f
  idRaw : e'.f.eventIDRaw = e.f.eventIDRaw
  eventID : eventID H e' = eventID H e
  roomID : roomID H e' = roomID H e
  prev : prevEventIDs e' = prevEventIDs e
  auth : authEventIDs e' = authEventIDs e
  notRedacted : e'.redacted = false
  checked : checkFields e' = .ok ()

theorem sameCore_of {f' f g' g : Fields} {a b : Bytes} {u : Option JVal} (h1 : f' = { g' with eventIDRaw := a })
    (h2 : f = { g with eventIDRaw := b }) (h3 : g' = { g with unsigned := u }) : SameCore f' f := by
  subst h1 h2 h3
  constructor <;> rfl

theorem sameEvent_of {H : Bytes → Bytes} {e' e : PDU} (hv : e'.ver = e.ver) (hf : e'.fmt = e.fmt) (hc : SameCore e'.f e.f)
    (hr : e'.f.eventIDRaw = e.f.eventIDRaw)
    (ho : ∀ row, referenceID H row e.ver (.obj e'.obj) = referenceID H row e.ver (.obj e.obj))
    (hnr : e'.redacted = false) (hck : checkFields e' = .ok ()) : SameEvent H e' e := by
  have hid : eventID H e' = eventID H e := by
    unfold eventID
    rw [hf, hr, hv]
    simp only [ho]
  refine ⟨hv, hf, hc, hr, hid, ?_, ?_, ?_, hnr, hck⟩
  · unfold roomID isCreate isCreateF
    rw [hf, hid, hc.type, hc.stateKey, hc.roomID]
  · unfold prevEventIDs
    rw [hf, hc.prev]
  · unfold authEventIDs isCreate isCreateF
    rw [hf, hc.type, hc.stateKey, hc.roomID, hc.auth]

theorem enforcedOkVal_ok {row : VGen.VersionRow} {v : JVal} (h : enforcedOkVal row v = some true) :
    ∃ enf, enforces row = some enf ∧ (enf && !jNumbersOk v) = false := by
  unfold enforcedOkVal at h
  cases he : enforces row with
  | none => rw [he] at h; cases h
  | some enf =>
    rw [he] at h
    cases enf
    · exact ⟨false, rfl, rfl⟩
    · exact ⟨true, rfl, by simpa using h⟩

theorem checkRoom_unsigned (fmt : Fmt) (f : Fields) (u : Option JVal) : checkRoom fmt { f with unsigned := u } = checkRoom fmt f := rfl

/-- the canonical form of what `Build` signed can be redacted: `signEvent` redacted it before it wrote `signatures`, and
    neither that member nor canonicalisation makes a redaction fail -/
theorem canon_redactable {H : Bytes → Bytes} {row : VGen.VersionRow} {ver : Bytes} {signed : EventParse.Obj}
    (SF : SignedFacts H row ver signed) (hnd : (JVal.obj signed).noDupKeys = true) :
    ∃ r, redactJSON ver (.obj (canonMembers signed)) = .ok r := by
  obtain ⟨wh, ns, r, hsig, hr⟩ := SF.redactable
  obtain ⟨a, ha, hro⟩ := redactJSON_algo hr
  obtain ⟨hT, _⟩ := C05.algoOf_ok ha
  obtain ⟨_, r', _, hr', _⟩ := redactWith_signatures hT (algoOf_tableOk ha) ns hro
  rw [← hsig] at hr'
  obtain ⟨v', hv'⟩ := redactWith_canon hT hnd hr'
  exact ⟨v', redactJSON_of_algo ha _ ▸ hv'⟩

/-- **What the trusted constructor accepts, the untrusted one accepts as the same event**: any object `S` that passes the gates of
    `checkUntrustedEventJSON`, carries no `event_id` where the ID is computed, has the right content hash after the receiver's
    stripping, and passed `CheckFields` as a trusted event.  (The receiver strips `unsigned` at most, which the struct decoding reads
    into its own field only and the redaction does not see.) -/
theorem untrusted_of_trusted {H : Bytes → Bytes} {ver text : Bytes} {row : VGen.VersionRow} {fmt : Fmt} {enf : Bool} {p : PVal}
    {S : EventParse.Obj} {id : Bytes}
    (hrow : rowOf ver = some row) (hfmt : fmtOfName row.newEventFromUntrustedJSONFunc = some fmt) (henf : enforces row = some enf)
    (hp : parse text = some p) (hpj : p.toJVal = .obj S)
    (hus : hasUnderscoreKey (.obj S) = false) (hnum : (enf && !p.numbersOk) = false) (hnd : (JVal.obj S).noDupKeys = true)
    (hnv : hasFieldVariant (.obj S) = false) (hev : fmt ≠ .v1 → ∀ kv ∈ S, kv.1 ≠ b!"event_id")
    (D : Decodes fmt S) (hid : StoredID H row ver fmt S id) (hlen : (encodeCanon (.obj S)).length ≤ text.length)
    (hcf : checkFields (mkEvent ver fmt false text S id) = .ok ())
    (hhash : contentHashOk H (deleteKeys (stripKeys fmt) S) = true)
    (hred : fmt = .v1 → ∃ r, redactJSON ver (.obj S) = .ok r) :
    parseUntrusted H ver text = .ok (received ver fmt (deleteKeys strip4 S) id) ∧
      SameEvent H (received ver fmt (deleteKeys strip4 S) id) (mkEvent ver fmt false text S id) := by
  have hU := parseUntrusted_intro (H := H) (id := id) hrow hfmt henf hp hpj hus hnum hnd hnv
  rw [stripKeys_eq fmt S hev] at hU hhash
  obtain ⟨k1, k2, k3⟩ := decodeFields_congr fmt (kvs := S)
    (fun n hn => members_deleteKeys strip4 n _ (fun k hk => strip4_keeps k hk n hn))
  have hl : (encodeCanon (.obj (deleteKeys strip4 S))).length ≤ text.length :=
    Nat.le_trans (encodeCanon_sublist_length (deleteKeys_sublist _ _)) hlen
  have hrefK : ∀ row', referenceID H row' ver (.obj (deleteKeys strip4 S)) = referenceID H row' ver (.obj S) := by
    intro row'; simp only [referenceID, redactJSON_strip4]
  have hcore : SameCore (received ver fmt (deleteKeys strip4 S) id).f (mkEvent ver fmt false text S id).f := sameCore_of rfl rfl k3
  have hcf' : checkFields (received ver fmt (deleteKeys strip4 S) id) = .ok () :=
    checkFields_congr (e := mkEvent ver fmt false text S id) rfl rfl hcore hl hcf
  exact ⟨hU (k1 ▸ D.err) (k2 ▸ D.unm) (by rw [k3, checkRoom_unsigned]; exact D.room) (Nat.le_trans hl (checkFields_size hcf)) hhash
    (fun h1 => by rw [redactJSON_strip4]; exact hred h1) (fun hne => by rw [hrefK]; exact hid.2 hne)
    (fun h1 => by rw [k3]; exact hid.1 h1) hcf', sameEvent_of rfl rfl hcore rfl hrefK rfl hcf'⟩

/-- **C03, round trip.**  An event produced by `EventBuilder.Build` — any registered room version,
    any proto-event whose raw-JSON inputs are JSON values (`ProtoOk`), any time, origin, key ID,
    random event-ID characters and signature bytes — re-parses from its JSON

    (a) as untrusted input (`NewEventFromUntrustedJSON`): successfully, to an event with the same
        version, type, sender, room ID, state key, content, redacts, depth, origin_server_ts, prev- and
        auth-event references, event ID (stored and reported), `RoomID()`; not marked redacted; passing
        `CheckFields` (`SameEvent`).  The two facts behind it: the content hash `Build` wrote is the one
        the receiver recomputes after its own stripping (`contentHash_canon`), and every stage of the
        untrusted constructor accepts the canonical text (`parseUntrusted_intro`);
    (b) as trusted input (`NewEventFromTrustedJSON`): successfully, to the very same event;
    (c) through the headered form: `ToHeaderedJSON` succeeds, and every text denoting the value it
        writes (the event's members followed by `_room_version` and `_event_id`; such texts exist —
        the compact rendering of that value is one) is read back by `NewEventFromHeaderedJSON` as the
        very same event;

    and the event itself is not marked redacted and has passed `CheckFields`. -/
theorem build_roundtrip {H : Bytes → Bytes} {ver : Bytes} {pe : EventBuild.Proto} {now : Nat}
    {origin kid rand16 sig : Bytes} {e : PDU} (hpe : ProtoOk pe)
    (hb : EventBuild.build H ver pe now origin kid rand16 sig = .ok e) :
    (∃ e', parseUntrusted H ver e.json = .ok e' ∧ SameEvent H e' e) ∧
    parseTrusted H ver false e.json = .ok e ∧
    (∃ hv, toHeadered H e = .ok hv ∧ (∃ p, parse (encode hv) = some p ∧ p.toJVal = hv) ∧
      ∀ th p, parse th = some p → p.toJVal = hv → parseHeadered false th = .ok e) ∧
    e.redacted = false ∧ checkFields e = .ok () := by
  obtain ⟨row, signed, p, hrow, hsm, henf, hnd, hp, ht, hcf⟩ := build_ok hb
  have SF := signedFacts hsm
  have hpj := parse_canon_text (signed_numsOk hpe hsm) hp
  obtain ⟨fmt, S, id, hfmt, hS, D, hid, rfl⟩ := trustedCore_ok_iff.mp ht
  obtain rfl : canonMembers signed = S := JVal.obj.inj (hpj.symm.trans hS)
  obtain ⟨hfeq, _⟩ := C04.row_facts hrow
  obtain ⟨hwid, hef⟩ := build_row_facts hrow hfmt
  obtain ⟨enf, henf', hnumE⟩ := enforcedOkVal_ok henf
  have hkeys := SF.keys_mem_allKeys
  have hSk := canon_keys (P := (· ∈ allKeys)) hkeys
  have hev : fmt ≠ .v1 → ∀ kv ∈ signed, kv.1 ≠ b!"event_id" := fun hne => SF.noEventID (hef hne)
  have htext : encodeCanon (.obj (canonMembers signed)) = encodeCanon (.obj signed) := encodeCanon_canon (.obj signed) hnd
  -- the enforced number check passed in `Build`, on the value before canonicalisation
  have hnumP : (enf && !p.numbersOk) = false := by
    cases enf with
    | false => rfl
    | true =>
      have := jNum_canon _ (by simpa using hnumE)
      rw [canon_obj, ← hpj, jNumbersOk_toJVal] at this
      simp [this]
  -- (a) untrusted: the canonical value meets the hypotheses of `untrusted_of_trusted` (its keys are `Build`'s own; the content hash
  -- `Build` wrote is the one the receiver recomputes; `signEvent` has redacted it); (b) trusted: this is how `Build` made it
  refine ⟨⟨_, untrusted_of_trusted hrow (hfeq ▸ hfmt) henf' hp hpj (hasUnderscoreKey_false hSk) hnumP (noDup_canon (.obj signed) hnd)
    (hasFieldVariant_false hSk) (fun hne => canon_keys (P := (· ≠ b!"event_id")) (hev hne)) D hid (Nat.le_of_eq (congrArg List.length htext)) hcf
    (contentHash_canon H fmt hnd hkeys hev SF.hash) (fun _ => canon_redactable SF hnd)⟩,
    parseTrusted_ok_iff.mpr ⟨row, p, hrow, hp, ht⟩, ?_, rfl, hcf⟩
  have hnoh : ∀ kv ∈ canonMembers signed, (kv.1 == b!"_event_id") = false ∧ (kv.1 == b!"_room_version") = false :=
    fun kv hkv => allKeys_no_header kv.1 (hSk kv hkv)
  refine ⟨.obj (setFirst b!"_event_id" (.str id) (setFirst b!"_room_version" (.str ver) (canonMembers signed))), ?_, ?_, ?_⟩
  · unfold toHeadered
    rw [eventID_stored hrow hid.2]
    rfl
  · have hnS : numsOkMembers (canonMembers signed) = true := by
      have := parse_numsOk hp
      rw [hpj] at this
      simpa [JVal.numsOk] using this
    exact headered_text hnS (canonMembers_normalised signed) id ver hnoh
  · intro th p' hpth hpv
    rw [parseHeadered_intro hpth hpv hnoh hrow hwid D.err D.unm D.room, htext]
    rfl

/-! ### Concrete proto-events and toy hashes; the builds are evaluated in VProps/C03Vectors.lean -/

/-- a state event with a `-0` in its content, an `unsigned` member, two auth events -/
def exProto : EventBuild.Proto :=
  { type := b!"m.room.member", sender := b!"@u:hs", roomID := b!"!r:hs", stateKey := some b!"@u:hs", prev := [b!"$p"],
    auth := [b!"$a", b!"$b"], redacts := [], depth := 5,
    content := some (.obj [(b!"membership", .str b!"join"), (b!"n", .num b!"-0")]),
    unsigned := some (.obj [(b!"age", .num b!"7")]), signatures := none }

/-- a room-version-12 create event (no room ID, no prev / auth events) -/
def exCreate : EventBuild.Proto :=
  { exProto with type := b!"m.room.create", stateKey := some [], roomID := [], prev := [], auth := [],
                 content := some (.obj [(b!"room_version", .str b!"12")]) }

def isOk {α : Type} (x : Except Err α) : Bool :=
  match x with
  | .ok _ => true
  | .error _ => false

/-- `Build` succeeds and the three re-parses succeed (evaluated; the theorem says why) -/
def roundtrips (ver : Bytes) (pe : EventBuild.Proto) : Bool :=
  match EventBuild.build C04.H0 ver pe 1000 b!"hs" b!"ed25519:1" b!"abcdefghijklmnop" b!"c2ln" with
  | .ok e => isOk (parseUntrusted C04.H0 ver e.json) && isOk (parseTrusted C04.H0 ver false e.json) &&
      (match toHeadered C04.H0 e with
       | .ok hv => isOk (parseHeadered false (encode hv))
       | .error _ => false)
  | .error _ => false

/-- `Build` succeeds on the inputs of `roundtrips` -/
def builds (ver : Bytes) (pe : EventBuild.Proto) : Bool :=
  isOk (EventBuild.build C04.H0 ver pe 1000 b!"hs" b!"ed25519:1" b!"abcdefghijklmnop" b!"c2ln")

/-- **`Build` refuses what the untrusted constructors refuse**: when the members
    `Build` has assembled — the proto-event's raw `content` / `unsigned` included — repeat a member name at any depth,
    `Build` returns `BadJSONError` instead of an event (`checkUntrustedEventJSON` on its own output).  Together with
    `build_ok` (an event `Build` returns has no repeated name) this is why `build_roundtrip` needs no hypothesis about
    duplicate names: before the fix the code returned such events and `NewEventFromUntrustedJSON` refused them. -/
theorem build_refuses_duplicate_members (H : Bytes → Bytes) (row : VGen.VersionRow) (ver : Bytes) (signed : EventParse.Obj)
    (henf : enforcedOkVal row (.obj signed) = some true) (hd : (JVal.obj signed).noDupKeys = false) :
    EventBuild.finishBuild H row ver signed = .error .badJSON := by
  unfold EventBuild.finishBuild
  simp [henf, hd]

/-- … and the untrusted constructor refuses the same texts: a text whose value repeats a member name is never accepted -/
theorem untrusted_refuses_duplicate_members (H : Bytes → Bytes) (ver t : Bytes) (p : PVal) (hp : parse t = some p)
    (hd : p.toJVal.noDupKeys = false) : ∀ e, parseUntrusted H ver t ≠ .ok e :=
  C04.refuses_repeated_member H hp hd

/-! ## Injectivity, completed: the event ID determines `hashes`, hence every hashed field

`eventID_injective` stops at the reference bytes.  The three theorems below carry the argument through: equal reference
bytes are equal canonical forms of the redacted events (`C01.encodeCanon_injective`; the redaction of a value with
grammatical number literals has grammatical number literals: `IdInj.redactWith_numsOk`), the redaction keeps `hashes`
verbatim (`RedactProofs.redactWith_raw`), the canonical form of an object holds under a key the canonical form of the member
the text has under it (`lookupExact_canonFirst`), and `hashes.sha256` as gjson reads it is a function of the
canonical form of `hashes` (`IdInj.claimedHash_canon`, no hypothesis about duplicate keys inside `hashes`). -/

/-- **The event ID determines the `hashes` member** (collision-free `H`, event formats with hashed IDs).  Two events
    with the same ID, given as objects without repeated top-level keys whose number literals follow the JSON grammar
    (`numsOk`: true of every value a text denotes, `parse_numsOk`), have the same `hashes` member up to canonical form
    (member order, `-0`) — equivalently the same canonical encoding of it — and the same `hashes.sha256` string.

    The hypothesis "no repeated top-level key" is needed: gjson (`claimedHash`) reads the FIRST `hashes` member,
    redaction keeps the LAST one; `exDupHashes` below is a pair with equal IDs and different `hashes.sha256`.  (The
    untrusted constructors refuse such events, `C04.refuses_repeated_member`; `Build` does not produce them.) -/
theorem eventID_determines_hashes (H : Bytes → Bytes) (hH : Function.Injective H) (row : VGen.VersionRow) (ver : Bytes)
    (hfmt : row.eventFormat = 2) {k1 k2 : EventParse.Obj} {id : Bytes}
    (hn1 : (JVal.obj k1).numsOk = true) (hn2 : (JVal.obj k2).numsOk = true)
    (hd1 : (keysOf k1).Nodup) (hd2 : (keysOf k2).Nodup)
    (h1 : referenceID H row ver (.obj k1) = .ok id) (h2 : referenceID H row ver (.obj k2) = .ok id) :
    (getFirst k1 b!"hashes").map (fun v => v.sorted.normNums) = (getFirst k2 b!"hashes").map (fun v => v.sorted.normNums) ∧
    (getFirst k1 b!"hashes").map encodeCanon = (getFirst k2 b!"hashes").map encodeCanon ∧
    claimedHash k1 = claimedHash k2 := by
  have hb := eventID_injective H hH row ver hfmt h1 h2
  obtain ⟨r, hr, _⟩ := referenceID_hashed_ok H row ver hfmt h1
  have hb1 : referenceBytes ver (.obj k1) = .ok (encodeCanon (.obj (stripSigs r))) := by simp only [referenceBytes, hr]
  have hb2 : referenceBytes ver (.obj k2) = .ok (encodeCanon (.obj (stripSigs r))) := by rw [← hb, hb1]
  have hcan := IdInj.hashes_of_referenceBytes hn1 hn2 hb1 hb2
  rw [← getFirst_eq_lookupExact hd1, ← getFirst_eq_lookupExact hd2] at hcan
  refine ⟨hcan, ?_, ?_⟩
  · have e : ∀ o : Option JVal, o.map encodeCanon = (o.map (fun v => v.sorted.normNums)).map encode := by
      intro o
      cases o with
      | none => rfl
      | some v =>
        simp only [Option.map_some, encodeCanon]
        rw [encode_normNums]
    rw [e, e (getFirst k2 _), hcan]
  · rw [IdInj.claimedHash_canon, IdInj.claimedHash_canon, hcan]

/-- the pair showing that `eventID_determines_hashes` needs "no repeated top-level key": a second, earlier `hashes` member -/
def exDupHashes (dup : Bool) : EventParse.Obj :=
  (if dup then [(b!"hashes", JVal.obj [(b!"sha256", .str b!"QQ")])] else []) ++
  [(b!"type", .str b!"m.x"), (b!"content", .obj []), (b!"hashes", .obj [(b!"sha256", .str b!"Qg")]), (b!"sender", .str b!"@a:h")]

/-- **The event ID determines every hashed field** (collision-free `H`, event formats with hashed IDs).  Two events
    with a valid content hash (`checkEventContentHash` passes: what `NewEventFromUntrustedJSON` returns unredacted,
    what `Build` returns) and the same event ID have the same hashed bytes: the canonical encodings of the two events
    without `unsigned`, `signatures` and `hashes` coincide, i.e. (second clause) those two objects are equal up to
    member order and the spelling of zero — every other field, top-level or inside `content`, protected by the
    redaction algorithm or not, is the same. -/
theorem eventID_injective_hashed (H : Bytes → Bytes) (hH : Function.Injective H) (row : VGen.VersionRow) (ver : Bytes)
    (hfmt : row.eventFormat = 2) {k1 k2 : EventParse.Obj} {id : Bytes}
    (hn1 : (JVal.obj k1).numsOk = true) (hn2 : (JVal.obj k2).numsOk = true)
    (hd1 : (keysOf k1).Nodup) (hd2 : (keysOf k2).Nodup)
    (hc1 : contentHashOk H k1 = true) (hc2 : contentHashOk H k2 = true)
    (h1 : referenceID H row ver (.obj k1) = .ok id) (h2 : referenceID H row ver (.obj k2) = .ok id) :
    hashedBytes k1 = hashedBytes k2 ∧
    (JVal.obj (deleteKeys [b!"signatures", b!"unsigned", b!"hashes"] k1)).sorted.normNums =
      (JVal.obj (deleteKeys [b!"signatures", b!"unsigned", b!"hashes"] k2)).sorted.normNums := by
  have hb := hash_injective H hH hc1 hc2 (eventID_determines_hashes H hH row ver hfmt hn1 hn2 hd1 hd2 h1 h2).2.2
  refine ⟨hb, ?_⟩
  have nums : ∀ {k : EventParse.Obj}, (JVal.obj k).numsOk = true →
      (JVal.obj (deleteKeys [b!"signatures", b!"unsigned", b!"hashes"] k)).numsOk = true := by
    intro k hn
    have := numsOk_obj_forall hn
    exact numsOk_obj_of_forall (fun kv hkv => this kv ((deleteKeys_sublist _ _).subset hkv))
  exact C01.encodeCanon_injective _ _ (nums hn1) (nums hn2) hb

theorem fmt_of_eventFormat2 {ver : Bytes} {row : VGen.VersionRow} {fmt : Fmt} (hrow : rowOf ver = some row)
    (hf : fmtOfName row.newEventFromTrustedJSONFunc = some fmt) (hfmt : row.eventFormat = 2) : fmt ≠ .v1 := by
  have := build_table_facts row (List.mem_of_find?_eq_some hrow)
  simp only [C05.buildOk, Bool.and_eq_true, beq_iff_eq] at this
  obtain ⟨⟨_, h2⟩, _⟩ := this
  intro hv
  rw [hf, hv, hfmt] at h2
  simp at h2

theorem build_hashed {H : Bytes → Bytes} {ver : Bytes} {row : VGen.VersionRow} (hrow : rowOf ver = some row)
    (hfmt : row.eventFormat = 2) {pe : EventBuild.Proto} {now : Nat} {origin kid rand16 sig : Bytes} {e : PDU}
    (hpe : ProtoOk pe) (hb : EventBuild.build H ver pe now origin kid rand16 sig = .ok e) :
    (JVal.obj e.obj).numsOk = true ∧ (keysOf e.obj).Nodup ∧ contentHashOk H e.obj = true ∧
    ∃ id, referenceID H row ver (.obj e.obj) = .ok id ∧ eventID H e = .ok id := by
  obtain ⟨row', signed, p, hrow', hsm, henf, hnd, hp, ht, hcf⟩ := build_ok hb
  cases hrow.symm.trans hrow'
  have SF := signedFacts hsm
  have hpj := parse_canon_text (signed_numsOk hpe hsm) hp
  have hnum := parse_numsOk hp
  rw [hpj] at ht hnum
  obtain ⟨fmt, _, id, hf, hS, _, hsid, rfl⟩ := trustedCore_ok_iff.mp ht
  cases hS
  have hid := hsid.2 (fmt_of_eventFormat2 hrow hf hfmt)
  exact ⟨hnum, keys_nodup_of_noDupKeys (noDup_canon (.obj signed) hnd),
    contentHash_canon_obj H hnd SF.hash, id, hid, eventID_stored hrow (fun _ => hid)⟩

/-- **C03 at the level of `EventBuilder.Build`: events built from proto-events that differ in any field other than
    `unsigned` / `signatures` get different IDs** (contrapositive; collision-free `H`).  Two successful builds in the
    same room version (event format 2 = room versions 3 and later), from any two proto-events whose raw-JSON inputs
    are JSON values (`ProtoOk`), at any times, with any origins, key IDs and signature bytes: if the two events have
    the same event ID, then their JSON without `unsigned`, `signatures` and `hashes` has the same canonical encoding
    — the same type, sender, room ID, state key, content (every key of it), depth, `origin_server_ts`, `origin`,
    prev / auth references, redacts — and the two objects are equal up to member order and the spelling of zero. -/
theorem build_eventID_injective {H : Bytes → Bytes} (hH : Function.Injective H) {ver : Bytes} {row : VGen.VersionRow}
    (hrow : rowOf ver = some row) (hfmt : row.eventFormat = 2)
    {pe1 pe2 : EventBuild.Proto} {now1 now2 : Nat} {origin1 origin2 kid1 kid2 rand1 rand2 sig1 sig2 : Bytes} {e1 e2 : PDU}
    (hpe1 : ProtoOk pe1) (hpe2 : ProtoOk pe2)
    (hb1 : EventBuild.build H ver pe1 now1 origin1 kid1 rand1 sig1 = .ok e1)
    (hb2 : EventBuild.build H ver pe2 now2 origin2 kid2 rand2 sig2 = .ok e2)
    (hid : eventID H e1 = eventID H e2) :
    hashedBytes e1.obj = hashedBytes e2.obj ∧
    (JVal.obj (deleteKeys [b!"signatures", b!"unsigned", b!"hashes"] e1.obj)).sorted.normNums =
      (JVal.obj (deleteKeys [b!"signatures", b!"unsigned", b!"hashes"] e2.obj)).sorted.normNums := by
  obtain ⟨hn1, hd1, hc1, id1, hr1, hi1⟩ := build_hashed hrow hfmt hpe1 hb1
  obtain ⟨hn2, hd2, hc2, id2, hr2, hi2⟩ := build_hashed hrow hfmt hpe2 hb2
  rw [hi1, hi2] at hid
  have : id1 = id2 := Except.ok.inj hid
  subst this
  exact eventID_injective_hashed H hH row ver hfmt hn1 hn2 hd1 hd2 hc1 hc2 hr1 hr2

/-- an injective "hash": the identity -/
def Hid : Bytes → Bytes := fun b => b

theorem Hid_injective : Function.Injective Hid := fun _ _ h => h

/-- a member event whose content carries a `displayname` (a key NO redaction keeps: the two events below have the
    same redacted content, their IDs differ through `hashes` only) -/
def exMember (name : Bytes) (uns : Option JVal) : EventBuild.Proto :=
  { exProto with content := some (.obj [(b!"membership", .str b!"join"), (b!"displayname", .str name)]), unsigned := uns }

/-- the ID of what `Build` returns (room version 10), `none` when `Build` fails -/
def builtID (pe : EventBuild.Proto) (sig : Bytes) : Option Bytes :=
  match EventBuild.build Hid b!"10" pe 1000 b!"hs" b!"ed25519:1" b!"abcdefghijklmnop" sig with
  | .ok e =>
    (match eventID Hid e with
     | .ok id => some id
     | .error _ => none)
  | .error _ => none

/-- room version 10 is registered with event format 2 -/
theorem v10_format : (match rowOf b!"10" with
  | some row => row.eventFormat == 2
  | none => false) = true := by decide

/-! ## … and at the level of the proto-event: every hashed input is determined by the event ID -/

/-- the bytes the content hash of a `Build` result covers (event format 2), in terms of the proto-event, the clock and
    the origin: the canonical encoding of the struct marshalling without `event_id`, `signatures`, `unsigned` -/
theorem build_hashed_members {H : Bytes → Bytes} {ver : Bytes} {row : VGen.VersionRow} (hrow : rowOf ver = some row)
    (hfmt : row.eventFormat = 2) {pe : EventBuild.Proto} {now : Nat} {origin kid rand16 sig : Bytes} {e : PDU}
    (hpe : ProtoOk pe) (hb : EventBuild.build H ver pe now origin kid rand16 sig = .ok e) :
    ∃ content eid, pe.content = some content ∧
      hashedBytes e.obj = encodeCanon (.obj ((deleteFirst b!"event_id"
        (membersOf pe content (pe.prev.map JVal.str) (pe.auth.map JVal.str) eid now origin)).filter hashP)) ∧
      (JVal.obj ((deleteFirst b!"event_id"
        (membersOf pe content (pe.prev.map JVal.str) (pe.auth.map JVal.str) eid now origin)).filter hashP)).numsOk = true := by
  obtain ⟨row', signed, p, hrow', hsm, henf, hnd, hp, ht, hcf⟩ := build_ok hb
  cases hrow.symm.trans hrow'
  have hnum := signed_numsOk hpe hsm
  have hpj := parse_canon_text hnum hp
  rw [hpj] at ht
  obtain ⟨fmt, _, id, _, hS, _, _, rfl⟩ := trustedCore_ok_iff.mp ht
  cases hS
  obtain ⟨content, prev, auth, eid, ms, sigs, ns, hc, hrefs, hms, _, _, _, hsigned⟩ := signedMembers_ok hsm
  unfold RefsOf at hrefs
  rw [if_neg (by simp [hfmt])] at hrefs
  rw [if_pos (by simp [hfmt])] at hms
  have hfilter : signed.filter hashP = ms.filter hashP := by rw [hsigned, filter_hashP_signed]
  rw [hrefs.1, hrefs.2] at hms
  refine ⟨content, eid, hc, ?_, ?_⟩
  · show hashedBytes (canonMembers signed) = _
    rw [show hashedBytes (canonMembers signed) = _ from hashedBytes_canon hnd [] (fun _ _ h => by cases h), hfilter, hms]
  · rw [← hms, ← hfilter]
    have := numsOk_obj_forall hnum
    exact numsOk_obj_of_forall (fun kv hkv => this kv (List.mem_filter.mp hkv).1)

/-- **C03 at the level of the proto-event: the event ID determines every hashed input of `Build`.**  Two successful builds
    in one room version of event format 2 (room versions 3 and later) — any two proto-events whose raw-JSON inputs are
    JSON values, any times, origins, key IDs, signature bytes — that return events with the same ID were given the same
    type, sender, room ID, state key (absent vs present included), prev- and auth-event lists, redacts, depth, the same
    content up to member order and the spelling of zero (both contents are present: `Build` fails without one), the same
    clock reading (`origin_server_ts`) and the same origin.  What may differ: `unsigned`, `signatures`, the key ID, the
    signature — exactly what the property excepts.  (`prev_state`, the last hashed member, is a function of the state key.) -/
theorem build_eventID_injective_proto {H : Bytes → Bytes} (hH : Function.Injective H) {ver : Bytes} {row : VGen.VersionRow}
    (hrow : rowOf ver = some row) (hfmt : row.eventFormat = 2)
    {pe1 pe2 : EventBuild.Proto} {now1 now2 : Nat} {origin1 origin2 kid1 kid2 rand1 rand2 sig1 sig2 : Bytes} {e1 e2 : PDU}
    (hpe1 : ProtoOk pe1) (hpe2 : ProtoOk pe2)
    (hb1 : EventBuild.build H ver pe1 now1 origin1 kid1 rand1 sig1 = .ok e1)
    (hb2 : EventBuild.build H ver pe2 now2 origin2 kid2 rand2 sig2 = .ok e2)
    (hid : eventID H e1 = eventID H e2) :
    pe1.type = pe2.type ∧ pe1.sender = pe2.sender ∧ pe1.roomID = pe2.roomID ∧ pe1.stateKey = pe2.stateKey ∧
    pe1.prev = pe2.prev ∧ pe1.auth = pe2.auth ∧ pe1.redacts = pe2.redacts ∧ pe1.depth = pe2.depth ∧
    pe1.content.map (fun c => c.sorted.normNums) = pe2.content.map (fun c => c.sorted.normNums) ∧
    now1 = now2 ∧ origin1 = origin2 := by
  obtain ⟨hbytes, _⟩ := build_eventID_injective hH hrow hfmt hpe1 hpe2 hb1 hb2 hid
  obtain ⟨c1, eid1, hc1, hm1, hnum1⟩ := build_hashed_members hrow hfmt hpe1 hb1
  obtain ⟨c2, eid2, hc2, hm2, hnum2⟩ := build_hashed_members hrow hfmt hpe2 hb2
  rw [hm1, hm2] at hbytes
  have hn1 := (membersOf_keys pe1 c1 (pe1.prev.map JVal.str) (pe1.auth.map JVal.str) eid1 now1 origin1).nodup buildKeys_nodup
  have hn2 := (membersOf_keys pe2 c2 (pe2.prev.map JVal.str) (pe2.auth.map JVal.str) eid2 now2 origin2).nodup buildKeys_nodup
  have at_ : ∀ (k : Bytes) {o1 o2 : Option JVal}, hashP (k, .null) = true → b!"event_id" ≠ k →
      lookupExact (membersOf pe1 c1 (pe1.prev.map JVal.str) (pe1.auth.map JVal.str) eid1 now1 origin1) k = o1 →
      lookupExact (membersOf pe2 c2 (pe2.prev.map JVal.str) (pe2.auth.map JVal.str) eid2 now2 origin2) k = o2 →
      o1.map (fun v => v.sorted.normNums) = o2.map (fun v => v.sorted.normNums) := by
    intro k o1 o2 hk hke h1 h2
    have := IdInj.getFirst_of_encodeCanon_eq hnum1 hnum2 hbytes k
    rwa [IdInj.hashed_lookup hn1 k hk hke, IdInj.hashed_lookup hn2 k hk hke, h1, h2] at this
  have L1 := IdInj.membersOf_lookups pe1 c1 (pe1.prev.map JVal.str) (pe1.auth.map JVal.str) eid1 now1 origin1
  have L2 := IdInj.membersOf_lookups pe2 c2 (pe2.prev.map JVal.str) (pe2.auth.map JVal.str) eid2 now2 origin2
  refine ⟨IdInj.str_canon_inj (at_ b!"type" (by decide) (by decide) L1.type L2.type),
    IdInj.str_canon_inj (at_ b!"sender" (by decide) (by decide) L1.sender L2.sender),
    IdInj.optStr_inj (at_ b!"room_id" (by decide) (by decide) L1.roomID L2.roomID), ?_,
    IdInj.strs_canon_inj (at_ b!"prev_events" (by decide) (by decide) L1.prev L2.prev),
    IdInj.strs_canon_inj (at_ b!"auth_events" (by decide) (by decide) L1.auth L2.auth),
    IdInj.optStr_inj (at_ b!"redacts" (by decide) (by decide) L1.redacts L2.redacts), ?_, ?_, ?_,
    IdInj.str_canon_inj (at_ b!"origin" (by decide) (by decide) L1.origin L2.origin)⟩
  · have := at_ b!"state_key" (by decide) (by decide) L1.stateKey L2.stateKey
    cases h1 : pe1.stateKey <;> cases h2 : pe2.stateKey <;> rw [h1, h2] at this <;>
      simp [JVal.sorted, JVal.normNums] at this ⊢
    exact this
  · have := at_ b!"depth" (by decide) (by decide) L1.depth L2.depth
    simp only [Option.map_some, JVal.sorted, JVal.normNums, IdInj.encodeNum_intLit, Option.some.injEq, JVal.num.injEq] at this
    exact IdInj.intLit_inj this
  · rw [hc1, hc2]
    exact at_ b!"content" (by decide) (by decide) L1.content L2.content
  · have := at_ b!"origin_server_ts" (by decide) (by decide) L1.ts L2.ts
    simp only [Option.map_some, JVal.sorted, JVal.normNums, IdInj.encodeNum_natDigits, Option.some.injEq, JVal.num.injEq] at this
    exact IdInj.natDigits_inj this

/-- **C03, literally: two events built from proto-events that differ in a field other than `unsigned` / `signatures`
    get different IDs** (contrapositive of `build_eventID_injective_proto`; so do two builds of the same proto-event at
    different times or for different origins) -/
theorem build_differ_eventID_ne {H : Bytes → Bytes} (hH : Function.Injective H) {ver : Bytes} {row : VGen.VersionRow}
    (hrow : rowOf ver = some row) (hfmt : row.eventFormat = 2)
    {pe1 pe2 : EventBuild.Proto} {now1 now2 : Nat} {origin1 origin2 kid1 kid2 rand1 rand2 sig1 sig2 : Bytes} {e1 e2 : PDU}
    (hpe1 : ProtoOk pe1) (hpe2 : ProtoOk pe2)
    (hb1 : EventBuild.build H ver pe1 now1 origin1 kid1 rand1 sig1 = .ok e1)
    (hb2 : EventBuild.build H ver pe2 now2 origin2 kid2 rand2 sig2 = .ok e2)
    (hdiff : pe1.type ≠ pe2.type ∨ pe1.sender ≠ pe2.sender ∨ pe1.roomID ≠ pe2.roomID ∨ pe1.stateKey ≠ pe2.stateKey ∨
      pe1.prev ≠ pe2.prev ∨ pe1.auth ≠ pe2.auth ∨ pe1.redacts ≠ pe2.redacts ∨ pe1.depth ≠ pe2.depth ∨
      pe1.content.map (fun c => c.sorted.normNums) ≠ pe2.content.map (fun c => c.sorted.normNums) ∨
      now1 ≠ now2 ∨ origin1 ≠ origin2) :
    eventID H e1 ≠ eventID H e2 := by
  intro hid
  obtain ⟨a1, a2, a3, a4, a5, a6, a7, a8, a9, a10, a11⟩ := build_eventID_injective_proto hH hrow hfmt hpe1 hpe2 hb1 hb2 hid
  simp only [ne_eq, a1, a2, a3, a4, a5, a6, a7, a8, a9, a10, a11, not_true_eq_false, or_self] at hdiff

end V.C03
