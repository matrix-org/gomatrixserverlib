/-
  C04 — concrete received events: the texts the theorems of VProps/C04.lean are not vacuous on, evaluated by the kernel
  (room version 10, toy hashes; the texts and hashes are defined at the end of VProps/C04.lean), and the refused texts of
  `corpus/C04/event.ops`.
-/
import VProps.C04
namespace V.C04
open V V.Json V.GoJson V.Redact V.EventParse V.RedactProofs V.EventProofs

/-- hash matches (`""` decodes to the empty digest `H0` returns): accepted, not redacted, content intact -/
example : (match parseUntrusted H0 b!"10" (exText "") with
  | .ok e => !e.redacted && e.f.type == b!"m.x" && (e.f.content.map encodeCanon == some b!"{\"body\":\"x\"}") && e.f.unsigned.isNone
  | _ => false) = true := by
  rw [exText_eq]
  decide +kernel

/-- hash does not match: accepted, redacted, content emptied -/
example : (match parseUntrusted H0 b!"10" (exText "QUJD") with
  | .ok e => e.redacted && e.f.type == b!"m.x" && (e.f.content.map encodeCanon == some b!"{}")
  | _ => false) = true := by
  rw [exText_eq]
  decide +kernel

/-! ## `tamper_redactable_same_identity`: instances

Toy hash `H1 b = [length of b mod 256]` (enough to tell the reference bytes apart).  Room version 10. -/

/-- A genuine event (hash matches) and a copy to which a member outside every keep-list was added (`Origin_`, not a
    case variant of any struct field).  The copy fails the hash check and is redacted; the extra member is dropped by
    the redaction, the two redactions are equal — and both get the same event ID, as the theorem says. -/
example : (match parseUntrusted H1 b!"10" (exEv "" "x" "hw"), parseUntrusted H1 b!"10" (exEv "\"Origin_\":\"$x\"," "x" "hw") with
  | .ok e, .ok t => !e.redacted && t.redacted && e.f.eventIDRaw == t.f.eventIDRaw && !e.f.eventIDRaw.isEmpty
  | _, _ => false) = true := by
  rw [exEv_eq, exEv_eq]
  decide +kernel

example : (match exRedaction (exEv "" "x" "hw"), exRedaction (exEv "\"Origin_\":\"$x\"," "x" "hw") with
  | some r1, some r2 => r1 == r2
  | _, _ => false) = true := by
  rw [exEv_eq, exEv_eq]
  decide +kernel

/-- A genuine event and a copy with only redactable content altered (hash mismatch, returned redacted): the same
    redaction and the same event ID. -/
example : (match parseUntrusted H1 b!"10" (exEv "" "x" "hw"), parseUntrusted H1 b!"10" (exEv "" "yy" "hw") with
  | .ok a, .ok b => !a.redacted && b.redacted && a.f.eventIDRaw == b.f.eventIDRaw && !a.f.eventIDRaw.isEmpty
  | _, _ => false) = true := by
  rw [exEv_eq, exEv_eq]
  decide +kernel

example : (match exRedaction (exEv "" "x" "hw"), exRedaction (exEv "" "yy" "hw") with
  | some r1, some r2 => r1 == r2
  | _, _ => false) = true := by
  rw [exEv_eq, exEv_eq]
  decide +kernel

/-! ## Texts that are refused (`checkUntrustedEventJSON`): the witnesses of `corpus/C04/event.ops`

The pair that was the counter-example of `tamper_redactable_same_identity` before the redaction repair — an event
whose SENDER put a case variant `Event_id` into it and hashed it — is no longer received at all; neither is an event
with a second `hashes` member (the content-forgery shape), nor one with a case variant of `type` or `room_id`. -/

example : refused (parseUntrusted H1 b!"10" (exEv "\"Event_id\":\"$x\"," "x" "lw")) = true := by
  rw [exEv_eq]
  decide +kernel
example : refused (parseUntrusted H1 b!"10" (exEv "\"hashes\":{\"sha256\":\"lw\"}," "x" "hw")) = true := by
  rw [exEv_eq]
  decide +kernel
example : refused (parseUntrusted H1 b!"10" (exEv "\"Type\":\"m.room.power_levels\"," "x" "hw")) = true := by
  rw [exEv_eq]
  decide +kernel
example : refused (parseUntrusted H1 b!"10" (exEv "\"Room_id\":\"!q:h\"," "x" "hw")) = true := by
  rw [exEv_eq]
  decide +kernel
example : refused (parseUntrusted H1 b!"10" (exEv "\"unsigned\":{},\"unsigned\":{\"a\":{\"k\":1,\"k\":2}}," "x" "hw")) = true := by
  rw [exEv_eq]
  decide +kernel

end V.C04
