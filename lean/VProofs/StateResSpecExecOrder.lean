/-
  C10, the EXECUTABLE rendering of the definition (`VModel/StateResSpecExec.lean`) against the Prop-level definition
  (`VModel/StateResSpec.lean`): the power order.  `powerOrder` (repeatedly take the greatest free event,
  building the order from its end) computes THE reverse topological power ordering of its input, for input whose
  events are identified by their IDs and whose auth graph is acyclic.
-/
import VModel.StateResSpecExec
import VProofs.StateResSpecOrder
import VProofs.StateResSort
import VProofs.StateResSpecExecSets
namespace V.StateResSpec.Exec
open V.StateRes (ID PowerKey powerLt StrictTotal powerLt_strictTotal KeyInj)

theorem distinct_nodup (l : List Event) : (distinct l).Nodup := (distinct_idNodup l).nodup

theorem isFree_iff (U : List Event) (x : Event) : isFree U x = true ↔ Free AuthChild U x := by
  unfold isFree Free AuthChild
  rw [List.all_eq_true]
  exact forall₂_congr fun a _ => V.StateRes.not_contains_iff _ _

theorem greatest_eq_none {lt : Event → Event → Bool} : ∀ {l : List Event}, greatest lt l = none → l = []
  | [], _ => rfl
  | x :: xs, h => by
    unfold greatest at h
    split at h
    · cases h
    · split at h <;> cases h

theorem acyclic_sub {U U' : List Event} (hsub : ∀ e ∈ U', e ∈ U)
    (hacyc : ∃ rk : ID → Nat, ∀ e ∈ U, ∀ p ∈ e.authEventIDs, (∃ e' ∈ U, e'.eventID = p) → rk p < rk e.eventID) :
    ∃ rk : ID → Nat, ∀ e ∈ U', ∀ p ∈ e.authEventIDs, (∃ e' ∈ U', e'.eventID = p) → rk p < rk e.eventID := by
  obtain ⟨rk, hrk⟩ := hacyc
  exact ⟨rk, fun e he p hp ⟨e', he', ee⟩ => hrk e (hsub e he) p hp ⟨e', hsub e' he', ee⟩⟩

theorem exists_free {U : List Event} (hne : U ≠ [])
    (hacyc : ∃ rk : ID → Nat, ∀ e ∈ U, ∀ p ∈ e.authEventIDs, (∃ e' ∈ U, e'.eventID = p) → rk p < rk e.eventID) :
    ∃ x ∈ U, Free AuthChild U x := by
  obtain ⟨rk, hrk⟩ := hacyc
  exact Lists.exists_no_child (fun e : Event => rk e.eventID) hne fun a ha x hx hc => hrk a ha _ hc ⟨x, hx, rfl⟩

section generic
variable {κ : Type} {ltK : κ → κ → Bool} {k : Event → κ} {lt : Event → Event → Bool}

theorem greatest_spec (hK : StrictTotal ltK) : ∀ {l : List Event} {x : Event},
    (∀ a ∈ l, ∀ b ∈ l, lt a b = ltK (k a) (k b)) → greatest lt l = some x →
    x ∈ l ∧ ∀ y ∈ l, ltK (k x) (k y) = false
  | [], _, _, h => by cases h
  | z :: zs, x, hlt, h => by
    have hlt' : ∀ a ∈ zs, ∀ b ∈ zs, lt a b = ltK (k a) (k b) :=
      fun a ha b hb => hlt a (List.mem_cons_of_mem _ ha) b (List.mem_cons_of_mem _ hb)
    unfold greatest at h
    split at h
    · rename_i hn
      have : zs = [] := greatest_eq_none hn
      subst this
      cases h
      refine ⟨List.mem_cons_self, ?_⟩
      intro y hy
      rcases List.mem_cons.mp hy with rfl | hy
      · exact hK.irrefl _
      · cases hy
    · rename_i y hy
      obtain ⟨hym, hymax⟩ := greatest_spec hK hlt' hy
      rw [hlt y (List.mem_cons_of_mem _ hym) z List.mem_cons_self] at h
      split at h
      · rename_i hyz
        cases h
        refine ⟨List.mem_cons_self, ?_⟩
        intro w hw
        rcases List.mem_cons.mp hw with rfl | hw
        · exact hK.irrefl _
        · cases hxw : ltK (k z) (k w) with
          | false => rfl
          | true =>
            have := hK.trans _ _ _ hyz hxw
            rw [hymax w hw] at this; cases this
      · rename_i hyz
        cases h
        refine ⟨List.mem_cons_of_mem _ hym, ?_⟩
        intro w hw
        rcases List.mem_cons.mp hw with rfl | hw
        · simpa using hyz
        · exact hymax w hw

end generic

theorem powerOrderAux_nil (lt : Event → Event → Bool) (n : Nat) (acc : List Event) :
    powerOrderAux lt n [] acc = acc := by
  cases n with
  | zero => rfl
  | succ n => rfl

theorem mem_remove_iff {U : List Event} {x : Event} (hid : ∀ a ∈ U, ∀ b ∈ U, a.eventID = b.eventID → a = b)
    (hx : x ∈ U) (y : Event) : y ∈ U.filter (fun y => !sameID x y) ↔ (y ∈ U ∧ y ≠ x) := by
  rw [List.mem_filter, not_sameID_iff]
  constructor
  · rintro ⟨hy, hne⟩
    exact ⟨hy, fun e => hne (by rw [e])⟩
  · rintro ⟨hy, hne⟩
    exact ⟨hy, fun e => hne (hid x hx y hy e).symm⟩

theorem length_remove_lt {U : List Event} {x : Event} (hx : x ∈ U) :
    (U.filter (fun y => !sameID x y)).length < U.length := by
  apply List.length_filter_lt_length_iff_exists.mpr
  exact ⟨x, hx, by simp [sameID]⟩

section run
variable {κ : Type} {ltK : κ → κ → Bool} {k : Event → κ} {lt : Event → Event → Bool}

theorem round_spec (hK : StrictTotal ltK) {U : List Event}
    (hlt : ∀ a ∈ U, ∀ b ∈ U, lt a b = ltK (k a) (k b)) (hkey : KeyInj k U)
    (hacyc : ∃ rk : ID → Nat, ∀ e ∈ U, ∀ p ∈ e.authEventIDs, (∃ e' ∈ U, e'.eventID = p) → rk p < rk e.eventID)
    (hne : U ≠ []) :
    ∃ x, greatest lt (U.filter (isFree U)) = some x ∧ x ∈ U ∧ Free AuthChild U x ∧
      ∀ y ∈ U, y ≠ x → Free AuthChild U y → ltK (k y) (k x) = true := by
  obtain ⟨x0, hx0, hf0⟩ := exists_free hne hacyc
  have hmem0 : x0 ∈ U.filter (isFree U) := List.mem_filter.mpr ⟨hx0, (isFree_iff U x0).mpr hf0⟩
  cases hg : greatest lt (U.filter (isFree U)) with
  | none =>
    rw [greatest_eq_none hg] at hmem0
    cases hmem0
  | some x =>
    have hlt' : ∀ a ∈ U.filter (isFree U), ∀ b ∈ U.filter (isFree U), lt a b = ltK (k a) (k b) :=
      fun a ha b hb => hlt a (List.mem_filter.mp ha).1 b (List.mem_filter.mp hb).1
    obtain ⟨hxm, hmax⟩ := greatest_spec hK hlt' hg
    have hxU := (List.mem_filter.mp hxm).1
    refine ⟨x, rfl, hxU, (isFree_iff U x).mp (List.mem_filter.mp hxm).2, ?_⟩
    intro y hy hne' hfy
    have h1 := hmax y (List.mem_filter.mpr ⟨hy, (isFree_iff U y).mpr hfy⟩)
    cases h2 : ltK (k y) (k x) with
    | true => rfl
    | false => exact absurd (hkey y hy x hxU (hK.total _ _ h2 h1)) hne'

theorem powerOrderAux_run (hK : StrictTotal ltK) (U0 : List Event)
    (hlt : ∀ a ∈ U0, ∀ b ∈ U0, lt a b = ltK (k a) (k b)) (hkey : KeyInj k U0)
    (hid : ∀ a ∈ U0, ∀ b ∈ U0, a.eventID = b.eventID → a = b)
    (hacyc : ∃ rk : ID → Nat, ∀ e ∈ U0, ∀ p ∈ e.authEventIDs, (∃ e' ∈ U0, e'.eventID = p) → rk p < rk e.eventID) :
    ∀ (n : Nat) (U acc : List Event), (∀ a ∈ U, a ∈ U0) → U.length ≤ n →
      ∃ placed, powerOrderAux lt n U acc = placed ++ acc ∧
        IsPowerOrder (fun a b => ltK (k a) (k b) = true) AuthChild U placed := by
  intro n
  induction n with
  | zero =>
    intro U acc _ hl
    have : U = [] := List.eq_nil_of_length_eq_zero (by omega)
    subst this
    exact ⟨[], rfl, IsPowerOrder.nil _ _⟩
  | succ n ih =>
    intro U acc hsub hl
    by_cases hne : U = []
    · subst hne
      exact ⟨[], powerOrderAux_nil _ _ _, IsPowerOrder.nil _ _⟩
    · have hltU : ∀ a ∈ U, ∀ b ∈ U, lt a b = ltK (k a) (k b) := fun a ha b hb => hlt a (hsub a ha) b (hsub b hb)
      have hkeyU : KeyInj k U := fun a ha b hb => hkey a (hsub a ha) b (hsub b hb)
      have hidU : ∀ a ∈ U, ∀ b ∈ U, a.eventID = b.eventID → a = b := fun a ha b hb => hid a (hsub a ha) b (hsub b hb)
      obtain ⟨x, hg, hxU, hfx, hmax⟩ := round_spec hK hltU hkeyU (acyclic_sub hsub hacyc) hne
      have hrem := mem_remove_iff hidU hxU
      have hlen := length_remove_lt hxU
      obtain ⟨placed', hrun, hpo⟩ := ih (U.filter (fun y => !sameID x y)) (x :: acc)
        (fun a ha => hsub a (List.mem_filter.mp ha).1) (by omega)
      have hin : ∀ y, y ∈ U ↔ (y ∈ U.filter (fun y => !sameID x y) ∨ y = x) := by
        intro y
        rw [hrem]
        by_cases e : y = x
        · simp [e, hxU]
        · simp [e]
      refine ⟨placed' ++ [x], ?_, IsPowerOrder.snoc hpo hin (fun h => ((hrem x).mp h).2 rfl) hfx hmax⟩
      show (match greatest lt (U.filter (isFree U)) with
        | none => acc
        | some x => powerOrderAux lt n (U.filter (fun y => !sameID x y)) (x :: acc)) = _
      rw [hg]
      simp only [hrun, List.append_assoc, List.cons_append, List.nil_append]

theorem powerOrderAux_spec (hK : StrictTotal ltK) (U : List Event) (hlt : ∀ a ∈ U, ∀ b ∈ U, lt a b = ltK (k a) (k b))
    (hkey : KeyInj k U) (hid : ∀ a ∈ U, ∀ b ∈ U, a.eventID = b.eventID → a = b)
    (hacyc : ∃ rk : ID → Nat, ∀ e ∈ U, ∀ p ∈ e.authEventIDs, (∃ e' ∈ U, e'.eventID = p) → rk p < rk e.eventID) :
    IsPowerOrder (fun a b => ltK (k a) (k b) = true) AuthChild U (powerOrderAux lt U.length U []) := by
  obtain ⟨placed, hrun, hpo⟩ := powerOrderAux_run hK U hlt hkey hid hacyc U.length U [] (fun _ h => h) (Nat.le_refl _)
  rw [hrun, List.append_nil]
  exact hpo

end run

/-- looking an event of `U` up by its ID in the table built from `U` returns its own entry -/
theorem keyTable_find {κ : Type} (f : Event → κ) {U : List Event}
    (hid : ∀ a ∈ U, ∀ b ∈ U, a.eventID = b.eventID → a = b) {e : Event} (he : e ∈ U) :
    (((U.map (fun e => (e.eventID, f e))).find? (fun k => k.1 == e.eventID)).map (·.2)).getD (f e) = f e := by
  cases hf : (U.map (fun e => (e.eventID, f e))).find? (fun k => k.1 == e.eventID) with
  | none => rfl
  | some r =>
    obtain ⟨e', he', rfl⟩ := List.mem_map.mp (List.mem_of_find?_eq_some hf)
    have hr : e'.eventID = e.eventID := by simpa using List.find?_some hf
    rw [hid e' he' e he hr]
    rfl

theorem powerOrder_is_power_order (m : List Event) (createEv : Option Event) (input : List Event)
    (hid : ∀ a ∈ input, ∀ b ∈ input, a.eventID = b.eventID → a = b)
    (hacyc : ∃ rk : ID → Nat, ∀ e ∈ input, ∀ p ∈ e.authEventIDs, (∃ e' ∈ input, e'.eventID = p) → rk p < rk e.eventID) :
    IsReverseTopoPowerOrder m createEv input (powerOrder m createEv input) := by
  have hidU : ∀ a ∈ distinct input, ∀ b ∈ distinct input, a.eventID = b.eventID → a = b :=
    fun a ha b hb => hid a (mem_of_mem_distinct ha) b (mem_of_mem_distinct hb)
  have hacU := acyclic_sub (U' := distinct input) (fun _ => mem_of_mem_distinct) hacyc
  have hkey : KeyInj (powerKey m createEv) (distinct input) := by
    intro a ha b hb e
    exact hidU a ha b hb (congrArg PowerKey.id e)
  refine (powerOrderAux_spec (k := powerKey m createEv) powerLt_strictTotal (distinct input) ?_ hkey hidU hacU).congr_input
    fun x => mem_distinct (U := (· ∈ input)) (fun a b ha hb => hid a ha b hb) (fun _ h => h)
  intro a ha b hb
  show powerLt (Option.getD _ _) (Option.getD _ _) = _
  rw [keyTable_find (powerKey m createEv) hidU ha, keyTable_find (powerKey m createEv) hidU hb]

theorem powerOrder_unique (m : List Event) (createEv : Option Event) (input out : List Event)
    (hid : ∀ a ∈ input, ∀ b ∈ input, a.eventID = b.eventID → a = b)
    (hacyc : ∃ rk : ID → Nat, ∀ e ∈ input, ∀ p ∈ e.authEventIDs, (∃ e' ∈ input, e'.eventID = p) → rk p < rk e.eventID)
    (h : IsReverseTopoPowerOrder m createEv input out) : out = powerOrder m createEv input := by
  refine IsPowerOrder.functional ?_ h (powerOrder_is_power_order m createEv input hid hacyc)
  intro a b hab hba
  have := powerLt_strictTotal.asymm _ _ hab
  rw [show powerLt (powerKey m createEv b) (powerKey m createEv a) = true from hba] at this
  cases this

end V.StateResSpec.Exec
