/- Number literals: the grammar `parseNumber` accepts, as an explicit decomposition
   (sign, integer part, fraction, exponent), in both directions. -/
import VModel.Json
import VProofs.Guard
import VProofs.Lists
namespace V.Json

def allDigits (l : Bytes) : Prop := ∀ c ∈ l, isDigit c = true

def headOk (P : UInt8 → Bool) : Bytes → Bool
  | [] => true
  | c :: _ => P c

@[simp] theorem headOk_nil (P : UInt8 → Bool) : headOk P [] = true := rfl
@[simp] theorem headOk_cons (P : UInt8 → Bool) (c : UInt8) (r : Bytes) : headOk P (c :: r) = P c := rfl

theorem headOk_eq (P : UInt8 → Bool) (r : Bytes) : headOk P r = r.head?.all P := by cases r <;> rfl

def notDot (c : UInt8) : Bool := !(c == 0x2E)
def notE (c : UInt8) : Bool := !(c == 0x65 || c == 0x45)
def notDigit (c : UInt8) : Bool := !isDigit c
def notMinus (c : UInt8) : Bool := !(c == 0x2D)

theorem takeDigits_eq : ∀ s : Bytes, takeDigits s = (s.takeWhile isDigit, s.dropWhile isDigit)
  | [] => rfl
  | c :: s => by
    rw [takeDigits, takeDigits_eq s, List.takeWhile_cons, List.dropWhile_cons]
    cases isDigit c <;> rfl

theorem takeDigits_spec {s d r : Bytes} (h : takeDigits s = (d, r)) : s = d ++ r ∧ allDigits d := by
  rw [takeDigits_eq] at h; cases h
  exact ⟨List.takeWhile_append_dropWhile.symm, List.all_eq_true.mp List.all_takeWhile⟩

theorem takeDigits_append (d r : Bytes) (hd : allDigits d) (hr : headOk notDigit r = true) :
    takeDigits (d ++ r) = (d, r) := by
  rw [headOk_eq] at hr
  rw [takeDigits_eq, (Lists.span_append hd hr).1, (Lists.span_append hd hr).2]

theorem takeDigits_all (s : Bytes) (h : s.all isDigit = true) : takeDigits s = (s, []) := by
  simpa using takeDigits_append s [] (List.all_eq_true.mp h) rfl

/-! ### The parts of a literal -/

def IntPart (ip : Bytes) : Prop :=
  ip = [0x30] ∨ ∃ c ds, ip = c :: ds ∧ isDigit c = true ∧ (c == 0x30) = false ∧ allDigits ds
def FracPart (fp : Bytes) : Prop :=
  fp = [] ∨ ∃ c ds, fp = 0x2E :: c :: ds ∧ allDigits (c :: ds)
def ExpSign (sg : Bytes) : Prop := sg = [] ∨ sg = [0x2B] ∨ sg = [0x2D]
def ExpPart (ep : Bytes) : Prop :=
  ep = [] ∨ ∃ e sg c ds, ep = e :: sg ++ c :: ds ∧ (e = 0x65 ∨ e = 0x45) ∧ ExpSign sg ∧ allDigits (c :: ds)
def SignPart (sg : Bytes) : Prop := sg = [] ∨ sg = [0x2D]

theorem parseSign_spec {s sg s1 : Bytes} (h : parseSign s = (sg, s1)) :
    s = sg ++ s1 ∧ SignPart sg := by
  rcases s with _ | ⟨c, r⟩
  · cases h; exact ⟨rfl, .inl rfl⟩
  rw [parseSign] at h
  rcases Guard.ite_cases h with ⟨hc, h⟩ | ⟨hc, h⟩ <;> cases h
  · cases eq_of_beq hc; exact ⟨rfl, .inr rfl⟩
  · exact ⟨rfl, .inl rfl⟩

theorem parseInt_spec {s ip s2 : Bytes} (h : parseInt s = some (ip, s2)) : s = ip ++ s2 ∧ IntPart ip := by
  rcases s with _ | ⟨c, r⟩
  · cases h
  rw [parseInt] at h
  rcases Guard.ite_cases h with ⟨hc, h⟩ | ⟨hc, h⟩
  · cases eq_of_beq hc; cases h; exact ⟨rfl, .inl rfl⟩
  obtain ⟨hd, h⟩ := Guard.some_of_else_none h
  rw [takeDigits, if_pos hd] at h
  cases h
  obtain ⟨h1, h2⟩ := takeDigits_spec (s := r) rfl
  exact ⟨congrArg (c :: ·) h1, .inr ⟨c, _, rfl, hd, by simpa using hc, h2⟩⟩

theorem parseFrac_spec {s fp s3 : Bytes} (h : parseFrac s = some (fp, s3)) :
    s = fp ++ s3 ∧ FracPart fp ∧ (fp = [] → headOk notDot s3 = true) := by
  rcases s with _ | ⟨c, r⟩
  · cases h; exact ⟨rfl, .inl rfl, fun _ => rfl⟩
  rw [parseFrac] at h
  rcases Guard.ite_cases h with ⟨hc, h⟩ | ⟨hc, h⟩
  · cases eq_of_beq hc
    generalize hq : takeDigits r = q at h
    obtain ⟨h1, h2⟩ := takeDigits_spec hq
    rcases q with ⟨_ | ⟨x, ds⟩, r'⟩ <;> cases h
    exact ⟨congrArg (0x2E :: ·) h1, .inr ⟨x, ds, rfl, h2⟩, nofun⟩
  · cases h; exact ⟨rfl, .inl rfl, fun _ => by simpa [notDot] using hc⟩

theorem parseExpSign_spec {r sg r1 : Bytes} (h : parseExpSign r = (sg, r1)) :
    r = sg ++ r1 ∧ ExpSign sg := by
  rcases r with _ | ⟨g, r⟩
  · cases h; exact ⟨rfl, .inl rfl⟩
  rw [parseExpSign] at h
  rcases Guard.ite_cases h with ⟨hg, h⟩ | ⟨-, h⟩ <;> cases h
  · simp only [Bool.or_eq_true, beq_iff_eq] at hg
    rcases hg with rfl | rfl
    · exact ⟨rfl, .inr (.inl rfl)⟩
    · exact ⟨rfl, .inr (.inr rfl)⟩
  · exact ⟨rfl, .inl rfl⟩

theorem parseExp_spec {s ep s4 : Bytes} (h : parseExp s = some (ep, s4)) :
    s = ep ++ s4 ∧ ExpPart ep ∧ (ep = [] → headOk notE s4 = true) := by
  rcases s with _ | ⟨e, r⟩
  · cases h; exact ⟨rfl, .inl rfl, fun _ => rfl⟩
  rw [parseExp] at h
  rcases Guard.ite_cases h with ⟨he, h⟩ | ⟨he, h⟩
  · generalize hsr : parseExpSign r = sr at h
    obtain ⟨g1, g2⟩ := parseExpSign_spec hsr
    dsimp only at h
    generalize hq : takeDigits sr.2 = q at h
    obtain ⟨h1, h2⟩ := takeDigits_spec hq
    rcases q with ⟨_ | ⟨x, ds⟩, r2⟩ <;> cases h
    simp only [Bool.or_eq_true, beq_iff_eq] at he
    exact ⟨by rw [g1, h1]; simp, .inr ⟨e, sr.1, x, ds, rfl, he, g2, h2⟩, nofun⟩
  · cases h; exact ⟨rfl, .inl rfl, fun _ => by simpa [notE] using he⟩

/-- The decomposition of a literal the parser accepted. -/
structure NumParts (sign ip fp ep : Bytes) : Prop where
  sign : SignPart sign
  ip : IntPart ip
  fp : FracPart fp
  ep : ExpPart ep

theorem parseNumber_parts {s lit s4 : Bytes} (h : parseNumber s = some (lit, s4)) :
    ∃ sign ip fp ep, NumParts sign ip fp ep ∧ lit = sign ++ ip ++ fp ++ ep ∧ s = lit ++ s4 ∧
      (fp = [] → ep = [] → headOk notDot s4 = true ∧ headOk notE s4 = true) := by
  unfold parseNumber at h
  generalize hss : parseSign s = ss at h
  obtain ⟨sign, s1⟩ := ss
  simp only at h
  split at h
  · cases h
  · rename_i ip s2 hi
    split at h
    · cases h
    · rename_i fp s3 hf
      split at h
      · cases h
      · rename_i ep s4' he
        simp only [Option.some.injEq, Prod.mk.injEq] at h; obtain ⟨rfl, rfl⟩ := h
        obtain ⟨a1, a2⟩ := parseSign_spec hss
        obtain ⟨b1, b2⟩ := parseInt_spec hi
        obtain ⟨c1, c2, c3⟩ := parseFrac_spec hf
        obtain ⟨d1, d2, d3⟩ := parseExp_spec he
        refine ⟨sign, ip, fp, ep, ⟨a2, b2, c2, d2⟩, rfl, by simp [a1, b1, c1, d1], ?_⟩
        intro hfp hep
        subst hfp hep
        simp only [List.nil_append] at c1 d1
        subst d1 c1
        exact ⟨c3 rfl, d3 rfl⟩

/-! ### From the parts back to the parser -/

/-- A byte that cannot continue a number literal. -/
def numStop (c : UInt8) : Bool := !isDigit c && !(c == 0x2E) && !(c == 0x65) && !(c == 0x45)

theorem ne_of_range {c lo hi k : UInt8} (h1 : lo ≤ c) (h2 : c ≤ hi) (hk : k < lo ∨ hi < k) : (c == k) = false := by
  rw [beq_eq_false_iff_ne]
  rintro rfl
  rcases hk with hk | hk
  · exact absurd h1 (UInt8.not_le.mpr hk)
  · exact absurd h2 (UInt8.not_le.mpr hk)

theorem digit_facts {c : UInt8} (h : isDigit c = true) :
    (c == 0x2D) = false ∧ (c == 0x2B) = false ∧ (c == 0x2E) = false ∧ (c == 0x65) = false ∧ (c == 0x45) = false
      ∧ (c == 0x22) = false ∧ ¬ c ≤ 0x20 := by
  simp only [isDigit, Bool.and_eq_true, decide_eq_true_eq] at h
  have ne : ∀ k : UInt8, k < 0x30 ∨ 0x39 < k → (c == k) = false := fun k => ne_of_range h.1 h.2
  exact ⟨ne _ (by decide), ne _ (by decide), ne _ (by decide), ne _ (by decide), ne _ (by decide), ne _ (by decide),
    fun hle => absurd (UInt8.le_trans h.1 hle) (by decide)⟩

theorem numHead_facts {c : UInt8} (hc : (c == 0x2D || isDigit c) = true) :
    isWs c = false ∧ ∀ k : UInt8, k < 0x2D ∨ 0x39 < k → (c == k) = false := by
  have range : 0x2D ≤ c ∧ c ≤ 0x39 := by
    simp only [Bool.or_eq_true, beq_iff_eq, isDigit, Bool.and_eq_true, decide_eq_true_eq] at hc
    rcases hc with rfl | hc
    · decide
    · exact ⟨UInt8.le_trans (by decide) hc.1, hc.2⟩
  have ne : ∀ k : UInt8, k < 0x2D ∨ 0x39 < k → (c == k) = false := fun k => ne_of_range range.1 range.2
  exact ⟨by simp only [isWs, ne 0x20 (by decide), ne 0x09 (by decide), ne 0x0A (by decide), ne 0x0D (by decide),
    Bool.or_self], ne⟩

theorem parseSign_of {sg : Bytes} (X : Bytes) (h : SignPart sg) (hx : sg = [] → headOk notMinus X = true) :
    parseSign (sg ++ X) = (sg, X) := by
  rcases h with rfl | rfl
  · have := hx rfl
    cases X with
    | nil => rfl
    | cons c r =>
      simp only [headOk_cons, notMinus, Bool.not_eq_true'] at this
      simp [parseSign, this]
  · simp [parseSign]

theorem parseInt_of {ip : Bytes} (X : Bytes) (h : IntPart ip) (hx : headOk notDigit X = true) :
    parseInt (ip ++ X) = some (ip, X) := by
  rcases h with rfl | ⟨c, ds, rfl, hc, hz, hds⟩
  · simp [parseInt]
  · have : takeDigits (c :: ds ++ X) = (c :: ds, X) :=
      takeDigits_append (c :: ds) X (List.forall_mem_cons.mpr ⟨hc, hds⟩) hx
    simp only [List.cons_append] at this
    simp [parseInt, hz, hc, this]

theorem parseFrac_of {fp : Bytes} (X : Bytes) (h : FracPart fp) (hx : fp = [] → headOk notDot X = true)
    (hd : headOk notDigit X = true) : parseFrac (fp ++ X) = some (fp, X) := by
  rcases h with rfl | ⟨c, ds, rfl, hds⟩
  · have := hx rfl
    cases X with
    | nil => rfl
    | cons c r =>
      simp only [headOk_cons, notDot, Bool.not_eq_true'] at this
      simp [parseFrac, this]
  · have : takeDigits (c :: ds ++ X) = (c :: ds, X) := takeDigits_append (c :: ds) X hds hd
    simp only [List.cons_append] at this
    simp [parseFrac, this]

theorem parseExpSign_of {sg : Bytes} (c : UInt8) (X : Bytes) (h : ExpSign sg) (hc : isDigit c = true) :
    parseExpSign (sg ++ c :: X) = (sg, c :: X) := by
  obtain ⟨h1, h2, _⟩ := digit_facts hc
  rcases h with rfl | rfl | rfl
  · simp [parseExpSign, h1, h2]
  · simp [parseExpSign]
  · simp [parseExpSign]

theorem parseExp_of {ep : Bytes} (X : Bytes) (h : ExpPart ep) (hx : ep = [] → headOk notE X = true)
    (hd : headOk notDigit X = true) : parseExp (ep ++ X) = some (ep, X) := by
  rcases h with rfl | ⟨e, sg, c, ds, rfl, he, hsg, hds⟩
  · have := hx rfl
    cases X with
    | nil => rfl
    | cons c r =>
      simp only [headOk_cons, notE, Bool.not_eq_true'] at this
      simp only [List.nil_append, parseExp, this]
      rfl
  · have h1 : takeDigits (c :: ds ++ X) = (c :: ds, X) := takeDigits_append (c :: ds) X hds hd
    have h2 := parseExpSign_of c (ds ++ X) hsg (hds c List.mem_cons_self)
    have he' : (e == 0x65 || e == 0x45) = true := by rcases he with rfl | rfl <;> rfl
    simp only [List.cons_append] at h1
    simp only [List.cons_append, List.append_assoc, parseExp, he', ↓reduceIte, h2, h1]
    simp

theorem parseNumber_of_parts {sign ip fp ep : Bytes} (s4 : Bytes) (h : NumParts sign ip fp ep)
    (hs : headOk numStop s4 = true) :
    parseNumber (sign ++ ip ++ fp ++ ep ++ s4) = some (sign ++ ip ++ fp ++ ep, s4) := by
  have s1 : headOk notDigit s4 = true ∧ headOk notDot s4 = true ∧ headOk notE s4 = true := by
    cases s4 with
    | nil => exact ⟨rfl, rfl, rfl⟩
    | cons c r =>
      simp only [headOk_cons, numStop, Bool.and_eq_true, Bool.not_eq_true'] at hs
      obtain ⟨⟨⟨a, b⟩, c'⟩, d⟩ := hs
      simp [notDigit, notDot, notE, a, b, c', d]
  -- head conditions of the successive rests
  have e1 : headOk notDigit (ep ++ s4) = true ∧ headOk notDot (ep ++ s4) = true := by
    rcases h.ep with rfl | ⟨e, sg, c, ds, rfl, he, _, _⟩
    · exact ⟨s1.1, s1.2.1⟩
    · rcases he with rfl | rfl <;> exact ⟨rfl, rfl⟩
  have f1 : headOk notDigit (fp ++ (ep ++ s4)) = true := by
    rcases h.fp with rfl | ⟨c, ds, rfl, _⟩
    · exact e1.1
    · rfl
  have i1 : headOk notMinus (ip ++ (fp ++ (ep ++ s4))) = true := by
    rcases h.ip with rfl | ⟨c, ds, rfl, hc, _, _⟩
    · rfl
    · simp [notMinus, (digit_facts hc).1]
  unfold parseNumber
  simp only [List.append_assoc]
  rw [parseSign_of _ h.sign (fun _ => i1)]
  simp only []
  rw [parseInt_of _ h.ip f1]
  simp only []
  rw [parseFrac_of _ h.fp (fun _ => e1.2) e1.1]
  simp only []
  rw [parseExp_of _ h.ep (fun _ => s1.2.2) s1.1]

/-- What the parser accepts at the head of an input is a complete literal on its own. -/
theorem parseNumber_isNumLit {s lit s4 : Bytes} (h : parseNumber s = some (lit, s4)) : isNumLit lit = true := by
  obtain ⟨sign, ip, fp, ep, hp, rfl, _, _⟩ := parseNumber_parts h
  have := parseNumber_of_parts [] hp rfl
  simp only [List.append_nil] at this
  simp only [isNumLit, this, beq_self_eq_true]

theorem parseNumber_append {lit : Bytes} (rest : Bytes) (h : isNumLit lit = true) (hs : headOk numStop rest = true) :
    parseNumber (lit ++ rest) = some (lit, rest) := by
  simp only [isNumLit, beq_iff_eq] at h
  obtain ⟨sign, ip, fp, ep, hp, rfl, _, _⟩ := parseNumber_parts h
  exact parseNumber_of_parts rest hp hs

theorem isNumLit_head {lit : Bytes} (h : isNumLit lit = true) :
    ∃ c l, lit = c :: l ∧ (c == 0x2D || isDigit c) = true := by
  simp only [isNumLit, beq_iff_eq] at h
  obtain ⟨sign, ip, fp, ep, hp, rfl, _, _⟩ := parseNumber_parts h
  rcases hp.sign with rfl | rfl
  · rcases hp.ip with rfl | ⟨c, ds, rfl, hc, _, _⟩
    · exact ⟨0x30, _, rfl, rfl⟩
    · exact ⟨c, _, rfl, by simp [hc]⟩
  · exact ⟨0x2D, _, rfl, rfl⟩

end V.Json
