/-
  Version 1 state resolution: the public entry point `resolveConflictsNew` for room versions using state
  resolution algorithm 1: the resolved conflicted events followed by the unconflicted events.
-/
import VProofs.StateResV1f
import VProofs.StateResSplit
namespace V.StateRes
open List

/-- the resolved state for algorithm 1, as events -/
def v1Resolved (sha : ID → Bytes) (sets : List (List Event)) (auth : List Event) : List Event :=
  resolveV1 sha (splitConflictedUnconflicted true sets).1 auth ++ (splitConflictedUnconflicted true sets).2

theorem resolveConflictsNew_v1 (sha : ID → Bytes) (ver : Bytes) (sets : List (List Event)) (auth : List Event)
    (rejected : List ID) {row : VGen.VersionRow} (hv : versionRow? ver = some row) (ha : row.stateResAlgorithm = 1) :
    resolveConflictsNew sha ver sets auth rejected = some ((v1Resolved sha sets auth).map (·.eventID)) := by
  unfold resolveConflictsNew
  rw [hv]
  simp only [ha, beq_self_eq_true, if_true]
  rfl

theorem v1Resolved_subset_inputs {sha : ID → Bytes} {sets : List (List Event)} {auth : List Event} {e : Event}
    (h : e ∈ v1Resolved sha sets auth) : e ∈ sets.flatten ∧ e.stateKey.isSome := by
  unfold v1Resolved at h
  rcases List.mem_append.mp h with h | h
  · exact split_sub true sets (Or.inl (v1_result_subset_inputs h).1)
  · exact split_sub true sets (Or.inr h)

theorem v1Resolved_unique_keys (sha : ID → Bytes) (sets : List (List Event)) (auth : List Event) :
    ((v1Resolved sha sets auth).map keyOf).Nodup := by
  unfold v1Resolved
  rw [List.map_append, List.nodup_append]
  refine ⟨v1_result_unique_keys sha _ auth, split_unconflicted_keys true sets, ?_⟩
  intro K hK K' hK' heq
  subst heq
  obtain ⟨a, ha, rfl⟩ := List.mem_map.mp hK
  obtain ⟨b, hb, hab⟩ := List.mem_map.mp hK'
  have ha' := (v1_result_subset_inputs ha).1
  obtain ⟨_, hc⟩ := (mem_split_conflicted true sets a).mp ha'
  obtain ⟨_, hl, _⟩ := (mem_split_unconflicted true sets b).mp hb
  rw [hab] at hl
  rcases hc with hc | ⟨hc, _⟩
  · omega
  · cases hc

/-- `hid`: the split keeps the first event per event ID; two different events with one ID could have different keys. -/
theorem v1Resolved_keys_complete (sha : ID → Bytes) {sets : List (List Event)} (auth : List Event)
    (hid : IdsIn sets.flatten) (K : Bytes × Bytes) :
    K ∈ (v1Resolved sha sets auth).map keyOf ↔ ∃ e ∈ sets.flatten, e.stateKey.isSome ∧ keyOf e = K := by
  constructor
  · intro h
    obtain ⟨e, he, rfl⟩ := List.mem_map.mp h
    obtain ⟨h1, h2⟩ := v1Resolved_subset_inputs he
    exact ⟨e, h1, h2, rfl⟩
  · rintro ⟨e, he, hs, rfl⟩
    have hd : e ∈ distinctStateEvents sets := by
      rw [distinctStateEvents_eq, List.mem_filter]; exact ⟨mem_eventMap_of_mem hid he, hs⟩
    unfold v1Resolved
    rw [List.map_append, List.mem_append]
    rcases split_cover true sets hd with h | h
    · exact Or.inl ((v1_result_keys_complete sha _ auth _).mpr ⟨e, h, hs, rfl⟩)
    · exact Or.inr (List.mem_map_of_mem h)

/-- **Order independence of `ResolveConflictsNew` for algorithm 1**: rearranging the state sets, the events inside each
    state set, and the auth events (also repeating them) permutes the result. -/
theorem v1Resolved_perm_invariant (sha : ID → Bytes) {U : Event → Prop} (hU : EvId U) {sets sets' : List (List Event)}
    {auth auth' : List Event} (hs : ∀ s ∈ sets, ∀ x ∈ s, U x) (h : SetsEquiv sets sets') (ha : SameSet auth auth')
    (P1 : SlotInj auth) (P3 : CandInj sha (splitConflictedUnconflicted true sets).1) :
    v1Resolved sha sets auth ~ v1Resolved sha sets' auth' := by
  obtain ⟨h1, h2⟩ := split_perm_of_setsEquiv hU true hs h
  exact (v1_perm_invariant sha h1 ha P1 P3).append h2

theorem resolveConflictsNew_v1_perm_invariant (sha : ID → Bytes) (ver : Bytes) {row : VGen.VersionRow}
    (hv : versionRow? ver = some row) (hr : row.stateResAlgorithm = 1) {U : Event → Prop} (hU : EvId U)
    {sets sets' : List (List Event)} {auth auth' : List Event} (rejected rejected' : List ID)
    (hs : ∀ s ∈ sets, ∀ x ∈ s, U x) (h : SetsEquiv sets sets') (ha : SameSet auth auth')
    (P1 : SlotInj auth) (P3 : CandInj sha (splitConflictedUnconflicted true sets).1) :
    ∃ l l', resolveConflictsNew sha ver sets auth rejected = some l ∧
      resolveConflictsNew sha ver sets' auth' rejected' = some l' ∧ l ~ l' :=
  ⟨_, _, resolveConflictsNew_v1 sha ver sets auth rejected hv hr, resolveConflictsNew_v1 sha ver sets' auth' rejected' hv hr,
    (v1Resolved_perm_invariant sha hU hs h ha P1 P3).map _⟩

theorem v1Resolved_nodup (sha : ID → Bytes) (sets : List (List Event)) (auth : List Event) :
    (v1Resolved sha sets auth).Nodup := Lists.nodup_of_nodup_map keyOf (v1Resolved_unique_keys sha sets auth)

end V.StateRes
