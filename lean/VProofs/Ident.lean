import VModel.Ident
import VProofs.Lists
namespace V.Ident

theorem not_mem_cons {sep c : UInt8} {cs : BS} (h : sep ∉ c :: cs) : (c == sep) = false ∧ sep ∉ cs := by
  simp only [List.mem_cons, not_or] at h
  exact ⟨by simpa using fun e => h.1 e.symm, h.2⟩

theorem cut_of_not_mem {sep : UInt8} : ∀ {s : BS}, sep ∉ s → cut sep s = none
  | [], _ => rfl
  | c :: cs, h => by
    obtain ⟨hc, h⟩ := not_mem_cons h
    simp [cut, hc, cut_of_not_mem h]

theorem cut_of_decomp {sep : UInt8} : ∀ {a b : BS}, sep ∉ a → cut sep (a ++ sep :: b) = some (a, b)
  | [], b, _ => by simp [cut]
  | c :: a, b, h => by
    obtain ⟨hc, h⟩ := not_mem_cons h
    simp [cut, hc, cut_of_decomp h]

theorem cut_none {sep : UInt8} {s : BS} (h : cut sep s = none) : sep ∉ s := fun hm => by
  obtain ⟨a, b, rfl, hn⟩ := List.eq_append_cons_of_mem hm
  rw [cut_of_decomp hn] at h; cases h

theorem cut_spec {sep : UInt8} {s a b : BS} (h : cut sep s = some (a, b)) : s = a ++ sep :: b ∧ sep ∉ a := by
  by_cases hm : sep ∈ s
  · obtain ⟨a', b', rfl, hn⟩ := List.eq_append_cons_of_mem hm
    rw [cut_of_decomp hn] at h
    cases h; exact ⟨rfl, hn⟩
  · rw [cut_of_not_mem hm] at h; cases h

theorem first_field (sep : UInt8) (s : BS) :
    ∃ f0 rest', s = f0 ++ rest' ∧ sep ∉ f0 ∧ (rest' = [] ∨ ∃ t, rest' = sep :: t) := by
  cases h : cut sep s with
  | none => exact ⟨s, [], by simp, cut_none h, Or.inl rfl⟩
  | some p =>
    obtain ⟨a, b⟩ := p
    obtain ⟨h1, h2⟩ := cut_spec h
    exact ⟨a, sep :: b, h1, h2, Or.inr ⟨b, rfl⟩⟩

theorem cutLast_of_not_mem {sep : UInt8} : ∀ {s : BS}, sep ∉ s → cutLast sep s = none
  | [], _ => rfl
  | c :: cs, h => by
    obtain ⟨hc, h⟩ := not_mem_cons h
    simp [cutLast, hc, cutLast_of_not_mem h]

theorem cutLast_of_decomp {sep : UInt8} : ∀ {a b : BS}, sep ∉ b → cutLast sep (a ++ sep :: b) = some (a, b)
  | [], b, h => by simp [cutLast, cutLast_of_not_mem h]
  | c :: a, b, h => by simp [cutLast, cutLast_of_decomp (a := a) h]

/-- `List.eq_append_cons_of_mem` on the reversed list -/
theorem eq_append_cons_of_mem_last {sep : UInt8} {s : BS} (hm : sep ∈ s) : ∃ a b, s = a ++ sep :: b ∧ sep ∉ b := by
  obtain ⟨a, b, h, hn⟩ := List.eq_append_cons_of_mem (List.mem_reverse.mpr hm)
  exact ⟨b.reverse, a.reverse, by simpa using congrArg List.reverse h, by simpa using hn⟩

theorem cutLast_none {sep : UInt8} {s : BS} (h : cutLast sep s = none) : sep ∉ s := fun hm => by
  obtain ⟨a, b, rfl, hn⟩ := eq_append_cons_of_mem_last hm
  rw [cutLast_of_decomp hn] at h; cases h

theorem cutLast_spec {sep : UInt8} {s a b : BS} (h : cutLast sep s = some (a, b)) : s = a ++ sep :: b ∧ sep ∉ b := by
  by_cases hm : sep ∈ s
  · obtain ⟨a', b', rfl, hn⟩ := eq_append_cons_of_mem_last hm
    rw [cutLast_of_decomp hn] at h
    cases h; exact ⟨rfl, hn⟩
  · rw [cutLast_of_not_mem hm] at h; cases h

theorem mem_colonSplits : ∀ {s a b : BS}, (a, b) ∈ Spec.colonSplits s ↔ s = a ++ 0x3A :: b
  | [], a, b => by simp [Spec.colonSplits]
  | c :: cs, a, b => by
    have ih := fun a' => @mem_colonSplits cs a' b
    rw [Spec.colonSplits]
    -- the head of the list is the split at `c` itself; the others prolong the splits of `cs` by `c`
    cases a with
    | nil =>
      by_cases hc : c = 0x3A
      · simp [hc]; exact eq_comm
      · simp [hc]
    | cons x a' =>
      by_cases hc : c = 0x3A <;> simp [hc, ih] <;> exact and_comm

/-- membership in a list of bytes, read on the numeric values: the specification's character lists are unions of
    ranges (`List.range'`), the code's classes are comparisons, and `omega` relates the two -/
theorem contains_eq_toNat (c : UInt8) : ∀ l : List UInt8, l.contains c = (l.map UInt8.toNat).contains c.toNat
  | [] => rfl
  | a :: l => by
    rw [List.contains_cons, List.map_cons, List.contains_cons, contains_eq_toNat c l]
    congr 1
    exact Bool.eq_iff_iff.mpr (by simp [UInt8.toNat_inj])

theorem dnsChar_eq : Spec.dnsChars.contains = isDNSNameChar := by
  funext c
  rw [contains_eq_toNat, show Spec.dnsChars.map UInt8.toNat = List.range' 65 26 ++ List.range' 97 26 ++ List.range' 48 10 ++ [45, 46] by decide,
    Bool.eq_iff_iff]
  simp [isDNSNameChar, List.mem_range'_1, UInt8.le_iff_toNat_le, ← UInt8.toNat_inj]
  omega

theorem digitChar_eq : Spec.digitChars.contains = isDigit := by
  funext c
  rw [contains_eq_toNat, show Spec.digitChars.map UInt8.toNat = List.range' 48 10 by decide, Bool.eq_iff_iff]
  simp [isDigit, List.mem_range'_1, UInt8.le_iff_toNat_le]
  omega

theorem userChar_eq : Spec.userChars.contains = isUserChar := by
  funext c
  rw [contains_eq_toNat, show Spec.userChars.map UInt8.toNat = List.range' 48 10 ++ List.range' 97 26 ++ [95, 45, 61, 46, 47] by decide,
    Bool.eq_iff_iff]
  simp [isUserChar, List.mem_range'_1, UInt8.le_iff_toNat_le, ← UInt8.toNat_inj]
  omega

theorem urlB64Char_eq : Spec.urlB64Chars.contains = isUrlSafeB64Char := by
  funext c
  rw [contains_eq_toNat, show Spec.urlB64Chars.map UInt8.toNat = List.range' 65 26 ++ List.range' 97 26 ++ List.range' 48 10 ++ [45, 95] by decide,
    Bool.eq_iff_iff]
  simp [isUrlSafeB64Char, List.mem_range'_1, UInt8.le_iff_toNat_le, ← UInt8.toNat_inj]
  omega

theorem digit_or_dot_dns (c : UInt8) : (isDigit c || c == 0x2E) = true → isDNSNameChar c = true := by
  simp [isDigit, isDNSNameChar, UInt8.le_iff_toNat_le, ← UInt8.toNat_inj]
  omega

theorem all_imp {p q : UInt8 → Bool} (h : ∀ c, p c = true → q c = true) : ∀ {s : BS}, s.all p = true → s.all q = true
  | [], _ => by simp
  | c :: cs, hs => by
    simp only [List.all_cons, Bool.and_eq_true] at hs ⊢
    exact ⟨h c hs.1, all_imp h hs.2⟩

theorem splitOn_ne_nil (sep : UInt8) : ∀ s : BS, Spec.splitOn sep s ≠ []
  | [] => by simp [Spec.splitOn]
  | c :: cs => by
    unfold Spec.splitOn
    split
    · simp
    · split <;> simp

theorem splitOn_all {P : UInt8 → Bool} {sep : UInt8} (hsep : P sep = true) :
    ∀ s : BS, (∀ f ∈ Spec.splitOn sep s, f.all P = true) → s.all P = true
  | [], _ => by simp
  | c :: cs, h => by
    unfold Spec.splitOn at h
    simp only [List.all_cons, Bool.and_eq_true]
    split at h
    · rename_i hc
      have : c = sep := by simpa using hc
      exact ⟨this ▸ hsep, splitOn_all hsep cs (fun f hf => h f (List.mem_cons_of_mem _ hf))⟩
    · split at h
      · rename_i hnil; exact absurd hnil (splitOn_ne_nil sep cs)
      · rename_i f fs hfs
        have h0 := h (c :: f) (List.mem_cons_self ..)
        simp only [List.all_cons, Bool.and_eq_true] at h0
        refine ⟨h0.1, splitOn_all hsep cs ?_⟩
        intro g hg
        rw [hfs] at hg
        rcases List.mem_cons.mp hg with rfl | hg
        · exact h0.2
        · exact h g (List.mem_cons_of_mem _ hg)

theorem octets_chars {h : BS} (ho : (Spec.splitOn 0x2E h).all Spec.isOctet = true) :
    h.all (fun c => isDigit c || c == 0x2E) = true := by
  apply splitOn_all (sep := 0x2E) (by decide)
  intro f hf
  have := List.all_eq_true.mp ho f hf
  unfold Spec.isOctet at this
  rw [digitChar_eq] at this
  simp only [Bool.and_eq_true] at this
  exact all_imp (fun c hc => by simp [hc]) this.1.1.2

theorem isIPv4_chars {h : BS} (hv : Spec.isIPv4 h = true) : h.all (fun c => isDigit c || c == 0x2E) = true := by
  unfold Spec.isIPv4 at hv
  simp only [Bool.and_eq_true, beq_iff_eq] at hv
  exact octets_chars hv.2

theorem not_dns_of_mem {h : BS} {c : UInt8} (hc : c ∈ h) (hn : isDNSNameChar c = false) :
    Spec.isDnsName h = false ∧ Spec.isIPv4 h = false := by
  constructor
  · refine Bool.eq_false_iff.mpr fun hv => ?_
    simp only [Spec.isDnsName, Bool.and_eq_true, dnsChar_eq] at hv
    rw [List.all_eq_true.mp hv.2 c hc] at hn; cases hn
  · refine Bool.eq_false_iff.mpr fun hv => ?_
    rw [digit_or_dot_dns c (List.all_eq_true.mp (isIPv4_chars hv) c hc)] at hn; cases hn

/-- the step of `Spec.decValue` (`decValue_eq`) and of the loops `parseUintLoop` and `ipv4Loop` -/
def stepDec (n : Nat) (d : UInt8) : Nat := n * 10 + (d.toNat - 0x30)

theorem foldl_stepDec_ge : ∀ (cs : BS) (n : Nat), n ≤ cs.foldl stepDec n
  | [], n => Nat.le_refl n
  | c :: cs, n => by
    simp only [List.foldl_cons]
    exact Nat.le_trans (by unfold stepDec; omega) (foldl_stepDec_ge cs _)

theorem parseUintLoop_spec : ∀ (cs : BS) (n : Nat), n ≤ 65535 →
    parseUintLoop cs n = (if cs.all isDigit = true ∧ cs.foldl stepDec n ≤ 65535 then some (cs.foldl stepDec n) else none)
  | [], n, hn => by simp [parseUintLoop, hn]
  | c :: cs, n, hn => by
    unfold parseUintLoop
    by_cases hd : isDigit c = true
    · simp only [hd, if_true, List.all_cons, Bool.true_and, List.foldl_cons]
      by_cases hbig : n * 10 + (c.toNat - 0x30) > 65535
      · have := foldl_stepDec_ge cs (stepDec n c)
        have h2 : ¬ (List.foldl stepDec (stepDec n c) cs ≤ 65535) := by unfold stepDec at this ⊢; omega
        simp [hbig, h2]
      · simp only [hbig, if_false]
        exact parseUintLoop_spec cs _ (by omega)
    · simp [hd]

theorem decValue_eq (p : BS) : Spec.decValue p = p.foldl stepDec 0 := rfl

theorem parseUint16_spec (p : BS) :
    parseUint16 p = (if Spec.isPort p = true then some (Spec.decValue p) else none) := by
  unfold parseUint16 Spec.isPort
  rw [digitChar_eq, decValue_eq]
  cases p with
  | nil => simp
  | cons c cs =>
    simp only [List.isEmpty_cons, Bool.false_eq_true, if_false, Bool.not_false, Bool.true_and]
    rw [parseUintLoop_spec _ _ (by omega)]
    simp only [Bool.and_eq_true, decide_eq_true_eq]

theorem parseUint16_digits {p : BS} {n : Nat} (h : parseUint16 p = some n) :
    p ≠ [] ∧ p.all isDigit = true := by
  rw [parseUint16_spec] at h
  split at h
  · rename_i hp
    unfold Spec.isPort at hp
    rw [digitChar_eq] at hp
    simp only [Bool.and_eq_true, Bool.not_eq_true', List.isEmpty_eq_false_iff] at hp
    exact ⟨hp.1.1, hp.1.2⟩
  · cases h

theorem isServerNameWith_eq (ipLit : BS → Bool) (s : BS) : Spec.isServerNameWith ipLit s =
    (Spec.isHostWith ipLit s || (Spec.colonSplits s).any (fun hp => Spec.isHostWith ipLit hp.1 && Spec.isPort hp.2)) := by
  unfold Spec.isServerNameWith Spec.serverNameParsesWith
  cases h : Spec.isHostWith ipLit s
  · simp only [Bool.false_eq_true, if_false, List.nil_append, Bool.false_or]
    rw [List.isEmpty_map, Lists.filter_isEmpty]; simp
  · simp

theorem not_host_of_port_suffix (ipLit : BS → Bool) {pre post : BS} (hne : post ≠ []) (hd : post.all isDigit = true) :
    Spec.isHostWith ipLit (pre ++ 0x3A :: post) = false := by
  have hcolon : (0x3A : UInt8) ∈ pre ++ 0x3A :: post := by simp
  obtain ⟨h1, h2⟩ := not_dns_of_mem hcolon (by decide)
  have h3 : Spec.isBracketedWith ipLit (pre ++ 0x3A :: post) = false := by
    unfold Spec.isBracketedWith
    split
    · rename_i rest heq
      have hl : (pre ++ 0x3A :: post).getLast? = post.getLast? := by
        rw [List.getLast?_append]
        cases post with
        | nil => exact absurd rfl hne
        | cons p ps => simp [List.getLast?_cons]
      have hl2 : rest.getLast? = post.getLast? ∨ rest = [] := by
        cases rest with
        | nil => right; rfl
        | cons r rs => left; rw [← hl, heq, List.getLast?_cons_cons]
      rcases hl2 with hl2 | hl2
      · rw [hl2]
        cases hp : post.getLast? with
        | none => simp
        | some x =>
          have hx : x ∈ post := List.mem_of_getLast? hp
          have := (List.all_eq_true.mp hd) x hx
          have hne93 : x ≠ 0x5D := by rintro rfl; exact absurd this (by decide)
          simp [hne93]
      · simp [hl2]
    · rfl
  simp [Spec.isHostWith, h1, h2, h3]

theorem isPort_eq_isSome (p : BS) : Spec.isPort p = (parseUint16 p).isSome := by
  rw [parseUint16_spec]; cases Spec.isPort p <;> simp

theorem isPort_no_colon {p : BS} (h : Spec.isPort p = true) : (0x3A : UInt8) ∉ p := by
  rw [isPort_eq_isSome] at h
  cases hp : parseUint16 p with
  | none => simp [hp] at h
  | some n =>
    exact Lists.not_mem_of_all (parseUint16_digits hp).2 (by decide)

theorem port_split_unique {s a b pre post : BS} (hcl : cutLast 0x3A s = some (pre, post))
    (hm : (a, b) ∈ Spec.colonSplits s) (hp : Spec.isPort b = true) : a = pre ∧ b = post := by
  have hs := mem_colonSplits.mp hm
  have := cutLast_of_decomp (a := a) (isPort_no_colon hp)
  rw [← hs, hcl] at this
  simp only [Option.some.injEq, Prod.mk.injEq] at this
  exact ⟨this.1.symm, this.2.symm⟩

theorem colonSplits_of_not_mem {s : BS} (h : (0x3A : UInt8) ∉ s) : Spec.colonSplits s = [] :=
  List.eq_nil_iff_forall_not_mem.mpr fun ⟨a, b⟩ hm => h (by rw [mem_colonSplits.mp hm]; simp)

/-- among the decompositions `a ++ ":" ++ b` of `s`, the one whose second part is a port is the one at the last colon -/
theorem any_lastColon (s : BS) (q : BS × BS → Bool) :
    (Spec.colonSplits s).any (fun x => q x && Spec.isPort x.2) =
      (match cutLast 0x3A s with | some x => q x && Spec.isPort x.2 | none => false) := by
  rw [show (fun x : BS × BS => q x && Spec.isPort x.2) = (fun x => Spec.isPort x.2 && q x) from
    funext fun _ => Bool.and_comm _ _]
  cases hcl : cutLast 0x3A s with
  | none => rw [colonSplits_of_not_mem (cutLast_none hcl)]; rfl
  | some x =>
    rw [Lists.any_and_of_unique (mem_colonSplits.mpr (cutLast_spec hcl).1)
      (fun y hm hp => Prod.ext (port_split_unique hcl hm hp).1 (port_split_unique hcl hm hp).2)]

theorem parseServerName_isSome (s : BS) : (parseServerName s).isSome = hostValid (splitServerName s).1 := by
  unfold parseServerName
  cases s with
  | nil => decide
  | cons c cs =>
    simp only [List.isEmpty_cons, Bool.false_eq_true, if_false]
    split <;> simp [*]

theorem parseServerName_nil : parseServerName [] = none := by decide

/-- the decompositions `a ++ ":" ++ b` whose first part has no ':' : exactly the one `strings.Cut` finds -/
theorem filter_firstColon : ∀ (s : BS) (q : BS × BS → Bool),
    (Spec.colonSplits s).filter (fun x => !x.1.contains 0x3A && q x) = ((cut 0x3A s).filter q).toList
  | [], q => rfl
  | c :: cs, q => by
    have ih := filter_firstColon cs (fun x => q (c :: x.1, x.2))
    rw [Spec.colonSplits, cut]
    by_cases hc : c = 0x3A
    · -- the split at `c` itself; every other split has `c` in its first part
      subst hc
      have : ∀ l : List (BS × BS), (l.map fun x => ((0x3A : UInt8) :: x.1, x.2)).filter (fun x => !x.1.contains 0x3A && q x) = [] := by
        intro l; simp [List.filter_map, Function.comp_def]
      simp only [beq_self_eq_true, if_true, List.filter_cons, this, Option.filter_some, List.contains_nil, Bool.not_false, Bool.true_and]
      cases q ([], cs) <;> rfl
    · have hc' : (c == 0x3A) = false := by simpa using hc
      have hc'' : ((0x3A : UInt8) == c) = false := by simpa using fun e => hc e.symm
      simp only [hc', Bool.false_eq_true, if_false, List.filter_map, Function.comp_def, List.contains_cons, hc'', Bool.false_or]
      rw [ih]
      cases cut 0x3A cs with
      | none => rfl
      | some p => simp only [Option.filter_some]; cases q (c :: p.1, p.2) <;> rfl

/-- the user-ID grammar, with the parser's own server-name test for `sn`, admits exactly one decomposition of a text it admits:
    the one `parseAndValidateUserID` returns -/
theorem userIDParses_eq (s : BS) (hist : Bool) :
    Spec.userIDParsesWith (fun d => (parseServerName d).isSome) hist s = (parseUserID s hist).toList := by
  unfold Spec.userIDParsesWith Spec.maxIDBytes parseUserID
  by_cases hbig : s.length > 255
  · simp [hbig]
  · simp only [hbig, if_false, decide_false, Bool.or_false]
    cases s with
    | nil => simp
    | cons c rest =>
      by_cases hc : c = 0x40
      · subst hc
        simp only [bne_self_eq_false, Bool.false_eq_true, if_false, Bool.and_assoc]
        rw [filter_firstColon]
        cases hcut : cut 0x3A rest with
        | none => simp
        | some x =>
          obtain ⟨lp, d⟩ := x
          obtain ⟨hs, -⟩ := cut_spec hcut
          simp only [Option.filter_some]
          cases hsn : parseServerName d with
          | none => simp
          | some v =>
            have hd : d ≠ [] := by rintro rfl; rw [parseServerName_nil] at hsn; cases hsn
            cases lp with
            | nil => simp
            | cons l ls =>
              -- Go's test `len < 4`: sigil, non-empty local part, ':' and non-empty domain imply it, so the grammar has no minimum length
              have hlt : ¬ (rest.length + 1 < 4) := by
                rw [hs]; have := List.length_pos_iff.mpr hd; simp; omega
              rw [userChar_eq]
              cases hist <;> cases (l :: ls).all isUserChar <;> simp [hlt, historicallyValidCharacters]
      · have : (c != 0x40) = true := by simp [hc]
        simp only [this, if_true]
        rw [ite_self]
        split
        · rename_i heq; simp only [List.cons.injEq] at heq; exact absurd heq.1 hc
        · rfl

/-- the room-ID grammar likewise: the domainless form and the form with a server name exclude each other -/
theorem roomIDParses_eq (s : BS) :
    Spec.roomIDParsesWith (fun d => (parseServerName d).isSome) s = (parseRoomID s).toList := by
  unfold Spec.roomIDParsesWith Spec.maxIDBytes parseRoomID
  by_cases hbig : s.length > 255
  · simp [hbig]
  · simp only [hbig, if_false, decide_false, Bool.or_false]
    cases s with
    | nil => simp
    | cons c rest =>
      by_cases hc : c = 0x21
      · subst hc
        have hcont : (0x21 :: rest).contains 0x3A = rest.contains 0x3A := by
          simp only [List.contains_cons]; rw [show ((0x3A : UInt8) == 0x21) = false by decide]; simp
        simp only [bne_self_eq_false, Bool.false_eq_true, if_false, Bool.and_assoc, hcont]
        rw [filter_firstColon, urlB64Char_eq]
        cases hcol : rest.contains 0x3A with
        | false =>
          rw [cut_of_not_mem (by simpa using hcol)]
          simp only [Bool.not_false, Bool.true_and, if_true]
          unfold domainlessMatch
          cases hm : (rest.length == 43 && rest.all isUrlSafeB64Char) with
          | false => simp
          | true =>
            have : rest.length = 43 := by
              simp only [Bool.and_eq_true, beq_iff_eq] at hm; exact hm.1
            simp [this]
        | true =>
          simp only [Bool.not_true, Bool.false_and, Bool.false_eq_true, if_false, List.nil_append]
          cases hcut : cut 0x3A rest with
          | none => simp
          | some x =>
            obtain ⟨op, d⟩ := x
            obtain ⟨hs, -⟩ := cut_spec hcut
            simp only [Option.filter_some]
            cases hsn : parseServerName d with
            | none => simp
            | some v =>
              have hd : d ≠ [] := by rintro rfl; rw [parseServerName_nil] at hsn; cases hsn
              cases op with
              | nil => simp
              | cons l ls =>
                have hlt : ¬ (rest.length + 1 < 4) := by
                  rw [hs]; have := List.length_pos_iff.mpr hd; simp; omega
                simp [hlt]
      · have : (c != 0x21) = true := by simp [hc]
        simp only [this, if_true]
        rw [ite_self]
        split
        · rename_i heq; simp only [List.cons.injEq] at heq; exact absurd heq.1 hc
        · rfl

theorem mem_userIDParsesWith {sn : BS → Bool} {hist : Bool} {s : BS} {x : BS × BS} (h : x ∈ Spec.userIDParsesWith sn hist s) :
    s = 0x40 :: x.1 ++ 0x3A :: x.2 := by
  unfold Spec.userIDParsesWith at h
  split at h
  · cases h
  · split at h
    · rw [mem_colonSplits.mp (List.mem_filter.mp h).1]; rfl
    · cases h

theorem mem_roomIDParsesWith {sn : BS → Bool} {s o : BS} {dom : Option BS} (h : (o, dom) ∈ Spec.roomIDParsesWith sn s) :
    s.length ≤ 255 ∧ s = 0x21 :: o ++ dom.elim [] (0x3A :: ·) ∧ (dom = none → o.length = 43) := by
  unfold Spec.roomIDParsesWith Spec.maxIDBytes at h
  split at h
  · cases h
  · rename_i hlen
    refine ⟨by omega, ?_⟩
    split at h
    · rcases List.mem_append.mp h with h | h
      · split at h
        · rename_i hc
          cases List.mem_singleton.mp h
          simp only [Bool.and_eq_true, beq_iff_eq] at hc
          exact ⟨by simp, fun _ => hc.1.2⟩
        · cases h
      · obtain ⟨x, hx, he⟩ := List.mem_map.mp h
        cases he
        exact ⟨by rw [mem_colonSplits.mp (List.mem_filter.mp hx).1]; rfl, fun e => by cases e⟩
    · cases h

theorem mem_of_parseUserID {s : BS} {hist : Bool} {x : BS × BS} (h : parseUserID s hist = some x) :
    x ∈ Spec.userIDParsesWith (fun d => (parseServerName d).isSome) hist s := by
  rw [userIDParses_eq, h]; exact List.mem_singleton_self _

theorem mem_of_parseRoomID {s : BS} {x : BS × Option BS} (h : parseRoomID s = some x) :
    x ∈ Spec.roomIDParsesWith (fun d => (parseServerName d).isSome) s := by
  rw [roomIDParses_eq, h]; exact List.mem_singleton_self _

end V.Ident
