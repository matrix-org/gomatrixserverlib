/-
  C07: the model decides what the rules decide for every event class other than
  m.room.member (create, aliases, rules 6–9, power levels, redactions).
-/
import VProofs.AuthRulesBase
import VProofs.Lists
namespace V.AuthRules
open V V.Json V.GoJson V.Auth

theorem default_eq (c : Ctx) (p : Provider) (hf : Fresh p c) (e : Event)
    (hs : (parseUserID? e.sender).isSome) (hr : e.roomID ≠ []) (hm : isUnmodelled (memberFromProvider p e.sender) = false) :
    accepts (c.defaultEventAllowed e) = some (ruleCommon lib c p e) := by
  unfold Ctx.defaultEventAllowed ruleCommon
  rw [hf.provider]
  rcases memberFromProvider_cases p e.sender hm with ⟨sm, h⟩ | h
  · rw [h, membershipOf_ok h, ok_bind, commonChecks_eq c p hf e sm hs hr]
    unfold commonFormula
    cases userOf e.sender with
    | none => rfl
    | some u => rfl
  · rw [h, membershipOf_na h]
    cases userOf e.sender <;> simp

/-- `defaultEventAllowed` is the prefix of the redaction and power-levels checks -/
theorem default_prefix (c : Ctx) (e : Event) (k : Unit → R Unit) :
    (do let member ← memberFromProvider c.provider e.sender; c.commonChecks member e; k ()) = (c.defaultEventAllowed e >>= k) := by
  unfold Ctx.defaultEventAllowed
  cases memberFromProvider c.provider e.sender <;> rfl

theorem common_createPresent {d c p e} (h : ruleCommon d c p e = true) : c.createEvent.isSome = true := by
  unfold ruleCommon at h
  split at h
  · simp only [Bool.and_eq_true, ruleCreatePresent] at h
    exact h.1.1.1.1.1
  · cases h

theorem accepts_after_default (c : Ctx) (p : Provider) (hf : Fresh p c) (e : Event)
    (hs : (parseUserID? e.sender).isSome) (hr : e.roomID ≠ []) (hm : isUnmodelled (memberFromProvider p e.sender) = false)
    (k : Unit → R Unit) :
    accepts (memberFromProvider c.provider e.sender >>= fun member => c.commonChecks member e >>= k)
      = if ruleCommon lib c p e then accepts (k ()) else some false := by
  rw [← bind_assoc]
  exact accepts_bind (default_eq c p hf e hs hr hm) k

theorem redaction_eq (c : Ctx) (p : Provider) (hf : Fresh p c) (e : Event)
    (hs : (parseUserID? e.sender).isSome) (hr : e.roomID ≠ []) (hm : isUnmodelled (memberFromProvider p e.sender) = false) :
    accepts (c.redactEventAllowed e) = some (ruleRedaction lib c p e) := by
  unfold Ctx.redactEventAllowed ruleRedaction
  rw [accepts_after_default c p hf e hs hr hm]
  cases hrc : ruleCommon lib c p e with
  | false => rfl
  | true =>
    have hce := common_createPresent hrc
    have hd5 : lib.d5_redactionByCreateContent = true := rfl
    have hd17 : lib.d17_redactsNeedsDomain = true := rfl
    simp only [if_true, Bool.true_and, hd5, hd17, Bool.not_true, Bool.false_and, resolveUser_eq hs]
    cases hrv : c.create.roomVersion <;> cases hd : domainFromID e.redacts <;> cases userOf e.sender <;>
      simp only [failErr_bind, ok_bind, userPowerLevel_eq c _ hce, accepts_ite, accepts_pure, accepts_notAllowed, accepts_failErr,
        ite_some, Bool.false_or, Bool.or_false, Bool.if_true_left, Bool.if_false_right, Bool.decide_eq_true, Bool.and_true]

/-! ### rule 10 -/

theorem userKeys_list (l : List (Bytes × Int)) (h : l.all (fun kv => (parseUserID? kv.1).isSome) = true) :
    l.all (fun kv => match (parseUserID? kv.1).join with
      | some u => lib.d8_looseUserKeys || strictLocalpart u.localpart
      | none => false) = !(l.any fun kv => parseUserID? kv.fst == some none) := by
  have hd : lib.d8_looseUserKeys = true := rfl
  induction l with
  | nil => rfl
  | cons kv t ih =>
    simp only [List.all_cons, Bool.and_eq_true] at h
    simp only [List.all_cons, List.any_cons, Bool.not_or, ih h.2]
    congr 1
    cases hp : parseUserID? kv.1 with
    | none => simp [hp] at h
    | some o => cases o <;> simp [hd]

theorem userKeys_eq (new : PowerLevels) (h : new.users.all (fun kv => (parseUserID? kv.1).isSome) = true) :
    userKeysValid lib new = !(new.users.any fun kv => parseUserID? kv.fst == some none) := by
  unfold userKeysValid userOf
  exact userKeys_list new.users h

theorem parsePowerLevels_error {cnt d v} (h : parsePowerLevels cnt d = .error v) :
    v = .notAllowed ∨ ∃ w, v = .unmodelled w := by
  unfold parsePowerLevels at h
  split at h
  · cases h; exact Or.inl rfl
  · cases h
  · simp only at h
    split at h
    · cases h; exact Or.inl rfl
    · split at h
      · cases h; exact Or.inr ⟨_, rfl⟩
      · cases h
  · cases h; exact Or.inl rfl

theorem powerLevelsFromEvent_error {e v} (h : powerLevelsFromEvent e = .error v) :
    v = .notAllowed ∨ v = .err ∨ ∃ w, v = .unmodelled w := by
  unfold powerLevelsFromEvent at h
  split at h
  · cases h; exact Or.inr (Or.inl rfl)
  · split at h
    · split at h
      · cases h
      · cases h; exact Or.inl rfl
    · split at h
      · rcases parsePowerLevels_error h with h | h
        · exact Or.inl h
        · exact Or.inr (Or.inr h)
      · cases h; exact Or.inr (Or.inr ⟨_, rfl⟩)

/-- the rules cannot read a power-levels event exactly when the model's parser fails on it -/
theorem plAuthEventUnusable_eq (ev : Event) :
    plAuthEventUnusable lib ev = (match powerLevelsFromEvent ev with | .ok _ => false | .error _ => true) := by
  unfold plAuthEventUnusable
  cases hrow : ev.row with
  | none =>
    rw [row_none_spec (ver := ev.ver) hrow]
    unfold powerLevelsFromEvent
    rw [hrow]
    rfl
  | some row =>
    obtain ⟨sv, hsv, hri⟩ := rowIs_of (ver := ev.ver) (row := row) hrow
    rw [hsv]
    simp only [newPowerLevels_eq hrow hri]
    cases powerLevelsFromEvent ev <;> rfl

/-- **`powerLevelsErr` is set exactly when the rules cannot read the power-levels auth event**, and then holds an
    ordinary error -/
theorem plErr_spec {p : Provider} {c : Ctx} (hf : Fresh p c) :
    c.plErr.isSome = plUnusable lib p ∧ ∀ v, c.plErr = some v → v = .notAllowed ∨ v = .err := by
  have h1 := hf.plInfo
  rw [hf.plErr]
  unfold plErrOf plUnusable
  unfold Auth.plInfo at h1
  cases hp : p.powerLevels with
  | none => exact ⟨rfl, fun v hv => by cases hv⟩
  | some ev =>
    rw [hp] at h1
    simp only [plAuthEventUnusable_eq] at h1 ⊢
    cases hpl : powerLevelsFromEvent ev with
    | ok pl => exact ⟨rfl, fun v hv => by cases hv⟩
    | error v =>
      rw [hpl] at h1
      rcases powerLevelsFromEvent_error hpl with rfl | rfl | ⟨w, rfl⟩
      · exact ⟨rfl, fun v hv => by cases hv; exact Or.inl rfl⟩
      · exact ⟨rfl, fun v hv => by cases hv; exact Or.inr rfl⟩
      · simp at h1

theorem power_levels_eq (c : Ctx) (p : Provider) (hf : Fresh p c) (he : c.plErr = none) (e : Event) (row : VGen.VersionRow)
    (sv : SpecVersion) (hrow : e.row = some row) (hri : RowIs row sv)
    (hs : (parseUserID? e.sender).isSome) (hr : e.roomID ≠ []) (hm : isUnmodelled (memberFromProvider p e.sender) = false)
    (hpl : (match powerLevelsFromEvent e with
            | .ok pl => pl.users.all (fun kv => (parseUserID? kv.1).isSome)
            | .error v => !isUnmodelled (.error v : R Unit)) = true) :
    accepts (c.powerLevelsEventAllowed e) = some (rulePowerLevels lib c p sv e) := by
  unfold Ctx.powerLevelsEventAllowed rulePowerLevels
  rw [accepts_after_default c p hf e hs hr hm]
  rw [newPowerLevels_eq hrow hri]
  cases hrc : ruleCommon lib c p e with
  | false => rfl
  | true =>
    have hce := common_createPresent hrc
    have hd3 : lib.d3_effectiveValues = true := rfl
    have hd4 : lib.d4_eventEntryDefault = true := rfl
    simp only [if_true, Bool.true_and]
    cases hnew : powerLevelsFromEvent e with
    | error v =>
      rw [hnew] at hpl
      rcases powerLevelsFromEvent_error hnew with rfl | rfl | ⟨w, rfl⟩
      · rfl
      · rfl
      · simp [isUnmodelled] at hpl
    | ok new =>
      rw [hnew] at hpl
      simp only at hpl
      simp only [ok_bind, Lists.any_isNone_false hpl, Bool.false_eq_true, if_false, userKeys_eq new hpl, userPowerLevel_eq c _ hce,
        ruleLevelChanges, ruleNotifications_eq, ← notifLevel_eq hf hce he, hd3, hd4, if_true, Bool.not_true, Bool.false_and, Bool.false_or]
      simp only [accepts_ite, accepts_bind_eq, checkPowerLevelEvent_eq c p hf e row sv hrow hri hce c.pl new, accepts_failErr,
        accepts_notAllowed, accepts_pure, Option.bind_some, ite_some]
      -- what is left is an identity between two Boolean formulas in the five checks
      generalize (new.users.any fun kv => parseUserID? kv.fst == some none) = a
      generalize checkEventLevels (powerOf lib c e.sender) c.pl new = b
      generalize (!sv.notifications || checkNotificationLevels (notifLevel c sv.creators c.pl e.sender) c.pl new) = n
      generalize (!sv.creators || ruleNoCreatorInUsers c new) = k
      generalize checkUserLevels (powerOf lib c e.sender) e.sender c.pl new = u
      revert a b n k u
      decide

/-! ### rule 1 -/

theorem roomVersionRecognised_eq (kvs : List (Bytes × JVal)) :
    roomVersionRecognised kvs =
      (!(decStringPtr (lookupExact kvs b!"room_version")).err &&
       match (decStringPtr (lookupExact kvs b!"room_version")).val with
       | some v => knownRoomVersion v
       | none => true) := by
  unfold roomVersionRecognised
  cases lookupExact kvs b!"room_version" with
  | none => rfl
  | some x => cases x <;> simp [decStringPtr]

theorem creatorPresent_eq (kvs : List (Bytes × JVal)) :
    creatorPresent lib kvs =
      (!(decStringPtr (lookupExact kvs b!"creator")).err && (decStringPtr (lookupExact kvs b!"creator")).val.isSome) := by
  unfold creatorPresent
  have hd13 : lib.d13_creatorString = true := rfl
  simp only [hd13, if_true]
  cases lookupExact kvs b!"creator" with
  | none => rfl
  | some x => cases x <;> simp [decStringPtr]

/-- checkCreateEventV1 and V2: the room ID's domain is the sender's, the room version is a known one and — V1 only —
    the content names a creator -/
theorem checkCreateV12_eq (e : Event) (u : UserID) (hu : userOf e.sender = some u) (row : VGen.VersionRow) (v1 : Bool)
    (hrow : e.row = some row) (hc : row.checkCreateEvent = if v1 then "checkCreateEventV1" else "checkCreateEventV2")
    (hdom : (domainFromID (e.roomID.drop 1)).isSome = true) :
    accepts (checkCreateEvent e u) = some (roomDomainIsSenderDomain e &&
      (match contentFields e.content with
       | some kvs => if v1 then roomVersionRecognised kvs && creatorPresent lib kvs else roomVersionRecognised kvs
       | none => false)) := by
  unfold checkCreateEvent roomDomainIsSenderDomain contentFields
  have e1 : ("checkCreateEventV2" == "checkCreateEventV1") = false := by decide
  rw [hu]
  cases hdm : domainFromID (e.roomID.drop 1) with
  | none => rw [hdm] at hdom; cases hdom
  | some dom =>
  cases v1 <;> simp only [Bool.false_eq_true, if_true, if_false] at hc <;>
    simp only [hrow, hc, e1, beq_self_eq_true, if_true, Bool.false_eq_true, if_false]
  all_goals
    by_cases hne : u.domain = dom
    case neg => simp [hne]
    case pos =>
      simp only [hne, bne_self_eq_false, Bool.false_eq_true, if_false, ok_bind, beq_self_eq_true, Bool.true_and]
      cases hcnt : e.content with
      | none => rfl
      | some v =>
        cases v with
        | obj kvs =>
          simp only [roomVersionRecognised_eq, creatorPresent_eq]
          cases (decStringPtr (lookupExact kvs b!"room_version")).val <;>
            cases (decStringPtr (lookupExact kvs b!"creator")).val <;>
            simp only [accepts_ite, accepts_ok, accepts_notAllowed, ite_some, Bool.if_false_left, Bool.if_true_left,
              Bool.decide_eq_true, Bool.or_false, Bool.and_true, Option.isNone_none, Option.isNone_some, Option.isSome_none,
              Option.isSome_some, Bool.false_eq_true, if_true, if_false, Bool.and_false]
          -- V1: what is left is an identity between two Boolean formulas in the tests
          all_goals
            generalize (decStringPtr (lookupExact kvs b!"creator")).err = a
            generalize (decStringPtr (lookupExact kvs b!"room_version")).err = b
            first | (revert a b; decide) | (generalize knownRoomVersion _ = k; revert a b k; decide)
        | null => simp [lookupExact, roomVersionRecognised, creatorPresent]
        | _ => rfl

theorem userOf_nil : userOf [] = none := by decide

theorem userIDString_eq (x : JVal) :
    userIDString x = (!(decString (some x)).err && (userOf (decString (some x)).val).isSome) := by
  cases x <;> simp [userIDString, decString, userOf_nil]

theorem slice_valid (xs : List JVal) :
    xs.all userIDString =
    (!((xs.map (fun x => decString (some x))).any (·.err)) &&
      ((xs.map (fun x => decString (some x))).map (·.val)).all (fun c => (userOf c).isSome)) := by
  have : userIDString = fun x => (!(decString (some x)).err && (userOf (decString (some x)).val).isSome) :=
    funext userIDString_eq
  rw [this, Lists.all_and_not xs (fun x => (decString (some x)).err) (fun x => (userOf (decString (some x)).val).isSome)]
  simp [List.any_map, List.all_map, Function.comp_def]

theorem additionalCreatorsValid_eq (kvs : List (Bytes × JVal)) :
    additionalCreatorsValid kvs =
      (!(decStringSlice (lookupExact kvs b!"additional_creators")).err &&
        ((decStringSlice (lookupExact kvs b!"additional_creators")).val.getD []).all (fun c => (userOf c).isSome)) := by
  unfold additionalCreatorsValid
  cases lookupExact kvs b!"additional_creators" with
  | none => rfl
  | some x =>
    cases x with
    | arr xs => simp only [decStringSlice, slice_valid, Option.getD_some]
    | _ => simp [decStringSlice]

theorem noRoomIDField_eq (e : Event) :
    noRoomIDField e = (!(decString (lookupField e.obj b!"room_id")).err && (decString (lookupField e.obj b!"room_id")).val == []) := by
  unfold noRoomIDField
  cases lookupField e.obj b!"room_id" with
  | none => rfl
  | some x => cases x <;> simp [decString]

theorem any_bad_eq {l : List Bytes} (h : l.all (fun u => (parseUserID? u).isSome) = true) :
    l.any (fun c => parseUserID? c == some none) = !l.all (fun c => (userOf c).isSome) := by
  induction l with
  | nil => rfl
  | cons x t ih =>
    simp only [List.all_cons, Bool.and_eq_true] at h
    simp only [List.any_cons, List.all_cons, ih h.2, Bool.not_and]
    congr 1
    unfold userOf
    cases hp : parseUserID? x with
    | none => simp [hp] at h
    | some o => cases o <;> simp

theorem checkCreateV3_eq (e : Event) (u : UserID) (row : VGen.VersionRow)
    (hrow : e.row = some row) (hc : row.checkCreateEvent = "checkCreateEventV3")
    (hdom : (match contentFields e.content with
            | some kvs => (decStringSlice (lookupExact kvs b!"additional_creators")).val.getD [] |>.all
                            (fun u => (parseUserID? u).isSome)
            | none => true) = true) :
    accepts (checkCreateEvent e u) = some (noRoomIDField e &&
      (match contentFields e.content with
       | some kvs => roomVersionRecognised kvs && additionalCreatorsValid kvs
       | none => false)) := by
  unfold checkCreateEvent
  have e1 : ("checkCreateEventV3" == "checkCreateEventV1") = false := by decide
  have e2 : ("checkCreateEventV3" == "checkCreateEventV2") = false := by decide
  simp only [hrow, hc, beq_self_eq_true, if_true, e1, e2, Bool.false_eq_true, if_false]
  cases hcnt : e.content with
  | none => simp [contentFields]
  | some v =>
    rw [hcnt] at hdom
    simp only
    -- `null` is read as the empty object, by the model as by `contentFields`
    split
    · have : contentFields (some v) = none := by cases v <;> first | rfl | cases ‹_ = none›
      simp [this]
    · rename_i kvs hk
      have hcf : contentFields (some v) = some kvs := by cases v <;> first | exact hk | cases hk
      rw [hcf] at hdom ⊢
      simp only at hdom ⊢
      simp only [Lists.any_isNone_false hdom, any_bad_eq hdom, roomVersionRecognised_eq, additionalCreatorsValid_eq, noRoomIDField_eq]
      cases (decStringPtr (lookupExact kvs b!"room_version")).val <;>
        simp only [accepts_ite, accepts_ok, accepts_notAllowed, ite_some, Bool.false_eq_true, if_false, bne, Bool.if_false_left,
          Bool.decide_eq_true, Bool.not_not, Bool.and_true]
      -- what is left is an identity between two Boolean formulas in the six tests
      all_goals
        generalize (decStringPtr (lookupExact kvs b!"room_version")).err = a
        generalize (decStringSlice (lookupExact kvs b!"additional_creators")).err = b
        generalize ((decStringSlice (lookupExact kvs b!"additional_creators")).val.getD []).all _ = v
        generalize (decString (lookupField e.obj b!"room_id")).err = r
        generalize ((decString (lookupField e.obj b!"room_id")).val == []) = x
        first | (revert a b v r x; decide) | (generalize knownRoomVersion _ = k; revert a b v r x k; decide)

theorem create_eq (c : Ctx) (e : Event) (row : VGen.VersionRow) (sv : SpecVersion)
    (hrow : e.row = some row) (hri : RowIs row sv) (hs : (parseUserID? e.sender).isSome = true)
    (hd1 : sv.createRules = 3 ∨ (domainFromID (e.roomID.drop 1)).isSome = true)
    (hd2 : (match contentFields e.content with
            | some kvs => (decStringSlice (lookupExact kvs b!"additional_creators")).val.getD [] |>.all
                            (fun u => (parseUserID? u).isSome)
            | none => true) = true) :
    accepts (c.createEventAllowed e) = some (ruleCreate lib sv e) := by
  unfold Ctx.createEventAllowed ruleCreate Event.stateKeyEquals
  rw [resolveUser_eq hs]
  by_cases hsk : (e.stateKey == some []) = true
  case neg => simp [hsk]
  case pos =>
  cases hprev : e.prevEventIDs with
  | cons a t => simp [hsk]
  | nil =>
    simp only [hsk, Bool.not_true, Bool.false_eq_true, if_false, Bool.true_and, List.length_nil, gt_iff_lt, Nat.lt_irrefl,
      List.isEmpty_nil]
    cases hu : userOf e.sender with
    | none => rfl
    | some u =>
      simp only [ok_bind, Option.isSome_some, Bool.true_and]
      have hdm : sv.createRules ≠ 3 → (domainFromID (e.roomID.drop 1)).isSome = true := hd1.resolve_left
      rcases hri.createRules with h | h | h
      · rw [checkCreateV12_eq e u hu row true hrow (by rw [hri.create, h]; rfl) (hdm (by omega)), h]; rfl
      · rw [checkCreateV12_eq e u hu row false hrow (by rw [hri.create, h]; rfl) (hdm (by omega)), h]; rfl
      · rw [checkCreateV3_eq e u row hrow (by rw [hri.create, h]; rfl) hd2, h]; rfl

/-! ### rule 4 -/

theorem aliases_eq (c : Ctx) (p : Provider) (hf : Fresh p c) (e : Event)
    (hs : (parseUserID? e.sender).isSome) (hr : e.roomID ≠ []) :
    accepts (c.aliasEventAllowed e) = some (ruleAliases lib c e) := by
  unfold Ctx.aliasEventAllowed ruleAliases
  rw [resolveUser_eq hs]
  cases userOf e.sender with
  | none => rfl
  | some u =>
    have hc : lib.d14_pseudoIDs = true := rfl
    have hb : (e.roomID != c.create.roomID) = !(e.roomID == c.create.roomID) := rfl
    unfold ruleFederate Event.stateKeyEquals
    simp only [ok_bind, domainAllowed_eq, hc, Bool.true_and, ruleCreatePresent_eq hf hr, hb, accepts_bind_eq, accepts_ite, accepts_ok,
      accepts_pure, accepts_notAllowed, ite_some, Option.bind_some]
    cases (e.roomID == c.create.roomID) <;> cases (u.domain == c.create.senderDomain || c.create.federate != some false) <;>
      cases (e.ver == b!"org.matrix.msc4014") <;> cases (e.stateKey == some e.sender) <;>
      cases (e.stateKey == some u.domain) <;> rfl

end V.AuthRules
