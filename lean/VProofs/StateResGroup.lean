/-
  `groupByKey` of the state-resolution model: the groups are exactly the non-empty classes of state
  events per (type, state_key) slot, each in input order, with pairwise distinct keys.
-/
import VProofs.StateResBasic
import VProofs.Assoc
namespace V.StateRes
open List

/-- the fold step of `groupByKey` (the lambda of the model, verbatim) -/
def groupStep (acc : List ((Bytes × Bytes) × List Event)) (e : Event) : List ((Bytes × Bytes) × List Event) :=
  match e.stateKey with
    | none => acc
    | some k =>
      let key := (e.type, k)
      if (acc.find? (fun g => g.1 == key)).isSome then acc.map (fun g => if g.1 == key then (g.1, g.2 ++ [e]) else g)
      else acc ++ [(key, [e])]

theorem groupByKey_eq (evs : List Event) : groupByKey evs = evs.foldl groupStep [] := rfl

theorem groupByKey_nil : groupByKey [] = [] := rfl

theorem groupByKey_snoc (evs : List Event) (e : Event) : groupByKey (evs ++ [e]) = groupStep (groupByKey evs) e := by
  simp only [groupByKey_eq, List.foldl_append, List.foldl_cons, List.foldl_nil]

theorem groupStep_none {acc} {e : Event} (h : e.stateKey = none) : groupStep acc e = acc := by
  unfold groupStep; rw [h]

theorem groupStep_some {acc : List ((Bytes × Bytes) × List Event)} {e : Event} {k : Bytes} (h : e.stateKey = some k) :
    groupStep acc e = Assoc.upsert acc (keyOf e) (· ++ [e]) [e] := by
  unfold groupStep; rw [keyOf_some h, h]; rfl

/-- the invariant tying a group list to the events processed so far -/
structure GroupInv (evs : List Event) (G : List ((Bytes × Bytes) × List Event)) : Prop where
  nodup : (G.map (·.1)).Nodup
  group : ∀ g ∈ G, g.2 = evs.filter (hasKey g.1) ∧ g.2 ≠ []
  complete : ∀ e ∈ evs, e.stateKey.isSome → ∃ g ∈ G, g.1 = keyOf e

theorem GroupInv.nil : GroupInv [] [] :=
  ⟨by simp, fun _ h => absurd h (by simp), fun _ h => absurd h (by simp)⟩

theorem GroupInv.step {evs : List Event} {G} (h : GroupInv evs G) (e : Event) : GroupInv (evs ++ [e]) (groupStep G e) := by
  have hskip : ∀ key, hasKey key e = false → (evs ++ [e]).filter (hasKey key) = evs.filter (hasKey key) := by
    intro key hf; simp [List.filter_append, hf]
  have hadd : ∀ key, hasKey key e = true → (evs ++ [e]).filter (hasKey key) = evs.filter (hasKey key) ++ [e] := by
    intro key hf; simp [List.filter_append, hf]
  cases hs : e.stateKey with
  | none =>
    rw [groupStep_none hs]
    have hf : ∀ key, hasKey key e = false := by intro key; unfold hasKey; rw [hs]; rfl
    refine ⟨h.nodup, fun g hg => ?_, fun x hx hk => ?_⟩
    · rw [hskip _ (hf _)]; exact h.group g hg
    · rcases List.mem_append.mp hx with hx | hx
      · exact h.complete x hx hk
      · rw [List.mem_singleton.mp hx, hs] at hk; cases hk
  | some k =>
    have hk : e.stateKey.isSome := by rw [hs]; rfl
    have hno : ∀ key, key ≠ keyOf e → hasKey key e = false := fun key hne =>
      Bool.eq_false_iff.mpr (fun hh => hne (hasKey_iff_keyOf.mp hh).2.symm)
    rw [groupStep_some hs]
    refine ⟨Assoc.nodup_keys_upsert h.nodup _ _ _, fun g hg => ?_, fun x hx hxk => ?_⟩
    · rcases Assoc.mem_upsert hg with ⟨hgG, hne⟩ | ⟨hgk, ⟨hg2, hnew⟩ | ⟨q, hq, hqk, hg2⟩⟩
      · rw [hskip _ (hno g.1 hne)]; exact h.group g hgG
      · -- a new group: no earlier event has this key
        have hnil : evs.filter (hasKey (keyOf e)) = [] := by
          rw [List.filter_eq_nil_iff]
          intro x hx hxk
          obtain ⟨hxs, hxe⟩ := hasKey_iff_keyOf.mp hxk
          obtain ⟨g', hg', hgk'⟩ := h.complete x hx hxs
          exact hnew (List.mem_map.mpr ⟨g', hg', hgk'.trans hxe⟩)
        rw [hgk, hg2, hadd _ (hasKey_keyOf hk), hnil]; exact ⟨rfl, List.cons_ne_nil _ _⟩
      · rw [hgk, hg2, hadd _ (hasKey_keyOf hk), ← hqk, ← (h.group q hq).1]
        exact ⟨rfl, List.append_ne_nil_of_right_ne_nil _ (List.cons_ne_nil _ _)⟩
    · have hkeys : keyOf x ∈ Assoc.keys (Assoc.upsert G (keyOf e) (· ++ [e]) [e]) :=
        Assoc.mem_keys_upsert.mpr ((List.mem_append.mp hx).imp
          (fun hx => let ⟨g, hg, hgk⟩ := h.complete x hx hxk; List.mem_map.mpr ⟨g, hg, hgk⟩)
          (fun hx => by rw [List.mem_singleton.mp hx]))
      obtain ⟨g, hg, hgk⟩ := List.mem_map.mp hkeys
      exact ⟨g, hg, hgk⟩

theorem GroupInv.foldl {pre : List Event} {acc} (h : GroupInv pre acc) (l : List Event) :
    GroupInv (pre ++ l) (l.foldl groupStep acc) := by
  induction l generalizing pre acc with
  | nil => rwa [List.append_nil]
  | cons a as ih => rw [List.append_cons]; exact ih (h.step a)

theorem groupByKey_inv (evs : List Event) : GroupInv evs (groupByKey evs) := GroupInv.nil.foldl evs

theorem groupByKey_keys_nodup (evs : List Event) : ((groupByKey evs).map (·.1)).Nodup :=
  (groupByKey_inv evs).nodup

theorem groupByKey_group {evs : List Event} {g} (hg : g ∈ groupByKey evs) :
    g.2 = evs.filter (hasKey g.1) ∧ g.2 ≠ [] :=
  (groupByKey_inv evs).group g hg

theorem groupByKey_complete {evs : List Event} {e : Event} (he : e ∈ evs) (hk : e.stateKey.isSome) :
    ∃ g ∈ groupByKey evs, g.1 = keyOf e :=
  (groupByKey_inv evs).complete e he hk

theorem groupByKey_mem {evs : List Event} {g} (hg : g ∈ groupByKey evs) {e : Event} :
    e ∈ g.2 ↔ e ∈ evs ∧ e.stateKey.isSome ∧ keyOf e = g.1 := by
  rw [(groupByKey_group hg).1, List.mem_filter, hasKey_iff_keyOf]

theorem groupByKey_key_inj {evs : List Event} {g g'} (hg : g ∈ groupByKey evs) (hg' : g' ∈ groupByKey evs)
    (h : g.1 = g'.1) : g = g' := by
  have h2 : g.2 = g'.2 := by rw [(groupByKey_group hg).1, (groupByKey_group hg').1, h]
  exact Prod.ext h h2

theorem groupByKey_cover {evs : List Event} {e : Event} (he : e ∈ evs) (hk : e.stateKey.isSome) :
    ∃ g ∈ groupByKey evs, g.1 = keyOf e ∧ e ∈ g.2 := by
  obtain ⟨g, hg, hgk⟩ := groupByKey_complete he hk
  exact ⟨g, hg, hgk, (groupByKey_mem hg).mpr ⟨he, hk, hgk.symm⟩⟩

theorem groupByKey_find (evs : List Event) (key : Bytes × Bytes) :
    ((groupByKey evs).find? (fun g => g.1 == key)).map (·.2) =
      if (evs.filter (hasKey key)).isEmpty then none else some (evs.filter (hasKey key)) := by
  cases hf : (groupByKey evs).find? (fun g => g.1 == key) with
  | none =>
    rw [List.find?_eq_none] at hf
    have : evs.filter (hasKey key) = [] := by
      rw [List.filter_eq_nil_iff]
      intro x hx hxk
      obtain ⟨hxs, hxe⟩ := hasKey_iff_keyOf.mp hxk
      obtain ⟨g, hg, hgk⟩ := groupByKey_complete hx hxs
      exact hf g hg (by simp [hgk, hxe])
    rw [this]; rfl
  | some g =>
    have hg : g ∈ groupByKey evs := List.mem_of_find?_eq_some hf
    have hgk : g.1 = key := by simpa using List.find?_some hf
    obtain ⟨h1, h2⟩ := groupByKey_group hg
    rw [hgk] at h1
    rw [← h1]
    cases hg2 : g.2 with
    | nil => exact absurd hg2 h2
    | cons a as => simp [hg2]

theorem groupByKey_perm {evs evs' : List Event} (h : evs ~ evs') :
    (∀ g ∈ groupByKey evs, ∃ g' ∈ groupByKey evs', g'.1 = g.1 ∧ g.2 ~ g'.2) := by
  intro g hg
  obtain ⟨h1, h2⟩ := groupByKey_group hg
  obtain ⟨e, he⟩ := List.exists_mem_of_ne_nil _ h2
  obtain ⟨hev, hes, hek⟩ := (groupByKey_mem hg).mp he
  obtain ⟨g', hg', hgk'⟩ := groupByKey_complete (h.mem_iff.mp hev) hes
  refine ⟨g', hg', hgk'.trans hek, ?_⟩
  rw [h1, (groupByKey_group hg').1, hgk'.trans hek]
  exact h.filter _

theorem groupByKey_perm_keys {evs evs' : List Event} (h : evs ~ evs') :
    (groupByKey evs).map (·.1) ~ (groupByKey evs').map (·.1) := by
  refine SameSet.perm ?_ (groupByKey_keys_nodup evs) (groupByKey_keys_nodup evs')
  intro key
  simp only [List.mem_map]
  constructor
  · rintro ⟨g, hg, rfl⟩
    obtain ⟨g', hg', hk, _⟩ := groupByKey_perm h g hg
    exact ⟨g', hg', hk⟩
  · rintro ⟨g, hg, rfl⟩
    obtain ⟨g', hg', hk, _⟩ := groupByKey_perm h.symm g hg
    exact ⟨g', hg', hk⟩

end V.StateRes
