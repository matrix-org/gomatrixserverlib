/-
  Order independence of state resolution v2 / v2.1.  The part that the current entry point (`resolveV2New`) and the
  deprecated one (`resolveV2Old`) share (`mkPrep`, `flowFrom` of StateResStages.lean): the preparation depends on its
  inputs only as sets (`mkPrep_sim`), the flow on the starting state only through its lookups (`flowFrom_sim`).  Then
  `resolveV2New`: permuting the state sets, the events inside each state set, reordering the auth events and listing some of
  them more than once changes the resolved state only by a permutation of its entries (`prepOf_sim`,
  `finalState_perm_invariant`, `stages_perm_invariant`, `finalState_internal_order_irrelevant`).
-/
import VProofs.StateResWF
namespace V.StateRes
open List

/-- what two preparations of the same input (presented differently) have in common -/
structure PrepSim (U : Event → Prop) (p p' : Prep) : Prop where
  inU : (∀ x ∈ p.unconflicted, U x) ∧ (∀ x ∈ p'.unconflicted, U x) ∧ (∀ x ∈ p.controlEvents, U x) ∧ (∀ x ∈ p'.controlEvents, U x)
  conflicted : SameSet p.conflicted p'.conflicted
  unconflicted : p.unconflicted ~ p'.unconflicted
  slots : DistinctSlots p.unconflicted
  authMap : MapEq p.authMap p'.authMap
  createEv : p.createEv = p'.createEv
  authDiff : SameSet p.authDiff p'.authDiff
  controlIDs : SameSet p.controlIDs p'.controlIDs
  controlEvents : SameSet p.controlEvents p'.controlEvents
  others : p.others ~ p'.others
  othersNodup : IdNodup p.others

theorem controlIDsOf_sameSet {cm cm' roots roots' : List Event} (hm : MapEq cm cm') (hr : SameSet roots roots') :
    SameSet (controlIDsOf cm roots) (controlIDsOf cm' roots') := by
  unfold controlIDsOf
  rw [controlClosure_mapEq hm, hm.1]
  apply controlClosure_sameSet _ _ hr
  intro id
  rw [eventMap_ids, eventMap_ids]
  exact (hr.map _) id

theorem rootsOf_sameSet {ids ids' : List ID} {full full' : List Event} (hi : SameSet ids ids') (hf : SameSet full full') :
    SameSet (rootsOf ids full) (rootsOf ids' full') := by
  intro x; unfold rootsOf; simp only [List.mem_filter, hf x, hi.contains]

theorem othersOf_perm {U : Event → Prop} (hU : EvId U) {ids ids' cids cids' : List ID} {full full' : List Event}
    (hfU : ∀ x ∈ full, U x) (hi : SameSet ids ids') (hc : SameSet cids cids') (hf : SameSet full full') :
    othersOf ids cids full ~ othersOf ids' cids' full' := by
  unfold othersOf
  simp only [hi.contains, hc.contains]
  exact (eventMap_perm hU hfU hf).filter _

theorem othersOf_idNodup (ids cids : List ID) (full : List Event) : IdNodup (othersOf ids cids full) :=
  (eventMap_idNodup _).filter _

theorem mkPrep_sim {U : Event → Prop} (hU : EvId U) {c c' u u' am am' : List Event} (ce : Option Event) {d d' : List Event}
    (hcU : ∀ x ∈ c, U x) (huU : ∀ x ∈ u, U x) (hdU : ∀ x ∈ d, U x)
    (hc : SameSet c c') (hu : u ~ u') (hslots : DistinctSlots u) (ham : MapEq am am') (hd : SameSet d d') :
    PrepSim U (mkPrep c u am ce d) (mkPrep c' u' am' ce d') := by
  have hfull : SameSet (c ++ d) (c' ++ d') := hc.append hd
  have hfullU : ∀ x ∈ c ++ d, U x := fun x hx => (List.mem_append.mp hx).elim (hcU x) (hdU x)
  have hcm : MapEq (eventMapFromEvents c) (eventMapFromEvents c') := eventMap_mapEq hU hcU hc
  have huid : SameSet (u.map (·.eventID)) (u'.map (·.eventID)) := (SameSet.of_perm hu).map _
  have hcids := controlIDsOf_sameSet hcm (rootsOf_sameSet huid hfull)
  refine ⟨⟨huU, fun x hx => huU x (hu.mem_iff.mpr hx), fun x hx => (mkPrep_control_sub hx).elim (hcU x) (hdU x),
      fun x hx => (mkPrep_control_sub hx).elim (fun h => hcU x ((hc x).mpr h)) (fun h => hdU x ((hd x).mpr h))⟩,
    hc, hu, hslots, ham, rfl, hd, ?_, ?_, othersOf_perm hU hfullU huid hcids hfull, othersOf_idNodup _ _ _⟩
  -- unfold `mkPrep` before `exact`: left to the unifier, it unfolds `controlIDsOf` down to the closure
  all_goals simp only [mkPrep]
  · exact hcids
  · rw [lookupAny_congr (funext (findByID_congr hU hfullU hfull)) hcm.find_eq]; exact hcids.filterMap _

/-- two partial states that are maps with the same lookups -/
structure StateEq (s s' : State) : Prop where
  wf : StateWF s
  wf' : StateWF s'
  get : ∀ t k, s.get t k = s'.get t k

theorem StateEq.refl {s : State} (h : StateWF s) : StateEq s s := ⟨h, h, fun _ _ => rfl⟩

theorem StateEq.perm {s s' : State} (h : StateEq s s') : s ~ s' := h.wf.perm_of_get h.wf' h.get

theorem StateEq.applyStep {s s' : State} (h : StateEq s s') (e : Event) : StateEq (applyStep s e) (applyStep s' e) :=
  ⟨h.wf.applyEvents [e], h.wf'.applyEvents [e], fun t k => by rw [get_applyStep, get_applyStep, h.get]⟩

theorem StateEq.authStep {s s' : State} (h : StateEq s s') (am : List Event) (rej : List ID) (e : Event) :
    StateEq (authStep am rej s e) (authStep am rej s' e) := by
  unfold V.StateRes.authStep
  rw [authStep_verdict_get_congr am rej h.get e]
  split
  · exact h.applyStep e
  · exact h

theorem StateEq.authAndApply {s s' : State} (h : StateEq s s') (am : List Event) (rej : List ID) (evs : List Event) :
    StateEq (authAndApply am rej s evs) (authAndApply am rej s' evs) := by
  rw [authAndApply_eq, authAndApply_eq]
  exact List.foldl_rel h (fun e _ _ _ hc => hc.authStep am rej e)

theorem createFor_stateEq {s s' : State} (h : StateEq s s') (c : Option Event) : createFor c s = createFor c s' := by
  unfold createFor; rw [h.get]

theorem StateEq.applyEvents_perm {s s' : State} (h : StateEq s s') {evs evs' : List Event} (hp : evs ~ evs')
    (hd : DistinctSlots evs) : StateEq (applyEvents s evs) (applyEvents s' evs') := by
  refine ⟨h.wf.applyEvents _, h.wf'.applyEvents _, fun t k => ?_⟩
  rw [get_applyEvents_perm hp hd s t k, get_applyEvents, get_applyEvents, h.get]

section flow
variable {U : Event → Prop} (hU : EvId U) {p p' : Prep} (h : PrepSim U p p') (rej : List ID) {s1 s1' : State} (hs : StateEq s1 s1')

include hU h hs in
theorem controlOrderFrom_sim : controlOrderFrom p s1 = controlOrderFrom p' s1' := by
  unfold controlOrderFrom
  rw [createFor_stateEq hs, reverseTopoAuth_mapEq h.authMap, h.createEv]
  exact reverseTopoAuth_input_order_irrelevant _ _
    (hU.mono (fun x hx => by
      rcases List.mem_append.mp hx with hx | hx
      · exact h.inU.2.2.1 x hx
      · exact h.inU.2.2.2 x hx)) h.controlEvents

include hU h hs in
theorem stateS2From_sim : StateEq (stateS2From p rej s1) (stateS2From p' rej s1') := by
  unfold stateS2From
  rw [controlOrderFrom_sim hU h hs, authAndApply_mapEq h.authMap]
  exact hs.authAndApply _ _ _

include hU h hs in
theorem othersOrderFrom_sim : othersOrderFrom p rej s1 = othersOrderFrom p' rej s1' := by
  unfold othersOrderFrom
  rw [(stateS2From_sim hU h rej hs).get, createMainline_mapEq h.authMap, mainlineOrdering_mapEq h.authMap]
  exact mainlineOrdering_input_order_irrelevant _ _ h.others h.othersNodup

include hU h hs in
theorem stateS3From_sim : StateEq (stateS3From p rej s1) (stateS3From p' rej s1') := by
  unfold stateS3From
  rw [othersOrderFrom_sim hU h rej hs, authAndApply_mapEq h.authMap]
  exact (stateS2From_sim hU h rej hs).authAndApply _ _ _

include hU h hs in
theorem flowFrom_sim : StateEq (flowFrom p rej s1) (flowFrom p' rej s1') := by
  unfold flowFrom
  exact (stateS3From_sim hU h rej hs).applyEvents_perm h.unconflicted h.slots

end flow

/-- all supplied create events are one and the same event (the events belong to one room) -/
def OneCreate (U : Event → Prop) : Prop := ∀ x y, U x → U y → x.isCreate = true → y.isCreate = true → x = y

theorem getCreateEvent_congr {U : Event → Prop} (hC : OneCreate U) {l l' : List Event} (hl : ∀ x ∈ l, U x)
    (h : SameSet l l') : getCreateEvent l = getCreateEvent l' :=
  Lists.find?_eq_of_mem_iff h (fun a ha b hb ca cb => hC a b (hl a ha) (hl b hb) ca cb)

theorem createEvOf_congr {U : Event → Prop} (hC : OneCreate U) {u u' a a' c c' : List Event}
    (hu : ∀ x ∈ u, U x) (ha : ∀ x ∈ a, U x) (hc : ∀ x ∈ c, U x)
    (h1 : SameSet u u') (h2 : SameSet a a') (h3 : SameSet c c') : createEvOf u a c = createEvOf u' a' c' := by
  unfold createEvOf
  rw [getCreateEvent_congr hC hu h1, getCreateEvent_congr hC ha h2, getCreateEvent_congr hC hc h3]

theorem prepOf_inU {U : Event → Prop} (algo : Nat) {sets : List (List Event)} {auth : List Event}
    (hsU : ∀ s ∈ sets, ∀ x ∈ s, U x) (haU : ∀ x ∈ auth, U x) :
    (∀ x ∈ (splitConflictedUnconflicted false sets).1, U x) ∧ (∀ x ∈ (splitConflictedUnconflicted false sets).2, U x) ∧
    ∀ x ∈ authDifferenceNew algo (eventMapFromEvents auth) (splitConflictedUnconflicted false sets).1 sets, U x := by
  have hin : ∀ x, x ∈ sets.flatten ∨ x ∈ auth → U x := fun x hx => hx.elim (List.forall_mem_flatten.mpr hsU x) (haU x)
  exact ⟨fun x hx => hin x (mem_fullConflicted (algo := algo) (Or.inl hx)),
    fun x hx => hin x (Or.inl (split_sub false sets (Or.inr hx)).1), fun x hx => hin x (mem_fullConflicted (Or.inr hx))⟩

section prep
variable {U : Event → Prop} (hU : EvId U) (hC : OneCreate U) (algo : Nat)
  {sets sets' : List (List Event)} {auth auth' : List Event}
  (hsU : ∀ s ∈ sets, ∀ x ∈ s, U x) (haU : ∀ x ∈ auth, U x)
  (hs : SetsEquiv sets sets') (ha : SameSet auth auth')

include hU hC hsU haU hs ha in
theorem prepOf_sim : PrepSim U (prepOf algo sets auth) (prepOf algo sets' auth') := by
  obtain ⟨hcU, huU, hdU⟩ := prepOf_inU algo hsU haU
  obtain ⟨hcp, hup⟩ := split_perm_of_setsEquiv hU false hsU hs
  have hc := SameSet.of_perm hcp
  have ham : MapEq (eventMapFromEvents auth) (eventMapFromEvents auth') := eventMap_mapEq hU haU ha
  have had := authDifferenceNew_congr hU algo hsU (fun x hx => haU x (mem_eventMap hx))
    hcU ham hc hs.sim
  rw [prepOf_eq_mkPrep, prepOf_eq_mkPrep, createEvOf_congr hC huU haU hcU (SameSet.of_perm hup) ha hc]
  exact mkPrep_sim hU _ hcU huU hdU hc hup (unconflicted_distinctSlots sets) ham had

end prep

section states
variable {U : Event → Prop} (hU : EvId U) (algo : Nat) {p p' : Prep} (h : PrepSim U p p') (rej : List ID)

include hU h in
theorem stateS1_sim : stateS1 algo p = stateS1 algo p' := by
  unfold stateS1
  rw [reverseTopoAuth_mapEq h.authMap, h.createEv]
  rw [reverseTopoAuth_input_order_irrelevant p'.authMap p'.createEv (l1 := p.unconflicted) (l2 := p'.unconflicted)
    (hU.mono (fun x hx => by
      rcases List.mem_append.mp hx with hx | hx
      · exact h.inU.1 x hx
      · exact h.inU.2.1 x hx)) (SameSet.of_perm h.unconflicted)]

include hU h in
theorem stateS1_stateEq : StateEq (stateS1 algo p) (stateS1 algo p') := by
  rw [stateS1_sim hU algo h]; exact StateEq.refl (stateS1_wf algo p')

include hU h in
theorem controlOrderOf_sim : controlOrderOf algo p = controlOrderOf algo p' :=
  controlOrderFrom_sim hU h (stateS1_stateEq hU algo h)

include hU h in
theorem othersOrderOf_sim : othersOrderOf algo p rej = othersOrderOf algo p' rej :=
  othersOrderFrom_sim hU h rej (stateS1_stateEq hU algo h)

include hU h in
theorem stateS4_sim : stateS4 algo p rej ~ stateS4 algo p' rej :=
  (flowFrom_sim hU h rej (stateS1_stateEq hU algo h)).perm

end states

theorem finalState_perm_invariant {U : Event → Prop} (hU : EvId U) (hC : OneCreate U) (algo : Nat)
    {sets sets' : List (List Event)} {auth auth' : List Event}
    (hsU : ∀ s ∈ sets, ∀ x ∈ s, U x) (haU : ∀ x ∈ auth, U x)
    (hs : SetsEquiv sets sets') (ha : SameSet auth auth') (rej : List ID) :
    finalState algo sets auth rej ~ finalState algo sets' auth' rej := by
  rw [finalState_eq_stateS4, finalState_eq_stateS4]
  exact stateS4_sim hU algo (prepOf_sim hU hC algo hsU haU hs ha) rej

theorem stages_perm_invariant {U : Event → Prop} (hU : EvId U) (hC : OneCreate U) (algo : Nat)
    {sets sets' : List (List Event)} {auth auth' : List Event}
    (hsU : ∀ s ∈ sets, ∀ x ∈ s, U x) (haU : ∀ x ∈ auth, U x)
    (hs : SetsEquiv sets sets') (ha : SameSet auth auth') (rej : List ID) :
    let r := resolveV2New algo sets auth rej
    let r' := resolveV2New algo sets' auth' rej
    SameSet r.conflicted r'.conflicted ∧ SameSet r.unconflicted r'.unconflicted ∧ SameSet r.authDiff r'.authDiff ∧
    SameSet r.control r'.control ∧ SameSet r.others r'.others ∧
    r.controlOrder = r'.controlOrder ∧ r.othersOrder = r'.othersOrder ∧ r.result ~ r'.result := by
  have hp := prepOf_sim hU hC algo hsU haU hs ha
  rw [resolveV2New_eq, resolveV2New_eq]
  unfold stagesFrom
  rw [controlOrderOf_sim hU algo hp, othersOrderOf_sim hU algo hp]
  -- reduce the projections of the two structure literals first: left to the unifier, `exact` evaluates `controlClosure`
  dsimp only
  exact ⟨hp.conflicted.map Event.eventID, (SameSet.of_perm hp.unconflicted).map Event.eventID,
    hp.authDiff.map Event.eventID, hp.controlIDs, (SameSet.of_perm hp.others).map Event.eventID, rfl, rfl,
    (stateS4_sim hU algo hp rej).map (·.2.eventID)⟩

/-- **The order in which the Go maps are ranged over is irrelevant.**  Replace the conflicted list, the unconflicted list, the
    auth map and the auth difference computed by the model (first-insertion order) by ANY lists holding the same events
    (`c'`, `d'` the same sets, `u'` a permutation, `am'` answering lookups alike): the resolved state is a permutation of
    the model's. -/
theorem finalState_internal_order_irrelevant {U : Event → Prop} (hU : EvId U) (algo : Nat)
    {sets : List (List Event)} {auth : List Event} (hsU : ∀ s ∈ sets, ∀ x ∈ s, U x) (haU : ∀ x ∈ auth, U x) (rej : List ID)
    {c' u' am' d' : List Event}
    (hc : SameSet (prepOf algo sets auth).conflicted c') (hu : (prepOf algo sets auth).unconflicted ~ u')
    (ham : MapEq (prepOf algo sets auth).authMap am') (hd : SameSet (prepOf algo sets auth).authDiff d') :
    stateS4 algo (prepOf algo sets auth) rej ~ stateS4 algo (mkPrep c' u' am' (prepOf algo sets auth).createEv d') rej := by
  obtain ⟨hcU, huU, hdU⟩ := prepOf_inU algo hsU haU
  have hp : PrepSim U (prepOf algo sets auth) (mkPrep c' u' am' (prepOf algo sets auth).createEv d') := by
    rw [prepOf_eq_mkPrep] at hc hu ham hd ⊢
    exact mkPrep_sim hU _ hcU huU hdU hc hu
      (unconflicted_distinctSlots sets) ham hd
  exact stateS4_sim hU algo hp rej

end V.StateRes
