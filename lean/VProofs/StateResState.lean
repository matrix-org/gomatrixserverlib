/-
  The resolved-state association list of VModel.StateRes (`State.get` / `State.set` / `applyEvents` /
  `authAndApply`): one entry per (type, state_key) slot, entries are supplied events, the state reached by
  applying events with pairwise distinct slots does not depend on the order they are applied in, and the iterative auth
  checks read the auth map through lookups and the partial state through `State.get` only.
-/
import VProofs.StateResBasic
import VProofs.Assoc
namespace V.StateRes
open Auth List

/-- one entry per slot, and every entry sits in the slot of its event -/
structure StateWF (s : State) : Prop where
  nodup : (s.map (·.1)).Nodup
  slot : ∀ x ∈ s, hasKey x.1 x.2 = true

theorem stateWF_nil : StateWF [] := ⟨by simp, fun _ h => by cases h⟩

theorem StateWF.keyOf_eq {s : State} (h : StateWF s) {x} (hx : x ∈ s) : keyOf x.2 = x.1 := by
  obtain ⟨h1, h2⟩ := hasKey_iff.mp (h.slot x hx)
  unfold keyOf; rw [h1, h2]; rfl

theorem StateWF.map_keyOf {s : State} (h : StateWF s) : (s.map (·.2)).map keyOf = s.map (·.1) := by
  rw [List.map_map]; exact List.map_congr_left (fun x hx => h.keyOf_eq hx)

theorem State.get_nil (t k : Bytes) : State.get [] t k = none := rfl

theorem State.get_cons (x : (Bytes × Bytes) × Event) (s : State) (t k : Bytes) :
    State.get (x :: s) t k = if x.1 = (t, k) then some x.2 else State.get s t k :=
  (Assoc.lookup_cons x s (t, k)).trans (Assoc.ite_beq _ _ _ _)

theorem State.mem_of_get_eq_some {s : State} {t k : Bytes} {e : Event} (h : s.get t k = some e) : ((t, k), e) ∈ s :=
  Assoc.mem_of_lookup_eq_some h

theorem State.get_eq_some_iff {s : State} (hn : (s.map (·.1)).Nodup) {t k : Bytes} {e : Event} :
    s.get t k = some e ↔ ((t, k), e) ∈ s := Assoc.lookup_eq_some_iff hn

theorem State.get_eq_none_iff {s : State} {t k : Bytes} : s.get t k = none ↔ (t, k) ∉ s.map (·.1) := Assoc.lookup_eq_none

theorem State.isSome_find_iff {s : State} {t k : Bytes} :
    (s.find? (fun x => x.1 == (t, k))).isSome ↔ (t, k) ∈ s.map (·.1) := by
  rw [Assoc.isSome_find]; exact Assoc.isSome_lookup

theorem State.set_eq_upsert (s : State) (t k : Bytes) (e : Event) : s.set t k e = Assoc.upsert s (t, k) (fun _ => e) e := by
  unfold State.set Assoc.upsert
  rw [Assoc.map_replace_eq]

theorem State.set_keys (s : State) (t k : Bytes) (e : Event) :
    (s.set t k e).map (·.1) = if (t, k) ∈ s.map (·.1) then s.map (·.1) else s.map (·.1) ++ [(t, k)] := by
  rw [State.set_eq_upsert]; exact Assoc.keys_upsert s _ _ _

theorem State.mem_set {s : State} {t k : Bytes} {e : Event} {x} (h : x ∈ s.set t k e) :
    x = ((t, k), e) ∨ (x ∈ s ∧ x.1 ≠ (t, k)) := by
  rw [State.set_eq_upsert] at h
  rcases Assoc.mem_upsert h with h' | ⟨h1, h2⟩
  · exact Or.inr h'
  · refine Or.inl (Prod.ext h1 ?_)
    rcases h2 with ⟨h2, _⟩ | ⟨_, _, _, h2⟩ <;> exact h2

theorem State.set_nodup {s : State} (hn : (s.map (·.1)).Nodup) (t k : Bytes) (e : Event) :
    ((s.set t k e).map (·.1)).Nodup := by
  rw [State.set_eq_upsert]; exact Assoc.nodup_keys_upsert hn _ _ _

theorem State.get_set (s : State) (t k : Bytes) (e : Event) (t' k' : Bytes) :
    (s.set t k e).get t' k' = if (t', k') = (t, k) then some e else s.get t' k' := by
  rw [State.set_eq_upsert]
  refine ((Assoc.lookup_upsert s (t, k) (fun _ => e) e (t', k')).trans (Assoc.ite_beq _ _ _ _)).trans ?_
  cases Assoc.lookup s (t, k) <;> rfl

theorem StateWF.set {s : State} (h : StateWF s) {e : Event} {k : Bytes} (hk : e.stateKey = some k) :
    StateWF (s.set e.type k e) := by
  refine ⟨State.set_nodup h.nodup _ _ _, ?_⟩
  intro x hx
  rcases State.mem_set hx with rfl | ⟨hx', _⟩
  · exact hasKey_iff.mpr ⟨hk, rfl⟩
  · exact h.slot x hx'

def applyStep (st : State) (e : Event) : State :=
  match e.stateKey with
  | none => st
  | some k => st.set e.type k e

theorem applyEvents_eq (s : State) (evs : List Event) : applyEvents s evs = evs.foldl applyStep s := rfl

theorem applyEvents_nil (s : State) : applyEvents s [] = s := rfl

theorem applyEvents_cons (s : State) (e : Event) (evs : List Event) :
    applyEvents s (e :: evs) = applyEvents (applyStep s e) evs := rfl

theorem applyEvents_append (s : State) (a b : List Event) : applyEvents s (a ++ b) = applyEvents (applyEvents s a) b := by
  simp only [applyEvents_eq, List.foldl_append]

/-- whatever `State.set` of a listed state event into its own slot preserves, `applyEvents` preserves -/
theorem applyEvents_ind {P : State → Prop} {s : State} {evs : List Event} (h0 : P s)
    (hset : ∀ st, P st → ∀ e ∈ evs, ∀ k, e.stateKey = some k → P (st.set e.type k e)) : P (applyEvents s evs) := by
  refine List.foldlRecOn evs applyStep h0 (fun st hst e he => ?_)
  unfold applyStep
  split
  · exact hst
  · exact hset st hst e he _ ‹_›

theorem StateWF.applyEvents {s : State} (h : StateWF s) (evs : List Event) : StateWF (applyEvents s evs) :=
  applyEvents_ind h (fun _ hst _ _ _ hk => hst.set hk)

theorem mem_set_of_mem {s st : State} {evs : List Event} (hst : ∀ x ∈ st, x ∈ s ∨ x.2 ∈ evs) {e : Event} (he : e ∈ evs)
    (k : Bytes) : ∀ x ∈ st.set e.type k e, x ∈ s ∨ x.2 ∈ evs :=
  fun x hx => (State.mem_set hx).elim (fun h => Or.inr (h ▸ he)) (fun h => hst x h.1)

theorem mem_applyEvents {s : State} {evs : List Event} {x} (h : x ∈ applyEvents s evs) : x ∈ s ∨ x.2 ∈ evs :=
  applyEvents_ind (P := fun st => ∀ x ∈ st, x ∈ s ∨ x.2 ∈ evs) (fun _ hx => Or.inl hx)
    (fun _ hst _ he k _ => mem_set_of_mem hst he k) x h

theorem get_applyStep (s : State) (e : Event) (t k : Bytes) :
    (applyStep s e).get t k = if hasKey (t, k) e then some e else s.get t k := by
  unfold applyStep
  cases hk : e.stateKey with
  | none =>
    have : hasKey (t, k) e = false := by simp [hasKey, hk]
    simp [this]
  | some k' =>
    simp only [State.get_set]
    by_cases hq : (t, k) = (e.type, k')
    · have : hasKey (t, k) e = true := by
        rw [hq]; exact hasKey_iff.mpr ⟨hk, rfl⟩
      rw [if_pos hq, this]; rfl
    · have : hasKey (t, k) e = false := by
        cases hh : hasKey (t, k) e with
        | false => rfl
        | true =>
          obtain ⟨h1, h2⟩ := hasKey_iff.mp hh
          rw [hk] at h1; simp only [Option.some.injEq] at h1
          exact absurd (by simp [h1, h2]) hq
      simp [hq, this]

/-- the events that are state events occupy pairwise distinct slots -/
def DistinctSlots (evs : List Event) : Prop :=
  evs.Pairwise (fun a b => ∀ key, ¬ (hasKey key a = true ∧ hasKey key b = true))

theorem distinctSlots_of_keys {evs : List Event} (h : (evs.map keyOf).Nodup) : DistinctSlots evs := by
  unfold DistinctSlots
  rw [List.nodup_iff_pairwise_ne, List.pairwise_map] at h
  refine h.imp ?_
  intro a b hne key ⟨ha, hb⟩
  apply hne
  have ha' := hasKey_iff.mp ha
  have hb' := hasKey_iff.mp hb
  unfold keyOf; rw [ha'.1, hb'.1, ha'.2, hb'.2]

theorem DistinctSlots.unique {evs : List Event} (hd : DistinctSlots evs) (key : Bytes × Bytes) :
    ∀ a ∈ evs, ∀ b ∈ evs, hasKey key a = true → hasKey key b = true → a = b :=
  fun _ ha _ hb ka kb => Lists.eq_of_pairwise_not (R := fun a b => hasKey key a = true ∧ hasKey key b = true)
    (fun _ _ h => ⟨h.2, h.1⟩) (hd.imp (fun h => h key)) ha hb ⟨ka, kb⟩

theorem get_applyEvents (s : State) (evs : List Event) (t k : Bytes) :
    (applyEvents s evs).get t k = (evs.reverse.find? (hasKey (t, k))).or (s.get t k) :=
  (Lists.foldl_write (get := fun s => State.get s t k) (v := fun e => e) (fun s e => get_applyStep s e t k) evs s).trans
    (by rw [Option.map_id'])

theorem get_applyEvents_of_mem {evs : List Event} (hd : DistinctSlots evs) (s : State) {e : Event} (he : e ∈ evs)
    {t k : Bytes} (hk : hasKey (t, k) e = true) : (applyEvents s evs).get t k = some e := by
  rw [get_applyEvents]
  cases hf : evs.reverse.find? (hasKey (t, k)) with
  | none => exact absurd hk (List.find?_eq_none.mp hf e (List.mem_reverse.mpr he))
  | some x => rw [hd.unique (t, k) x (List.mem_reverse.mp (List.mem_of_find?_eq_some hf)) e he (List.find?_some hf) hk]; rfl

theorem get_applyEvents_perm {evs evs' : List Event} (hp : evs ~ evs') (hd : DistinctSlots evs) (s : State) (t k : Bytes) :
    (applyEvents s evs).get t k = (applyEvents s evs').get t k := by
  rw [get_applyEvents, get_applyEvents,
    Lists.find?_eq_of_mem_iff (SameSet.of_perm ((List.reverse_perm evs).trans (hp.trans (List.reverse_perm evs').symm)))]
  exact fun a ha b hb => hd.unique (t, k) a (List.mem_reverse.mp ha) b (List.mem_reverse.mp hb)

theorem StateWF.perm_of_get {s s' : State} (h : StateWF s) (h' : StateWF s') (hg : ∀ t k, s.get t k = s'.get t k) : s ~ s' := by
  refine SameSet.perm ?_ (Lists.nodup_of_nodup_map _ h.nodup) (Lists.nodup_of_nodup_map _ h'.nodup)
  intro x
  obtain ⟨⟨t, k⟩, e⟩ := x
  rw [← State.get_eq_some_iff h.nodup, ← State.get_eq_some_iff h'.nodup, hg]

def authStep (authMap : List Event) (rejected : List ID) (st : State) (e : Event) : State :=
  match allowedFreshNoValid e (Provider.ofEvents (providerFor authMap rejected st e)) false with
  | .ok => applyEvents st [e]
  | _ => st

theorem authAndApply_eq (authMap : List Event) (rejected : List ID) (s : State) (evs : List Event) :
    authAndApply authMap rejected s evs = evs.foldl (authStep authMap rejected) s := by
  -- plain `rfl` makes the elaborator normalise the auth check to compare the two `match`es
  refine congrArg (fun f => List.foldl f s evs) (funext fun st => funext fun e => ?_)
  unfold authStep
  cases allowedFreshNoValid e _ false <;> rfl

theorem authAndApply_ind {P : State → Prop} {s : State} {evs : List Event} (am : List Event) (rej : List ID) (h0 : P s)
    (hset : ∀ st, P st → ∀ e ∈ evs, ∀ k, e.stateKey = some k → P (st.set e.type k e)) : P (authAndApply am rej s evs) := by
  rw [authAndApply_eq]
  refine List.foldlRecOn evs _ h0 (fun st hst e he => ?_)
  unfold authStep
  split
  · exact applyEvents_ind hst (fun st' h' e' he' => hset st' h' e' (List.mem_singleton.mp he' ▸ he))
  · exact hst

theorem StateWF.authAndApply {s : State} (h : StateWF s) (authMap : List Event) (rejected : List ID) (evs : List Event) :
    StateWF (authAndApply authMap rejected s evs) :=
  authAndApply_ind authMap rejected h (fun _ hst _ _ _ hk => hst.set hk)

theorem authAndApply_keys_nodup (authMap : List Event) (rejected : List ID) (s : State) (evs : List Event)
    (h : (s.map (·.1)).Nodup) : ((authAndApply authMap rejected s evs).map (·.1)).Nodup :=
  authAndApply_ind (P := fun st => (st.map (·.1)).Nodup) authMap rejected h (fun _ hst _ _ _ _ => State.set_nodup hst _ _ _)

theorem mem_authAndApply {authMap : List Event} {rejected : List ID} {s : State} {evs : List Event} {x}
    (h : x ∈ authAndApply authMap rejected s evs) : x ∈ s ∨ x.2 ∈ evs :=
  authAndApply_ind (P := fun st => ∀ x ∈ st, x ∈ s ∨ x.2 ∈ evs) authMap rejected (fun _ hx => Or.inl hx)
    (fun _ hst _ he k _ => mem_set_of_mem hst he k) x h

/-! ## What the iterative auth checks read: the auth map through lookups, the partial state through `State.get` -/

theorem providerFor_mapEq {am am' : List Event} (h : MapEq am am') (rej : List ID) (s : State) (e : Event) :
    providerFor am rej s e = providerFor am' rej s e := by
  have hf : fromAuthEvents am rej e = fromAuthEvents am' rej e := by
    funext t k; unfold fromAuthEvents; rw [h.find_eq]
  unfold providerFor; rw [hf]

theorem authAndApply_mapEq {am am' : List Event} (h : MapEq am am') (rej : List ID) (s : State) (evs : List Event) :
    authAndApply am rej s evs = authAndApply am' rej s evs := by
  have hs : authStep am rej = authStep am' rej := by
    funext s e; unfold authStep; rw [providerFor_mapEq h]
  rw [authAndApply_eq, authAndApply_eq, hs]

/-- the provider is built from lookups into the partial state only: one auth-check step gives the same verdict on
    two states with the same lookups -/
theorem authStep_verdict_get_congr (am : List Event) (rej : List ID) {s s' : State} (h : ∀ t k, s.get t k = s'.get t k)
    (e : Event) :
    allowedFreshNoValid e (Provider.ofEvents (providerFor am rej s e)) false =
      allowedFreshNoValid e (Provider.ofEvents (providerFor am rej s' e)) false := by
  have hl : lookupState s = lookupState s' := by
    funext t k; unfold lookupState; rw [h]
  unfold providerFor; rw [hl]

end V.StateRes
