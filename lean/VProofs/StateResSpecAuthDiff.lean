/-
  C10: `authDifferenceNew` computes the auth difference (⋃ chains \ ⋂ chains) and, for algorithm 3 (v2.1),
  additionally the conflicted subgraph, as DEFINED through reachability in the auth map.
-/
import VProofs.StateResSpecControl
import VProofs.StateResClosure
namespace V.StateResSpec
open V.StateRes

-- the IDs `authDifferenceNew` adds for the conflicted subgraph (algorithm 3)
def subIDs (algo : Nat) (m : List Event) (conflicted : List Event) (sets : List (List Event)) : List ID :=
  if algo == 3 then (sets.map (conflictedSubgraph m (conflicted.map (·.eventID)))).foldl unionIDs [] else []

theorem authDifferenceNew_eq (algo : Nat) (m conflicted : List Event) (sets : List (List Event)) :
    authDifferenceNew algo m conflicted sets =
      (unionIDs (diffIDs (sets.map (fullAuthChain m))) (subIDs algo m conflicted sets)).filterMap
        (lookupAny m conflicted) := rfl

theorem mem_diffIDs_fullAuthChain {m : List Event} {sets : List (List Event)} {id : ID} :
    id ∈ diffIDs (sets.map (fullAuthChain m)) ↔
      (∃ S ∈ sets, id ∈ fullAuthChain m S) ∧ ∃ S ∈ sets, id ∉ fullAuthChain m S := by
  rw [mem_diffIDs_map]
  exact and_congr_right' ⟨fun hn => Classical.byContradiction fun hno => hn fun S hS =>
    Classical.byContradiction fun h => hno ⟨S, hS, h⟩, fun ⟨S, hS, h⟩ hall => h (hall S hS)⟩

theorem chain_event {m : List Event} (hm : IdNodup m) {S : List Event} {y : Event} (hy : y ∈ m) :
    y.eventID ∈ fullAuthChain m S ↔ InAuthChain (· ∈ m) S y :=
  IdsOf.mem (mem_fullAuthChain_iff hm S) hm.idsIn (fun _ ⟨_, _, hr⟩ => hr.target) hy

theorem AuthDifference.mem {m : List Event} {sets : List (List Event)} {y : Event} (h : AuthDifference (· ∈ m) sets y) :
    y ∈ m := by
  obtain ⟨⟨S, _, s, _, hr⟩, _⟩ := h; exact hr.target

theorem diffIDs_idsOf {m : List Event} (hm : IdNodup m) {sets : List (List Event)} :
    IdsOf (AuthDifference (· ∈ m) sets) (diffIDs (sets.map (fullAuthChain m))) := by
  intro id
  rw [mem_diffIDs_fullAuthChain]
  unfold AuthDifference
  constructor
  · rintro ⟨⟨S, hS, h1⟩, S', hS', h2⟩
    obtain ⟨y, hid, hc⟩ := (mem_fullAuthChain_iff hm S id).mp h1
    have hy : y ∈ m := by obtain ⟨s, _, hr⟩ := hc; exact hr.target
    exact ⟨y, hid, ⟨S, hS, hc⟩, S', hS', fun hc' => h2 (hid ▸ (chain_event hm hy).mpr hc')⟩
  · rintro ⟨y, rfl, hd⟩
    have hy : y ∈ m := AuthDifference.mem hd
    obtain ⟨⟨S, hS, h1⟩, S', hS', h2⟩ := hd
    exact ⟨⟨S, hS, (chain_event hm hy).mpr h1⟩, S', hS', fun h => h2 ((chain_event hm hy).mp h)⟩

theorem authDifference_eq_spec {m : List Event} (hm : IdNodup m) (conflicted : List Event) (sets : List (List Event))
    (y : Event) : y ∈ authDifferenceNew 2 m conflicted sets ↔ AuthDifference (· ∈ m) sets y := by
  rw [authDifferenceNew_eq]
  exact (diffIDs_idsOf hm).filterMap (fun _ h => lookupAny_left hm.idsIn conflicted h.mem) y

theorem reachFrom_any {m : List Event} (hm : IdNodup m) (cids : List ID) (x : Event) :
    (reachFrom m x).any (fun id => cids.contains id) = true ↔ ∃ c, c.eventID ∈ cids ∧ Reach (· ∈ m) x c := by
  rw [List.any_eq_true]
  constructor
  · rintro ⟨id, hid, hc⟩
    obtain ⟨y, hy, hr⟩ := (mem_reachFrom_iff hm x id).mp hid
    exact ⟨y, by rw [hy]; simpa using hc, hr⟩
  · rintro ⟨c, hc, hr⟩
    exact ⟨c.eventID, (mem_reachFrom_iff hm x _).mpr ⟨c, rfl, hr⟩, by simpa using hc⟩

theorem mem_subgraphCand {U : Event → Prop} (hU : IDsIdentify U) {m : List Event} (hm : IdNodup m)
    (hmU : ∀ x ∈ m, U x) {O : List Event} (hOU : ∀ x ∈ O, U x) (x : Event) :
    x ∈ eventMapFromEvents (subgraphCand m O) ↔ ∃ o ∈ O, Reach (· ∈ m) o x := by
  have hlistU : ∀ z ∈ subgraphCand m O, U z := fun z hz => (subgraphCand_sub hz).elim (hOU z) (hmU z)
  rw [(eventMap_sameSet (fun a b ha hb => hU a b (hlistU a ha) (hlistU b hb))) x]
  unfold subgraphCand
  rw [List.mem_append]
  constructor
  · rintro (h | h)
    · exact ⟨x, h, Or.inl rfl⟩
    · obtain ⟨id', hid', hf⟩ := List.mem_filterMap.mp h
      obtain ⟨l, hl, hid''⟩ := List.mem_flatten.mp hid'
      obtain ⟨o, ho, rfl⟩ := List.mem_map.mp hl
      obtain ⟨hxm, hxid⟩ := findByID_some hf
      obtain ⟨y, hy, hr⟩ := (mem_reachFrom_iff hm o id').mp hid''
      have hyU : U y := hr.source_or_mem.elim (fun h => h ▸ hOU o ho) (hmU y)
      exact ⟨o, ho, hU y x hyU (hmU x hxm) (hy.trans hxid.symm) ▸ hr⟩
  · rintro ⟨o, ho, h | h⟩
    · exact Or.inl (h ▸ ho)
    · refine Or.inr (List.mem_filterMap.mpr ⟨x.eventID, ?_, findByID_of_mem hm.idsIn h.target⟩)
      exact List.mem_flatten.mpr ⟨_, List.mem_map_of_mem ho, (mem_reachFrom_iff hm o _).mpr ⟨x, rfl, Or.inr h⟩⟩

/-- per state set: the right side is the body of `ConflictedSubgraph` for the set `S` -/
theorem mem_conflictedSubgraph {U : Event → Prop} (hU : IDsIdentify U) {m : List Event} (hm : IdNodup m)
    (hmU : ∀ x ∈ m, U x) {S : List Event} (hSU : ∀ x ∈ S, U x) (conflicted : List Event) (id : ID) :
    id ∈ conflictedSubgraph m (conflicted.map (·.eventID)) S ↔ ∃ x, x.eventID = id ∧
      ∃ o ∈ S, (∃ c, c ∈ conflicted ∧ c.eventID = o.eventID) ∧ Reach (· ∈ m) o x ∧
        ∃ c, (∃ c', c' ∈ conflicted ∧ c'.eventID = c.eventID) ∧ Reach (· ∈ m) x c := by
  rw [conflictedSubgraph_eq]
  simp only [List.mem_map, List.mem_filter, reachFrom_any hm,
    mem_subgraphCand hU hm hmU (fun x hx => hSU x (List.mem_filter.mp hx).1), List.contains_iff_mem]
  constructor
  · rintro ⟨x, ⟨⟨o, ⟨ho, hoc⟩, hr⟩, hc⟩, rfl⟩
    exact ⟨x, rfl, o, ho, hoc, hr, hc⟩
  · rintro ⟨x, rfl, o, ho, hoc, hr, hc⟩
    exact ⟨x, ⟨⟨o, ⟨ho, hoc⟩, hr⟩, hc⟩, rfl⟩

theorem subgraph_eq_spec {U : Event → Prop} (hU : IDsIdentify U) {m : List Event} (hm : IdNodup m)
    (hmU : ∀ x ∈ m, U x) {sets : List (List Event)} (hSU : ∀ S ∈ sets, ∀ x ∈ S, U x) (conflicted : List Event) (id : ID) :
    id ∈ subIDs 3 m conflicted sets ↔
      ∃ x, x.eventID = id ∧ ConflictedSubgraph (· ∈ m) (· ∈ conflicted) sets x := by
  have : subIDs 3 m conflicted sets =
      (sets.map (conflictedSubgraph m (conflicted.map (·.eventID)))).foldl unionIDs [] := rfl
  rw [this, mem_foldl_unionIDs]
  simp only [List.not_mem_nil, false_or, List.mem_map]
  constructor
  · rintro ⟨l, ⟨S, hS, rfl⟩, hid⟩
    obtain ⟨x, hx, h⟩ := (mem_conflictedSubgraph hU hm hmU (hSU S hS) conflicted id).mp hid
    exact ⟨x, hx, S, hS, h⟩
  · rintro ⟨x, hx, S, hS, h⟩
    exact ⟨_, ⟨S, hS, rfl⟩, (mem_conflictedSubgraph hU hm hmU (hSU S hS) conflicted id).mpr ⟨x, hx, h⟩⟩

theorem ConflictedSubgraph.cases {m conflicted : List Event} {sets : List (List Event)} {x : Event}
    (h : ConflictedSubgraph (· ∈ m) (· ∈ conflicted) sets x) :
    x ∈ m ∨ ((∃ S ∈ sets, x ∈ S) ∧ ∃ c ∈ conflicted, c.eventID = x.eventID) := by
  obtain ⟨S, hS, o, ho, hoc, hr, _⟩ := h
  rcases hr.source_or_mem with h | h
  · right; subst h; exact ⟨⟨S, hS, ho⟩, hoc⟩
  · exact Or.inl h

theorem authDifference21_eq_spec {U : Event → Prop} (hU : IDsIdentify U) {m : List Event} (hm : IdNodup m)
    (hmU : ∀ x ∈ m, U x) {sets : List (List Event)} (hSU : ∀ S ∈ sets, ∀ x ∈ S, U x) {conflicted : List Event}
    (hcU : ∀ x ∈ conflicted, U x) (y : Event) :
    y ∈ authDifferenceNew 3 m conflicted sets ↔
      AuthDifference (· ∈ m) sets y ∨ ConflictedSubgraph (· ∈ m) (· ∈ conflicted) sets y := by
  rw [authDifferenceNew_eq]
  refine ((diffIDs_idsOf hm).union (subgraph_eq_spec hU hm hmU hSU conflicted)).filterMap (fun x h => lookupAny_of_mem hU hmU hcU ?_) y
  rcases h with h | h
  · exact Or.inl h.mem
  · rcases h.cases with h | ⟨⟨S, hS, h⟩, c, hc, hcid⟩
    · exact Or.inl h
    · exact Or.inr (hU c x (hcU c hc) (hSU S hS x h) hcid ▸ hc)

end V.StateResSpec
