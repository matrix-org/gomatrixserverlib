/- Fuel independence of the byte-level compactor (`compactString`, `compactGo`) and the fuel-free
   unfolding equations (`compactStr`, `compactAll`) the rest of the C01 proofs use. -/
import VModel.Json
import VProofs.Guard
namespace V.Json

/-! ### `compactUnicodeEscape` never returns more input than it was given: every branch returns a
     suffix of what follows the four hex digits -/

theorem compactUnicodeEscape_length {r out r' : Bytes}
    (h : compactUnicodeEscape r = .ok (out, r')) : r'.length ≤ r.length := by
  unfold compactUnicodeEscape at h
  rcases r with _ | ⟨a, _ | ⟨b, _ | ⟨c, _ | ⟨d, rest⟩⟩⟩⟩
  iterate 4 (cases h; exact Nat.zero_le _)
  have tail : ∀ l : Bytes, l.length ≤ rest.length → l.length ≤ (a :: b :: c :: d :: rest).length :=
    fun l hl => by simp only [List.length_cons]; omega
  dsimp only at h
  replace h := Guard.ite_cases h
  rcases h with ⟨-, h⟩ | ⟨-, h⟩
  · replace h := Guard.ite_cases h
    rcases h with ⟨-, h⟩ | ⟨-, h⟩ <;> cases h <;> exact tail _ (Nat.le_refl _)
  replace h := Guard.ite_cases h
  rcases h with ⟨-, h⟩ | ⟨-, h⟩
  · cases h; exact tail _ (Nat.le_refl _)
  replace h := Guard.ite_cases h
  rcases h with ⟨-, h⟩ | ⟨-, h⟩
  · rcases rest with _ | ⟨x, _ | ⟨y, rest2⟩⟩
    · cases h
    · replace h := Guard.ite_cases h
      rcases h with ⟨-, h⟩ | ⟨-, h⟩ <;> cases h
      exact tail _ (Nat.le_refl _)
    · replace h := Guard.ite_cases h
      rcases h with ⟨-, h⟩ | ⟨-, h⟩
      · cases h; exact tail _ (Nat.le_refl _)
      · rcases rest2 with _ | ⟨a2, _ | ⟨b2, _ | ⟨c2, _ | ⟨d2, rest3⟩⟩⟩⟩ <;> cases h <;>
          exact tail _ (by simp only [List.length_cons]; omega)
  · cases h; exact tail _ (Nat.le_refl _)

/-! ### the result does not depend on the fuel, once there is enough -/

theorem compactString_succ (f : Nat) (c : UInt8) (rest acc : Bytes) :
    compactString (f + 1) (c :: rest) acc =
      if c == 0x5C then
        match rest with
        | [] => .error (.panic "json.go:CompactJSON escape := input[i]")
        | e :: rest' =>
          if e == 0x75 then
            match compactUnicodeEscape rest' with
            | .error err => .error err
            | .ok (out, rest'') => compactString f rest'' (acc ++ out)
          else if e == 0x2F then compactString f rest' (acc ++ [e])
          else compactString f rest' (acc ++ [0x5C, e])
      else if c == 0x22 then .ok (acc ++ [c], rest)
      else compactString f rest (acc ++ [c]) := by
  conv => lhs; unfold compactString
  rfl

theorem compactGo_succ (f : Nat) (prev : Option UInt8) (c : UInt8) (rest acc : Bytes) :
    compactGo (f + 1) prev (c :: rest) acc =
      if c ≤ 0x20 then compactGo f (some c) rest acc
      else if c == 0x2D && isNegZero prev rest then compactGo f (some c) rest acc
      else if c == 0x22 then
        match compactString f rest (acc ++ [c]) with
        | .error e => .error e
        | .ok (acc', rest') => compactGo f (some 0x22) rest' acc'
      else compactGo f (some c) rest (acc ++ [c]) := by
  conv => lhs; unfold compactGo
  rfl

theorem compactString_length : ∀ (f : Nat) (s acc acc' r' : Bytes),
    compactString f s acc = .ok (acc', r') → r'.length ≤ s.length
  | 0, s, acc, acc', r', h => by
    simp only [compactString, Except.ok.injEq, Prod.mk.injEq] at h; obtain ⟨_, rfl⟩ := h; simp
  | f + 1, [], acc, acc', r', h => by
    simp only [compactString, Except.ok.injEq, Prod.mk.injEq] at h; obtain ⟨_, rfl⟩ := h; simp
  | f + 1, c :: rest, acc, acc', r', h => by
    have step : ∀ {s a : Bytes}, compactString f s a = .ok (acc', r') → s.length ≤ rest.length →
        r'.length ≤ (c :: rest).length :=
      fun h hl => Nat.le_trans (compactString_length f _ _ _ _ h) (Nat.le_succ_of_le hl)
    rw [compactString_succ] at h
    replace h := Guard.ite_cases h
    rcases h with ⟨-, h⟩ | ⟨-, h⟩
    · rcases rest with _ | ⟨e, rest'⟩ <;> dsimp only at h
      · cases h
      replace h := Guard.ite_cases h
      rcases h with ⟨-, h⟩ | ⟨-, h⟩
      · generalize hu : compactUnicodeEscape rest' = w at h
        rcases w with err | ⟨out, rest''⟩ <;> dsimp only at h
        · cases h
        · exact step h (Nat.le_succ_of_le (compactUnicodeEscape_length hu))
      replace h := Guard.ite_cases h
      rcases h with ⟨-, h⟩ | ⟨-, h⟩ <;> exact step h (Nat.le_succ _)
    replace h := Guard.ite_cases h
    rcases h with ⟨-, h⟩ | ⟨-, h⟩
    · cases h; exact Nat.le_succ _
    · exact step h (Nat.le_refl _)

theorem compactString_fuel : ∀ (f1 f2 : Nat) (s acc : Bytes), s.length < f1 → s.length < f2 →
    compactString f1 s acc = compactString f2 s acc
  | 0, _, _, _, h, _ => by omega
  | _ + 1, 0, _, _, _, h => by omega
  | f1 + 1, f2 + 1, [], acc, _, _ => by simp [compactString]
  | f1 + 1, f2 + 1, c :: rest, acc, h1, h2 => by
    have ih : ∀ (s a : Bytes), s.length ≤ rest.length → compactString f1 s a = compactString f2 s a :=
      fun s a hl => by
        simp only [List.length_cons] at h1 h2
        exact compactString_fuel f1 f2 s a (by omega) (by omega)
    rw [compactString_succ, compactString_succ]
    by_cases hc : (c == 0x5C) = true
    · rw [if_pos hc, if_pos hc]
      rcases rest with _ | ⟨e, rest'⟩
      · rfl
      dsimp only
      by_cases he : (e == 0x75) = true
      · rw [if_pos he, if_pos he]
        rcases hu : compactUnicodeEscape rest' with err | ⟨out, rest''⟩
        · rfl
        · exact ih _ _ (Nat.le_succ_of_le (compactUnicodeEscape_length hu))
      rw [if_neg he, if_neg he]
      by_cases hs : (e == 0x2F) = true
      · rw [if_pos hs, if_pos hs]; exact ih _ _ (Nat.le_succ _)
      · rw [if_neg hs, if_neg hs]; exact ih _ _ (Nat.le_succ _)
    rw [if_neg hc, if_neg hc]
    by_cases hq : (c == 0x22) = true
    · rw [if_pos hq, if_pos hq]
    · rw [if_neg hq, if_neg hq]; exact ih _ _ (Nat.le_refl _)

/-! ### `compactStr`: `compactString` without fuel, one item at a time -/

def compactStr (s acc : Bytes) : Except Err (Bytes × Bytes) := compactString (s.length + 1) s acc

theorem compactString_eq_compactStr {f : Nat} {s : Bytes} (acc : Bytes) (h : s.length < f) :
    compactString f s acc = compactStr s acc :=
  compactString_fuel _ _ _ _ h (Nat.lt_succ_self _)

theorem compactStr_nil (acc : Bytes) : compactStr [] acc = .ok (acc, []) := rfl

/-- closing quote -/
theorem compactStr_quote (rest acc : Bytes) : compactStr (0x22 :: rest) acc = .ok (acc ++ [0x22], rest) := by
  simp [compactStr, compactString]

/-- an ordinary byte is copied -/
theorem compactStr_byte (c : UInt8) (rest acc : Bytes) (h1 : (c == 0x5C) = false) (h2 : (c == 0x22) = false) :
    compactStr (c :: rest) acc = compactStr rest (acc ++ [c]) := by
  unfold compactStr
  rw [List.length_cons, compactString_succ]
  simp only [h1, h2, Bool.false_eq_true, ↓reduceIte]

/-- `\/` loses its backslash -/
theorem compactStr_slash (rest acc : Bytes) :
    compactStr (0x5C :: 0x2F :: rest) acc = compactStr rest (acc ++ [0x2F]) := by
  unfold compactStr
  rw [List.length_cons, compactString_succ]
  have : ((0x2F : UInt8) == 0x75) = false := by decide
  simp only [beq_self_eq_true, ↓reduceIte, this, Bool.false_eq_true]
  exact compactString_eq_compactStr _ (by simp only [List.length_cons]; omega)

/-- every other two-character escape is kept -/
theorem compactStr_esc (e : UInt8) (rest acc : Bytes) (h1 : (e == 0x75) = false) (h2 : (e == 0x2F) = false) :
    compactStr (0x5C :: e :: rest) acc = compactStr rest (acc ++ [0x5C, e]) := by
  unfold compactStr
  rw [List.length_cons, compactString_succ]
  simp only [beq_self_eq_true, ↓reduceIte, h1, h2, Bool.false_eq_true]
  exact compactString_eq_compactStr _ (by simp only [List.length_cons]; omega)

/-- `\u….` is delegated to `compactUnicodeEscape` -/
theorem compactStr_u (rest acc out rest' : Bytes) (h : compactUnicodeEscape rest = .ok (out, rest')) :
    compactStr (0x5C :: 0x75 :: rest) acc = compactStr rest' (acc ++ out) := by
  unfold compactStr
  rw [List.length_cons, compactString_succ]
  simp only [beq_self_eq_true, ↓reduceIte, h]
  have := compactUnicodeEscape_length h
  exact compactString_eq_compactStr _ (by simp only [List.length_cons]; omega)

/-! ### `compactAll`: `compactGo` without fuel, one token at a time -/

theorem compactGo_fuel : ∀ (f1 f2 : Nat) (prev : Option UInt8) (s acc : Bytes), s.length < f1 → s.length < f2 →
    compactGo f1 prev s acc = compactGo f2 prev s acc
  | 0, _, _, _, _, h, _ => by omega
  | _ + 1, 0, _, _, _, _, h => by omega
  | f1 + 1, f2 + 1, prev, [], acc, _, _ => by simp [compactGo]
  | f1 + 1, f2 + 1, prev, c :: rest, acc, h1, h2 => by
    simp only [List.length_cons] at h1 h2
    have ih : ∀ (p : Option UInt8) (s a : Bytes), s.length ≤ rest.length →
        compactGo f1 p s a = compactGo f2 p s a :=
      fun p s a hl => compactGo_fuel f1 f2 p s a (by omega) (by omega)
    rw [compactGo_succ, compactGo_succ]
    by_cases hw : c ≤ 0x20
    · rw [if_pos hw, if_pos hw]; exact ih _ _ _ (Nat.le_refl _)
    rw [if_neg hw, if_neg hw]
    by_cases hm : (c == 0x2D && isNegZero prev rest) = true
    · rw [if_pos hm, if_pos hm]; exact ih _ _ _ (Nat.le_refl _)
    rw [if_neg hm, if_neg hm]
    by_cases hq : (c == 0x22) = true
    · rw [if_pos hq, if_pos hq, compactString_fuel f1 f2 rest _ (by omega) (by omega)]
      rcases hs : compactString f2 rest (acc ++ [c]) with err | ⟨acc', rest'⟩
      · rfl
      · exact ih _ _ _ (compactString_length _ _ _ _ _ hs)
    · rw [if_neg hq, if_neg hq]; exact ih _ _ _ (Nat.le_refl _)

def compactAll (prev : Option UInt8) (s acc : Bytes) : Except Err Bytes := compactGo (s.length + 1) prev s acc

theorem compact_eq_compactAll (t : Bytes) : compact t = compactAll none t [] := rfl

theorem compactAll_nil (prev : Option UInt8) (acc : Bytes) : compactAll prev [] acc = .ok acc := rfl

/-- whitespace (any byte ≤ 0x20) is skipped -/
theorem compactAll_ws (prev : Option UInt8) (c : UInt8) (rest acc : Bytes) (h : c ≤ 0x20) :
    compactAll prev (c :: rest) acc = compactAll (some c) rest acc := by
  unfold compactAll
  rw [List.length_cons, compactGo_succ]
  simp only [h, ↓reduceIte]

/-- the sign of the literal `-0` is dropped -/
theorem compactAll_negzero (prev : Option UInt8) (rest acc : Bytes) (h : isNegZero prev rest = true) :
    compactAll prev (0x2D :: rest) acc = compactAll (some 0x2D) rest acc := by
  unfold compactAll
  rw [List.length_cons, compactGo_succ]
  have : ¬ ((0x2D : UInt8) ≤ 0x20) := by decide
  simp only [this, ↓reduceIte, beq_self_eq_true, h, Bool.and_self]

/-- every other `-` is copied -/
theorem compactAll_minus (prev : Option UInt8) (rest acc : Bytes) (h : isNegZero prev rest = false) :
    compactAll prev (0x2D :: rest) acc = compactAll (some 0x2D) rest (acc ++ [0x2D]) := by
  unfold compactAll
  rw [List.length_cons, compactGo_succ]
  have h1 : ¬ ((0x2D : UInt8) ≤ 0x20) := by decide
  have h2 : ((0x2D : UInt8) == 0x22) = false := by decide
  simp only [h1, ↓reduceIte, beq_self_eq_true, h, Bool.and_false, Bool.false_eq_true, h2]

/-- a byte that is neither whitespace, `-` nor `"` is copied -/
theorem compactAll_copy (prev : Option UInt8) (c : UInt8) (rest acc : Bytes)
    (h1 : ¬ c ≤ 0x20) (h2 : (c == 0x2D) = false) (h3 : (c == 0x22) = false) :
    compactAll prev (c :: rest) acc = compactAll (some c) rest (acc ++ [c]) := by
  unfold compactAll
  rw [List.length_cons, compactGo_succ]
  simp only [h1, ↓reduceIte, h2, Bool.false_and, Bool.false_eq_true, h3]

/-- a string is handed to `compactString` -/
theorem compactAll_string (prev : Option UInt8) (rest acc acc' rest' : Bytes)
    (h : compactStr rest (acc ++ [0x22]) = .ok (acc', rest')) :
    compactAll prev (0x22 :: rest) acc = compactAll (some 0x22) rest' acc' := by
  unfold compactAll
  rw [List.length_cons, compactGo_succ]
  have h1 : ¬ ((0x22 : UInt8) ≤ 0x20) := by decide
  have h2 : ((0x22 : UInt8) == 0x2D) = false := by decide
  simp only [h1, ↓reduceIte, h2, Bool.false_and, Bool.false_eq_true, beq_self_eq_true]
  rw [compactString_eq_compactStr _ (Nat.lt_succ_self _), h]
  have := compactString_length _ _ _ _ _ h
  exact compactGo_fuel _ _ _ _ _ (by omega) (Nat.lt_succ_self _)

end V.Json
