/-
  Well-formedness of the v2 / v2.1 result (`finalState`, see StateResStages.lean): one entry per slot, every
  entry is a supplied event, the unconflicted events are all there, and equal state sets resolve to themselves.
-/
import VProofs.StateResStages
import VProofs.StateResState
import VProofs.StateResSplit
import VProofs.StateResClosure
import VProofs.StateResKahnTopo2
import VProofs.StateResOrderings
namespace V.StateRes
open List

theorem flowFrom_wf (p : Prep) (rej : List ID) {s1 : State} (h : StateWF s1) : StateWF (flowFrom p rej s1) :=
  ((h.authAndApply _ _ _).authAndApply _ _ _).applyEvents _

theorem mem_flowFrom {p : Prep} {rej : List ID} {s1 : State} {x} (h : x ∈ flowFrom p rej s1) :
    x ∈ s1 ∨ x.2 ∈ p.unconflicted ∨ x.2 ∈ p.controlEvents ∨ x.2 ∈ p.others := by
  unfold flowFrom at h
  rcases mem_applyEvents h with h3 | h3
  · unfold stateS3From at h3
    rcases mem_authAndApply h3 with h2 | h2
    · unfold stateS2From at h2
      rcases mem_authAndApply h2 with h1 | h1
      · exact Or.inl h1
      · exact Or.inr (Or.inr (Or.inl (reverseTopoAuth_subset _ _ h1)))
    · exact Or.inr (Or.inr (Or.inr (mem_mainlineOrdering.mp h2)))
  · exact Or.inr (Or.inl h3)

theorem flowFrom_keeps_unconflicted (p : Prep) (rej : List ID) (s1 : State) (hd : DistinctSlots p.unconflicted)
    {u : Event} (hu : u ∈ p.unconflicted) (hk : u.stateKey.isSome) : (keyOf u, u) ∈ flowFrom p rej s1 := by
  apply State.mem_of_get_eq_some
  unfold flowFrom
  exact get_applyEvents_of_mem hd _ hu (hasKey_keyOf hk)

/-! ## one entry per slot -/

theorem stateS1_wf (algo : Nat) (p : Prep) : StateWF (stateS1 algo p) := by
  unfold stateS1; split
  · exact stateWF_nil.applyEvents _
  · exact stateWF_nil

theorem stateS4_wf (algo : Nat) (p : Prep) (rej : List ID) : StateWF (stateS4 algo p rej) :=
  flowFrom_wf p rej (stateS1_wf algo p)

theorem finalState_wf (algo : Nat) (sets : List (List Event)) (auth : List Event) (rej : List ID) :
    StateWF (finalState algo sets auth rej) := finalState_eq_stateS4 algo sets auth rej ▸ stateS4_wf _ _ _

/-! ## every entry is a supplied event -/

/-- where the events that `resolveV2New` ever applies come from -/
structure PrepSub (p : Prep) (sets : List (List Event)) (auth : List Event) : Prop where
  unconf : ∀ e ∈ p.unconflicted, e ∈ sets.flatten
  control : ∀ e ∈ p.controlEvents, e ∈ sets.flatten ∨ e ∈ auth
  others : ∀ e ∈ p.others, e ∈ sets.flatten ∨ e ∈ auth

theorem mem_fullConflicted {algo : Nat} {sets : List (List Event)} {auth : List Event} {e : Event}
    (h : e ∈ (splitConflictedUnconflicted false sets).1 ∨
      e ∈ authDifferenceNew algo (eventMapFromEvents auth) (splitConflictedUnconflicted false sets).1 sets) :
    e ∈ sets.flatten ∨ e ∈ auth := by
  rcases h with h | h
  · exact Or.inl (split_sub false sets (Or.inl h)).1
  · rcases mem_authDifferenceNew_sub h with h' | h'
    · exact Or.inr (mem_eventMap h')
    · exact Or.inl (split_sub false sets (Or.inl h')).1

theorem prepOf_sub (algo : Nat) (sets : List (List Event)) (auth : List Event) : PrepSub (prepOf algo sets auth) sets auth := by
  rw [prepOf_eq_mkPrep]
  exact ⟨fun e he => (split_sub false sets (Or.inr he)).1, fun e he => mem_fullConflicted (mkPrep_control_sub he),
    fun e he => mem_fullConflicted (mkPrep_others_sub he)⟩

theorem mem_stateS4 {algo : Nat} {p : Prep} {rej : List ID} {x} (h : x ∈ stateS4 algo p rej) :
    x.2 ∈ p.unconflicted ∨ x.2 ∈ p.controlEvents ∨ x.2 ∈ p.others := by
  refine (mem_flowFrom h).elim (fun h1 => Or.inl ?_) id
  unfold stateS1 at h1
  split at h1
  · exact reverseTopoAuth_subset _ _ ((mem_applyEvents h1).resolve_left List.not_mem_nil)
  · cases h1

theorem mem_finalState {algo : Nat} {sets : List (List Event)} {auth : List Event} {rej : List ID} {x}
    (h : x ∈ finalState algo sets auth rej) : x.2 ∈ sets.flatten ∨ x.2 ∈ auth := by
  rw [finalState_eq_stateS4] at h
  have hs := prepOf_sub algo sets auth
  rcases mem_stateS4 h with h' | h' | h'
  · exact Or.inl (hs.unconf _ h')
  · exact hs.control _ h'
  · exact hs.others _ h'

/-! ## the unconflicted events are kept -/

theorem unconflicted_distinctSlots (sets : List (List Event)) : DistinctSlots (splitConflictedUnconflicted false sets).2 :=
  distinctSlots_of_keys (split_unconflicted_keys false sets)

theorem finalState_keeps_unconflicted (algo : Nat) (sets : List (List Event)) (auth : List Event) (rej : List ID)
    {u : Event} (hu : u ∈ (splitConflictedUnconflicted false sets).2) :
    (keyOf u, u) ∈ finalState algo sets auth rej := by
  rw [finalState_eq_stateS4]
  exact flowFrom_keeps_unconflicted _ rej _ (unconflicted_distinctSlots sets) hu (split_sub false sets (Or.inr hu)).2

/-! ## equal state sets -/

theorem kahn_nil {κ} (lt : κ → κ → Bool) (parents : Event → List ID) : kahn lt parents [] = [] := rfl

theorem reverseTopoAuth_nil (am : List Event) (ce : Option Event) : reverseTopoAuth am ce [] = [] := rfl

theorem mainlineOrdering_nil (am ml : List Event) : mainlineOrdering am ml [] = [] := rfl

theorem controlIDsOf_nil : controlIDsOf [] [] = [] := rfl

theorem prepOf_all_equal (algo : Nat) (sets : List (List Event)) (auth : List Event)
    (hc : (splitConflictedUnconflicted false sets).1 = []) (hs : ∀ s ∈ sets, ∀ s' ∈ sets, SameSet s s') :
    (prepOf algo sets auth).controlEvents = [] ∧ (prepOf algo sets auth).others = [] := by
  have hd : authDifferenceNew algo (eventMapFromEvents auth) [] sets = [] := authDifferenceNew_all_equal algo _ sets hs
  simp only [prepOf, hc, hd, List.append_nil]
  have h1 : eventMapFromEvents ([] : List Event) = [] := rfl
  have h2 : ∀ ids, rootsOf ids [] = [] := fun _ => rfl
  rw [h1, h2, controlIDsOf_nil]
  exact ⟨rfl, rfl⟩

theorem authAndApply_nil (am : List Event) (rej : List ID) (s : State) : authAndApply am rej s [] = s := rfl

theorem finalState_all_equal (algo : Nat) (S : List Event) (hS : IdNodup S) (hkeys : (S.map keyOf).Nodup)
    (hst : ∀ e ∈ S, e.stateKey.isSome) (sets : List (List Event)) (hne : sets ≠ []) (h : ∀ s ∈ sets, s ~ S)
    (auth : List Event) (rej : List ID) :
    SameSet ((finalState algo sets auth rej).map (·.2)) S := by
  obtain ⟨hc, hu⟩ := split_all_equal S hS hkeys hst sets hne h
  have hss : ∀ s ∈ sets, ∀ s' ∈ sets, SameSet s s' := fun s hs s' hs' =>
    (SameSet.of_perm (h s hs)).trans (SameSet.of_perm (h s' hs')).symm
  obtain ⟨hce, hot⟩ := prepOf_all_equal algo sets auth hc hss
  intro e
  constructor
  · intro he
    obtain ⟨x, hx, rfl⟩ := List.mem_map.mp he
    rw [finalState_eq_stateS4] at hx
    rcases mem_stateS4 hx with h' | h' | h'
    · exact (hu _).mp h'
    · rw [hce] at h'; cases h'
    · rw [hot] at h'; cases h'
  · intro he
    have := finalState_keeps_unconflicted algo sets auth rej ((hu e).mpr he)
    exact List.mem_map.mpr ⟨_, this, rfl⟩

theorem StateWF.events_nodup {s : State} (h : StateWF s) : (s.map (·.2)).Nodup :=
  Lists.nodup_of_nodup_map keyOf (h.map_keyOf ▸ h.nodup)

theorem finalState_all_equal_perm (algo : Nat) (S : List Event) (hS : IdNodup S) (hkeys : (S.map keyOf).Nodup)
    (hst : ∀ e ∈ S, e.stateKey.isSome) (sets : List (List Event)) (hne : sets ≠ []) (h : ∀ s ∈ sets, s ~ S)
    (auth : List Event) (rej : List ID) :
    (finalState algo sets auth rej).map (·.2) ~ S :=
  (finalState_all_equal algo S hS hkeys hst sets hne h auth rej).perm
    (finalState_wf algo sets auth rej).events_nodup hS.nodup

end V.StateRes
