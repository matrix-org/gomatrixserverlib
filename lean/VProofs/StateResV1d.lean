/-
  Version 1 state resolution, block independence: a resolved auth block leaves the resolver state as it found it (its own slot
  is written, cleared, and its previous occupant put back), so inside one call of `resolveAndAddAuthBlocks` every block is resolved against
  the initial state; the winners are registered afterwards.  Hence neither the order of the blocks nor the order of
  the candidates inside a block matters (`blocks_order_eqv`).
-/
import VProofs.StateResV1c
namespace V.StateRes
open List

/-! ## the candidate loop of `resolveAuthBlock` -/

theorem go_eqv (valid : Bool) {s s' : V1State} (h : s.Eqv s') (r : Event) (rest : List Event) :
    (resolveAuthBlock.go valid s r rest).1 = (resolveAuthBlock.go valid s' r rest).1 ∧
      (resolveAuthBlock.go valid s r rest).2.Eqv (resolveAuthBlock.go valid s' r rest).2 := by
  induction rest generalizing s s' r with
  | nil => exact ⟨rfl, h⟩
  | cons e more ih =>
    unfold resolveAuthBlock.go
    rw [h.allowed valid e]
    split
    · exact ih (h.addAuthEvent e) e
    · exact ⟨rfl, h⟩

theorem go_lookup (valid : Bool) (s : V1State) (r : Event) {rest : List Event} {K : Bytes × Bytes}
    (hK : ∀ e ∈ rest, keyOf e = K) {t k : Bytes} (hne : K ≠ (t, k)) :
    (resolveAuthBlock.go valid s r rest).2.lookup t k = s.lookup t k := by
  induction rest generalizing s r with
  | nil => rfl
  | cons e more ih =>
    unfold resolveAuthBlock.go
    split
    · rw [ih (s.addAuthEvent e) e (fun x hx => hK x (List.mem_cons_of_mem _ hx))]
      exact lookup_addAuthEvent_ne s e (by rw [hK e List.mem_cons_self]; exact hne)
    · rfl

theorem restorePrev_eqv {s s' : V1State} (h : s.Eqv s') (prev : Option Event) : (restorePrev prev s).Eqv (restorePrev prev s') := by
  cases prev with
  | none => exact h
  | some p => exact h.addAuthEvent p

theorem resolveAuthBlock_eqv (sha : ID → Bytes) (valid : Bool) {s s' : V1State} (h : s.Eqv s') (evs : List Event) :
    (resolveAuthBlock sha valid s evs).1 = (resolveAuthBlock sha valid s' evs).1 ∧
      (resolveAuthBlock sha valid s evs).2.Eqv (resolveAuthBlock sha valid s' evs).2 := by
  rw [resolveAuthBlock_eq, resolveAuthBlock_eq]
  split
  · exact ⟨rfl, h⟩
  · rename_i first rest _
    obtain ⟨h1, h2⟩ := go_eqv valid (h.addAuthEvent first) first rest
    simp only
    rw [← h1, V1State.authEventAt_eq_lookup, V1State.authEventAt_eq_lookup, h.sim]
    exact ⟨rfl, restorePrev_eqv (h2.removeAuthEvent _ _) _⟩

/-- A resolved block leaves every lookup as it was: it writes only the slot of its candidates, and finally puts back
    what that slot held before.
    `hK`: the block only ever writes the slots of its own candidates; the winner's slot is cleared and the previous
    occupant of the FIRST candidate's slot is put back — the same slot when all candidates share one.
    `hw` (WF): the previous occupant is re-registered with `addAuthEvent`, which files it under its own
    (type, state_key); WF says that is the slot it was found in.  No hypothesis on the kind of slot is needed: for a
    (type, state_key) the resolver does not keep, add / remove / lookup are all no-ops. -/
theorem resolveAuthBlock_restore (sha : ID → Bytes) (valid : Bool) {s : V1State} (hw : s.WF) {evs : List Event}
    {K : Bytes × Bytes} (hK : ∀ e ∈ evs, keyOf e = K) : (resolveAuthBlock sha valid s evs).2.Eqv s := by
  refine ⟨(resolveAuthBlock_eqv sha valid (.refl hw) evs).2.wf, hw, ?_⟩
  rw [resolveAuthBlock_eq]
  split
  · exact V1State.Sim.refl s
  · rename_i first rest hs
    have hK' : ∀ e ∈ first :: rest, keyOf e = K := fun e he => hK e (mem_sortV1.mp (hs ▸ he))
    have hrest : ∀ e ∈ rest, keyOf e = K := fun e he => hK' e (List.mem_cons_of_mem _ he)
    have hfirst : (first.type, first.stateKey.getD []) = K := hK' first List.mem_cons_self
    have hmem := go_mem valid (s.addAuthEvent first) first rest
    have hgo : ∀ t k, K ≠ (t, k) → (resolveAuthBlock.go valid (s.addAuthEvent first) first rest).2.lookup t k = s.lookup t k :=
      fun t k htk => (go_lookup valid _ first hrest htk).trans (lookup_addAuthEvent_ne s first (fun h => htk (hfirst.symm.trans h)))
    generalize resolveAuthBlock.go valid (s.addAuthEvent first) first rest = g at hmem hgo ⊢
    have hwin : (g.1.type, g.1.stateKey.getD []) = K := hK' _ hmem
    intro t k
    simp only
    rw [V1State.authEventAt_eq_lookup, show s.lookup first.type (first.stateKey.getD []) = s.lookup K.1 K.2 by rw [← hfirst]]
    by_cases htk : K = (t, k)
    · -- the slot of the block: cleared after the loop, then its previous occupant is put back
      subst htk
      simp only [Prod.mk.injEq] at hwin
      cases hp : s.lookup t k with
      | none =>
        show (V1State.removeAuthEvent _ _ _).lookup t k = none
        rw [lookup_removeAuthEvent, if_pos ⟨hwin.1.symm, hwin.2.symm⟩]
      | some p =>
        show (V1State.addAuthEvent _ p).lookup t k = some p
        rw [lookup_addAuthEvent, if_pos (lookup_some_authEff hw hp)]
    · -- another slot: neither the loop, nor the clearing, nor the restoring touches it
      have hmid : (g.2.removeAuthEvent g.1.type (g.1.stateKey.getD [])).lookup t k = s.lookup t k := by
        rw [lookup_removeAuthEvent, if_neg (fun h => htk (hwin.symm.trans (Prod.ext h.1.symm h.2.symm))), hgo t k htk]
      cases hp : s.lookup K.1 K.2 with
      | none => exact hmid
      | some p =>
        show (V1State.addAuthEvent _ p).lookup t k = _
        rw [lookup_addAuthEvent_ne _ p (fun h => htk ((authEff_key (lookup_some_authEff hw hp)).2.symm.trans h)), hmid]

theorem resolveAuthBlock_perm (sha : ID → Bytes) (valid : Bool) (s : V1State) {evs evs' : List Event} (hp : evs ~ evs')
    (hk : ∀ a ∈ evs, ∀ b ∈ evs, a.depth = b.depth → sha a.eventID = sha b.eventID → a = b) :
    resolveAuthBlock sha valid s evs = resolveAuthBlock sha valid s evs' := by
  rw [resolveAuthBlock_eq, resolveAuthBlock_eq, sortV1_unique sha hp hk]

theorem resolveNormalBlock_perm (sha : ID → Bytes) (valid : Bool) (s : V1State) {evs evs' : List Event} (hp : evs ~ evs')
    (hk : ∀ a ∈ evs, ∀ b ∈ evs, a.depth = b.depth → sha a.eventID = sha b.eventID → a = b) :
    resolveNormalBlock sha valid s evs = resolveNormalBlock sha valid s evs' := by
  unfold resolveNormalBlock; rw [sortV1_unique sha hp hk]

theorem resolveNormalBlock_eqv (sha : ID → Bytes) (valid : Bool) {s s' : V1State} (h : s.Eqv s') (evs : List Event) :
    resolveNormalBlock sha valid s evs = resolveNormalBlock sha valid s' evs := by
  unfold resolveNormalBlock
  rw [show (fun e => v1Allowed s valid e) = (fun e => v1Allowed s' valid e) from funext (h.allowed valid)]

/-! ## registering the winners -/

theorem V1State.Eqv.foldl_add_same {s s' : V1State} (h : s.Eqv s') (l : List Event) :
    (l.foldl V1State.addAuthEvent s).Eqv (l.foldl V1State.addAuthEvent s') :=
  List.foldl_rel h (fun a _ _ _ hc => hc.addAuthEvent a)

theorem foldl_add_lookup (s : V1State) (l : List Event) (t k : Bytes) :
    (l.foldl V1State.addAuthEvent s).lookup t k =
      match l.reverse.find? (fun e => decide (authEff e t k)) with
      | some e => some e
      | none => s.lookup t k := by
  rw [Lists.foldl_write (get := fun s => V1State.lookup s t k) (q := fun e => decide (authEff e t k)) (v := fun e => e)
    (fun s e => by simp only [lookup_addAuthEvent, decide_eq_true_eq]) l s]
  cases l.reverse.find? (fun e => decide (authEff e t k)) <;> rfl

/-- state events occupying the same slot are equal -/
def SlotInj (l : List Event) : Prop :=
  ∀ a ∈ l, ∀ b ∈ l, a.stateKey.isSome → keyOf a = keyOf b → b.stateKey.isSome → a = b

theorem SlotInj.sameSet {l l' : List Event} (h : SlotInj l) (hs : SameSet l l') : SlotInj l' :=
  fun a ha b hb => h a ((hs a).mpr ha) b ((hs b).mpr hb)

theorem slotInj_of_pairwise {l : List Event} (h : l.Pairwise (fun a b => keyOf a ≠ keyOf b)) : SlotInj l :=
  fun _ ha _ hb _ hab _ => Lists.eq_of_pairwise_not (R := fun a b => keyOf a = keyOf b) (fun _ _ e => e.symm) h ha hb hab

/-- `hi`: of two different events for one slot the one registered last would win, which depends on the order. -/
theorem V1State.Eqv.foldl_add {s s' : V1State} (h : s.Eqv s') {l l' : List Event} (hs : SameSet l l') (hi : SlotInj l) :
    (l.foldl V1State.addAuthEvent s).Eqv (l'.foldl V1State.addAuthEvent s') := by
  refine ⟨((Eqv.refl h.wf).foldl_add_same l).wf, ((Eqv.refl h.wf').foldl_add_same l').wf, fun t k => ?_⟩
  have hr : SameSet l.reverse l'.reverse := fun x => by rw [List.mem_reverse, List.mem_reverse, hs x]
  rw [foldl_add_lookup, foldl_add_lookup, h.sim t k, Lists.find?_eq_of_mem_iff hr]
  intro a ha b hb ea eb
  have ka := authEff_key (of_decide_eq_true ea)
  have kb := authEff_key (of_decide_eq_true eb)
  exact hi a (List.mem_reverse.mp ha) b (List.mem_reverse.mp hb) ka.1 (ka.2.trans kb.2.symm) kb.1

theorem foldl_add_lookup_other (s : V1State) {l : List Event} {t k : Bytes} (h : ∀ e ∈ l, keyOf e ≠ (t, k)) :
    (l.foldl V1State.addAuthEvent s).lookup t k = s.lookup t k := by
  rw [foldl_add_lookup]
  have : l.reverse.find? (fun e => decide (authEff e t k)) = none := by
    rw [List.find?_eq_none]
    intro e he hh
    exact h e (List.mem_reverse.mp he) (authEff_key (by simpa using hh)).2
  rw [this]

theorem foldl_add_lookup_some {s : V1State} {l : List Event} {t k : Bytes} {x : Event}
    (h : (l.foldl V1State.addAuthEvent s).lookup t k = some x) :
    s.lookup t k = some x ∨ (x ∈ l ∧ x.stateKey.isSome ∧ keyOf x = (t, k)) := by
  rw [foldl_add_lookup] at h
  split at h
  · rename_i e he
    simp only [Option.some.injEq] at h; subst h
    have := authEff_key (by simpa using List.find?_some he : authEff e t k)
    exact Or.inr ⟨List.mem_reverse.mp (List.mem_of_find?_eq_some he), this.1, this.2⟩
  · exact Or.inl h

/-! ## resolveAndAddAuthBlocks: every block is resolved against the initial state -/

/-- the candidates of a block all belong to one slot -/
def BlocksSlots (blocks : List (List Event)) : Prop :=
  ∀ b ∈ blocks, ∃ K : Bytes × Bytes, ∀ e ∈ b, keyOf e = K

theorem authBlocksFold (sha : ID → Bytes) (valid : Bool) {s : V1State} {blocks : List (List Event)}
    (hb : BlocksSlots blocks) (acc : V1State × List Event) (ha : acc.1.Eqv s) :
    (blocks.foldl (authBlocksStep sha valid) acc).1.Eqv s ∧
      (blocks.foldl (authBlocksStep sha valid) acc).2 =
        acc.2 ++ blocks.filterMap (fun b => (resolveAuthBlock sha valid s b).1) := by
  induction blocks generalizing acc with
  | nil => exact ⟨ha, by simp⟩
  | cons b bs ih =>
    obtain ⟨K, hK⟩ := hb b List.mem_cons_self
    obtain ⟨h1, h2⟩ := resolveAuthBlock_eqv sha valid ha b
    rw [List.foldl_cons, List.filterMap_cons, authBlocksStep_eq]
    obtain ⟨i1, i2⟩ := ih (fun x hx => hb x (List.mem_cons_of_mem _ hx)) (_, _)
      (h2.trans (resolveAuthBlock_restore sha valid ha.wf' hK))
    refine ⟨i1, ?_⟩
    rw [i2, h1]
    cases (resolveAuthBlock sha valid s b).1 <;> simp

/-- `resolveAndAddAuthBlocks`: every block is resolved against (a state with the lookups of) the initial state, then the
    winners are registered.
    `hb`: a block restores the slot of its first candidate and clears that of its winner: the same slot only if the
    candidates share one (`resolveAuthBlock_restore`).  `hw`: verdicts against states with equal lookups
    (`v1Allowed_congr`), and re-registering the previous occupant (`lookup_some_authEff`). -/
theorem resolveAndAdd_spec (sha : ID → Bytes) (valid : Bool) {s : V1State} (hw : s.WF) {blocks : List (List Event)}
    (hb : BlocksSlots blocks) :
    (resolveAndAddAuthBlocks sha valid s blocks).2 = blocks.filterMap (fun b => (resolveAuthBlock sha valid s b).1) ∧
      (resolveAndAddAuthBlocks sha valid s blocks).1.Eqv
        ((blocks.filterMap (fun b => (resolveAuthBlock sha valid s b).1)).foldl V1State.addAuthEvent s) := by
  rw [resolveAndAddAuthBlocks_eq]
  obtain ⟨h1, h2⟩ := authBlocksFold sha valid hb (s, []) (.refl hw)
  simp only [List.nil_append] at h2
  simp only [h2]
  exact ⟨trivial, h1.foldl_add_same _⟩

theorem eachPerm_filterMap {f f' : List Event → Option Event} {c d : List (List Event)} (h : EachPerm c d)
    (hf : ∀ b ∈ c, ∀ b', b ~ b' → f b = f' b') : c.filterMap f = d.filterMap f' := by
  induction h with
  | nil => rfl
  | cons hp _ ih =>
    rw [List.filterMap_cons, List.filterMap_cons, hf _ List.mem_cons_self _ hp,
      ih (fun b hb => hf b (List.mem_cons_of_mem _ hb))]

theorem BlocksSlots.equiv {blocks blocks' : List (List Event)} (hb : BlocksSlots blocks)
    (heq : SetsEquiv blocks blocks') : BlocksSlots blocks' := by
  intro b' hb'
  obtain ⟨b, hbm, hss⟩ := heq.sim.2 b' hb'
  obtain ⟨K, hK⟩ := hb b hbm
  exact ⟨K, fun e he => hK e ((hss e).mpr he)⟩

/-- One call of `resolveAndAddAuthBlocks` on two arrangements of the same blocks (blocks permuted, candidates permuted
    inside each block), against two states the resolver cannot tell apart, yields the same winners (up to order) and
    again such states.
    `hb` (the candidates of a block share one slot): a block restores the slot of its first candidate only; if it also
    wrote a foreign slot, later blocks would see a different state than earlier ones.
    `hdist`: winners of two blocks with the same slot would overwrite each other when registered, the later one winning. -/
theorem blocks_order_eqv (sha : ID → Bytes) (valid : Bool) {s s' : V1State} {blocks blocks' : List (List Event)}
    (h : s.Eqv s') (heq : SetsEquiv blocks blocks') (hb : BlocksSlots blocks)
    (hdist : blocks.Pairwise (fun b1 b2 => ∀ e1 ∈ b1, ∀ e2 ∈ b2, keyOf e1 ≠ keyOf e2))
    (hinj : ∀ b ∈ blocks, ∀ x ∈ b, ∀ y ∈ b, x.depth = y.depth → sha x.eventID = sha y.eventID → x = y) :
    (resolveAndAddAuthBlocks sha valid s blocks).2 ~ (resolveAndAddAuthBlocks sha valid s' blocks').2 ∧
      (resolveAndAddAuthBlocks sha valid s blocks).1.Eqv (resolveAndAddAuthBlocks sha valid s' blocks').1 := by
  obtain ⟨r1, s1⟩ := resolveAndAdd_spec sha valid h.wf hb
  obtain ⟨r2, s2⟩ := resolveAndAdd_spec sha valid h.wf' (hb.equiv heq)
  obtain ⟨c, hpc, hec⟩ := heq
  have hperm : blocks.filterMap (fun b => (resolveAuthBlock sha valid s b).1) ~
      blocks'.filterMap (fun b => (resolveAuthBlock sha valid s' b).1) := by
    refine (hpc.filterMap _).trans (Perm.of_eq (eachPerm_filterMap hec ?_))
    intro b hbc b' hbb'
    rw [resolveAuthBlock_perm sha valid s hbb' (hinj b (hpc.mem_iff.mpr hbc))]
    exact (resolveAuthBlock_eqv sha valid h b').1
  have hpw : (blocks.filterMap (fun b => (resolveAuthBlock sha valid s b).1)).Pairwise (fun a b => keyOf a ≠ keyOf b) := by
    refine List.Pairwise.filterMap _ ?_ hdist
    intro b1 b2 hR e1 he1 e2 he2
    exact hR e1 (resolveAuthBlock_mem he1) e2 (resolveAuthBlock_mem he2)
  exact ⟨by rw [r1, r2]; exact hperm, s1.trans ((h.foldl_add (SameSet.of_perm hperm) (slotInj_of_pairwise hpw)).trans s2.symm)⟩

end V.StateRes
