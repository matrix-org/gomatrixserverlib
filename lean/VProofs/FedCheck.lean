/-
  For C14: the retry loop of checkAllowedByAuthEvents under the provider contract, extension of the `eventsByID` map
  (`IdMap`, read with `List.lookup`).
-/
import VModel.FedCheck
import VModel.FedCheckSpec
import VProofs.Lists
namespace V.FedCheck
open V

/-- "EventProvider returns the requested list of events": asked for ONE id it fails, returns nothing, or
    returns exactly one event, which carries that id. -/
def ProvOK (prov : Option EventProvider) : Prop :=
  ∀ p, prov = some p → ∀ id, p [id] = .error ∨ p [id] = .events [] ∨ ∃ e, p [id] = .events [e] ∧ e.eventID = id

/-- `AddEvent` of the event just added changes nothing (true of `AuthEvents`: same (type, state_key) slot,
    same room ID).  A hypothesis because, when the provider answers, the Go loop adds the event twice (`addProvided`, then
    again when the retry finds it in the map) where `Spec.authOf` adds it once. -/
def AddIdem {P} (O : Oracles P) : Prop := ∀ p a, O.add (O.add p a) a = O.add p a

/-! ## One auth event ID under the contract -/

/-- what the retry loop amounts to under the contract -/
def stepC {P} (O : Oracles P) (prov : Option EventProvider) (ae : Bytes) (m : IdMap) (acc : P) (log : Log) : Step P :=
  match m.lookup ae with
  | some (some a) => if a.stateKey.isSome then .next m (O.add acc a) log else .fail m log
  | some none => .next m acc log
  | none =>
    match prov with
    | none => .next m acc log
    | some _ =>
      .next ((ae, Spec.provided prov ae) :: m)
        (match Spec.provided prov ae with
         | some a => O.add acc a
         | none => acc)
        (log ++ [.events [ae]])

theorem retryAE_found_some {P} (O : Oracles P) (prov : Option EventProvider) (ae : Bytes) (n : Nat) (m : IdMap) (acc : P) (log : Log)
    (a : Event) (h : m.lookup ae = some (some a)) :
    retryAE O prov ae (n + 1) m acc log = if a.stateKey.isSome then .next m (O.add acc a) log else .fail m log := by
  unfold retryAE
  simp only [h]

theorem retryAE_found_nil {P} (O : Oracles P) (prov : Option EventProvider) (ae : Bytes) (n : Nat) (m : IdMap) (acc : P) (log : Log)
    (h : m.lookup ae = some none) :
    retryAE O prov ae (n + 1) m acc log = .next m acc log := by
  unfold retryAE
  simp only [h]

theorem ensureKey_lookup (ae : Bytes) (m : IdMap) : ∃ v, (ensureKey ae m).lookup ae = some v := by
  unfold ensureKey
  cases h : m.lookup ae with
  | none => exact ⟨none, List.lookup_cons_self⟩
  | some v => exact ⟨v, h⟩

theorem retryAE_bound_terminates {P} (O : Oracles P) (prov : Option EventProvider) (ae : Bytes) (n : Nat) (m : IdMap) (acc : P) (log : Log)
    (v : Option Event) (h : m.lookup ae = some v) :
    ∀ m' log', retryAE O prov ae (n + 1) m acc log ≠ .outOfFuel m' log' := by
  intro m' log'
  cases v with
  | none => rw [retryAE_found_nil O prov ae n m acc log h]; intro h'; cases h'
  | some a =>
    rw [retryAE_found_some O prov ae n m acc log a h]
    split <;> (intro h'; cases h')

/-- Fuel 2 suffices when the provider answers with the requested event or nothing. -/
theorem retryAE_eq_stepC {P} (O : Oracles P) (hidem : AddIdem O) (prov : Option EventProvider) (hprov : ProvOK prov)
    (ae : Bytes) (n : Nat) (m : IdMap) (acc : P) (log : Log) :
    retryAE O prov ae (n + 2) m acc log = stepC O prov ae m acc log := by
  unfold stepC
  cases hl : m.lookup ae with
  | some v =>
    cases v with
    | none => rw [retryAE_found_nil O prov ae (n + 1) m acc log hl]
    | some a => rw [retryAE_found_some O prov ae (n + 1) m acc log a hl]
  | none =>
    unfold retryAE
    simp only [hl]
    cases hp : prov with
    | none => rfl
    | some p =>
      simp only
      have hc := hprov p hp ae
      rcases hc with he | he | ⟨e, he, hid⟩
      · simp only [he]
        rw [retryAE_found_nil O (some p) ae n _ acc _ List.lookup_cons_self]
        simp [Spec.provided, he]
      · simp only [he]
        rw [retryAE_found_nil O (some p) ae n _ acc _ List.lookup_cons_self]
        simp [Spec.provided, he]
      · simp only [he, addProvided]
        subst hid
        cases hsk : e.stateKey.isSome
        · simp only [Bool.false_eq_true, if_false, ensureKey, List.lookup_cons_self]
          rw [retryAE_found_nil O (some p) e.eventID n _ _ _ List.lookup_cons_self]
          simp [Spec.provided, he, hsk]
        · simp only [if_true, ensureKey, List.lookup_cons_self]
          rw [retryAE_found_some O (some p) e.eventID n _ _ _ e List.lookup_cons_self]
          simp [Spec.provided, he, hsk, hidem acc e]

/-- without an EventProvider the retry label is never taken: one unit of fuel suffices -/
theorem retryAE_none_eq_stepC {P} (O : Oracles P) (ae : Bytes) (n : Nat) (m : IdMap) (acc : P) (log : Log) :
    retryAE O none ae (n + 1) m acc log = stepC O none ae m acc log := by
  unfold stepC retryAE
  cases hl : m.lookup ae with
  | some v => cases v <;> rfl
  | none => rfl

/-! ## Extension of the map, resolution through the map -/

/-- `m'` extends `m` by binding absent keys among `D` (the one ID of a step, the auth event IDs of a loop) to what the
    provider supplies for them -/
structure Ext (prov : Option EventProvider) (D : Bytes → Prop) (m m' : IdMap) : Prop where
  keep : ∀ id v, m.lookup id = some v → m'.lookup id = some v
  new : ∀ id v, m'.lookup id = some v → m.lookup id = some v ∨ (m.lookup id = none ∧ v = Spec.provided prov id ∧ D id)

/-- how an ID resolves given the map and the provider -/
def resM (prov : Option EventProvider) (m : IdMap) (id : Bytes) : Option Event :=
  match m.lookup id with
  | some v => v
  | none => Spec.provided prov id

/-- the map binds `id` to an event that `AddEvent` refuses -/
def badIn (m : IdMap) (id : Bytes) : Bool :=
  match m.lookup id with
  | some (some a) => a.stateKey.isNone
  | _ => false

theorem provided_stateKey {prov : Option EventProvider} {id : Bytes} {e : Event} (h : Spec.provided prov id = some e) :
    e.stateKey.isSome = true := by
  unfold Spec.provided at h
  split at h
  · cases h
  · split at h
    · split at h
      · cases h; assumption
      · cases h
    · cases h

theorem Ext.refl (prov : Option EventProvider) (D : Bytes → Prop) (m : IdMap) : Ext prov D m m :=
  ⟨fun _ _ h => h, fun _ _ h => Or.inl h⟩

theorem Ext.mono {prov : Option EventProvider} {D D' : Bytes → Prop} {m m' : IdMap} (h : Ext prov D m m') (hD : ∀ id, D id → D' id) :
    Ext prov D' m m' := by
  refine ⟨h.keep, fun id v hv => ?_⟩
  rcases h.new id v hv with h1 | ⟨h1, h2, h3⟩
  · exact Or.inl h1
  · exact Or.inr ⟨h1, h2, hD id h3⟩

theorem Ext.trans {prov : Option EventProvider} {D : Bytes → Prop} {m1 m2 m3 : IdMap} (h12 : Ext prov D m1 m2) (h23 : Ext prov D m2 m3) :
    Ext prov D m1 m3 := by
  refine ⟨fun id v h => h23.keep id v (h12.keep id v h), fun id v h => ?_⟩
  rcases h23.new id v h with h2 | ⟨h2, hv, hd⟩
  · exact h12.new id v h2
  · cases h1 : m1.lookup id with
    | none => exact Or.inr ⟨rfl, hv, hd⟩
    | some w =>
      have := h12.keep id w h1
      rw [h2] at this
      cases this

theorem Ext.resM {prov : Option EventProvider} {D : Bytes → Prop} {m m' : IdMap} (h : Ext prov D m m') :
    resM prov m' = resM prov m := by
  funext id
  unfold FedCheck.resM
  cases h1 : m.lookup id with
  | some v => rw [h.keep id v h1]
  | none =>
    cases h2 : m'.lookup id with
    | none => rfl
    | some v =>
      rcases h.new id v h2 with h3 | ⟨_, hv, _⟩
      · rw [h1] at h3; cases h3
      · simp [hv]

theorem Ext.badIn {prov : Option EventProvider} {D : Bytes → Prop} {m m' : IdMap} (h : Ext prov D m m') :
    badIn m' = badIn m := by
  funext id
  unfold FedCheck.badIn
  cases h1 : m.lookup id with
  | some v => rw [h.keep id v h1]
  | none =>
    cases h2 : m'.lookup id with
    | none => rfl
    | some v =>
      rcases h.new id v h2 with h3 | ⟨_, hv, _⟩
      · rw [h1] at h3; cases h3
      · cases v with
        | none => rfl
        | some a =>
          exact Option.isNone_eq_false_iff.mpr (provided_stateKey hv.symm)

theorem ext_cons {prov : Option EventProvider} {D : Bytes → Prop} {m : IdMap} {ae : Bytes} (h : m.lookup ae = none) (hd : D ae) :
    Ext prov D m ((ae, Spec.provided prov ae) :: m) := by
  refine ⟨fun id v hv => ?_, fun id v hv => ?_⟩
  · by_cases hid : id = ae
    · subst hid; rw [h] at hv; cases hv
    · rw [Lists.lookup_cons_ne _ _ hid]; exact hv
  · by_cases hid : id = ae
    · subst hid
      rw [List.lookup_cons_self] at hv
      cases hv
      exact Or.inr ⟨h, rfl, hd⟩
    · rw [Lists.lookup_cons_ne _ _ hid] at hv
      exact Or.inl hv

/-! ## The loop over the auth event IDs; `checkAllowed` -/

/-- the step of the fold `Spec.authOf` runs over the auth event IDs: add the event the ID resolves to, if there is one -/
def accStep {P} (O : Oracles P) (res : Bytes → Option Event) (acc : P) (id : Bytes) : P :=
  match res id with
  | some a => O.add acc a
  | none => acc

/-- the calls of a run that took the map from `m` to `m'`: one single-ID request for every ID it bound, nothing else -/
structure Asked (D : Bytes → Prop) (m m' : IdMap) (news : Log) : Prop where
  only : ∀ c ∈ news, ∃ id, D id ∧ c = Call.events [id] ∧ m.lookup id = none
  all : ∀ id v, m.lookup id = none → m'.lookup id = some v → Call.events [id] ∈ news

theorem Asked.refl (D : Bytes → Prop) (m : IdMap) : Asked D m m [] :=
  ⟨fun _ h => (nomatch h), fun id v h h' => by rw [h] at h'; cases h'⟩

theorem Asked.mono {D D' : Bytes → Prop} {m m' : IdMap} {news : Log} (h : Asked D m m' news) (hD : ∀ id, D id → D' id) :
    Asked D' m m' news :=
  ⟨fun c hc => let ⟨id, hd, h'⟩ := h.only c hc; ⟨id, hD id hd, h'⟩, h.all⟩

theorem Asked.trans {prov : Option EventProvider} {D : Bytes → Prop} {m1 m2 m3 : IdMap} {n1 n2 : Log}
    (hext : Ext prov D m1 m2) (h12 : Asked D m1 m2 n1) (h23 : Asked D m2 m3 n2) : Asked D m1 m3 (n1 ++ n2) := by
  refine ⟨fun c hc => ?_, fun id v h1 h3 => ?_⟩
  · rcases List.mem_append.mp hc with hc | hc
    · exact h12.only c hc
    · obtain ⟨id, hd, hc', h2⟩ := h23.only c hc
      refine ⟨id, hd, hc', ?_⟩
      cases h1 : m1.lookup id with
      | none => rfl
      | some w => rw [hext.keep id w h1] at h2; cases h2
  · cases h2 : m2.lookup id with
    | none => exact List.mem_append_right _ (h23.all id v h2 h3)
    | some w => exact List.mem_append_left _ (h12.all id w h1 h2)

theorem stepC_run {P} (O : Oracles P) (prov : Option EventProvider) (ae : Bytes) (m : IdMap) (acc : P) (log : Log) :
    ∃ m' news, Ext prov (· = ae) m m' ∧ Asked (· = ae) m m' news ∧
      stepC O prov ae m acc log =
        (if badIn m ae then .fail m' (log ++ news) else .next m' (accStep O (resM prov m) acc ae) (log ++ news)) ∧
      (∀ p, prov = some p → ∃ v, m'.lookup ae = some v) := by
  unfold stepC FedCheck.badIn accStep FedCheck.resM
  cases hl : m.lookup ae with
  | some v =>
    refine ⟨m, [], Ext.refl prov _ m, Asked.refl _ m, ?_, fun _ _ => ⟨v, hl⟩⟩
    rw [List.append_nil]
    cases v with
    | none => rfl
    | some a => cases hs : a.stateKey <;> simp [hs]
  | none =>
    cases hp : prov with
    | none => exact ⟨m, [], Ext.refl none _ m, Asked.refl _ m, by simp [Spec.provided], fun _ h => nomatch h⟩
    | some p =>
      refine ⟨_, [Call.events [ae]], ext_cons hl rfl, ⟨fun c hc => ⟨ae, rfl, List.mem_singleton.mp hc, hl⟩, fun id v h h' => ?_⟩,
        rfl, fun _ _ => ⟨_, List.lookup_cons_self⟩⟩
      by_cases hid : id = ae
      · rw [hid]; exact List.mem_singleton.mpr rfl
      · rw [Lists.lookup_cons_ne _ _ hid, h] at h'; cases h'

/-- The whole `for _, ae := range event.AuthEventIDs()` loop, given that with this fuel every retry loop
    behaves as `stepC` (true with fuel ≥ 2 under the provider contract, with fuel ≥ 1 without a provider).  The last
    part (no ID is bad and there is a provider: every ID is bound afterwards) is what lets `verdict_iff_chainGood`
    (VProofs/FedCheckChain.lean) read the verdict off the map after the call. -/
theorem loopAE_run {P} (O : Oracles P) (prov : Option EventProvider) (fuel : Nat)
    (hstep : ∀ ae m acc log, retryAE O prov ae fuel m acc log = stepC O prov ae m acc log)
    (ids : List Bytes) (m : IdMap) (acc : P) (log : Log) :
    ∃ m' news, Ext prov (· ∈ ids) m m' ∧ Asked (· ∈ ids) m m' news ∧
      loopAE O prov fuel ids m acc log =
        (if ids.any (badIn m) then .fail m' (log ++ news)
         else .next m' (ids.foldl (accStep O (resM prov m)) acc) (log ++ news)) ∧
      (ids.any (badIn m) = false → ∀ p, prov = some p → ∀ id ∈ ids, ∃ v, m'.lookup id = some v) := by
  induction ids generalizing m acc log with
  | nil => exact ⟨m, [], Ext.refl prov _ m, Asked.refl _ m, by simp [loopAE], fun _ _ _ _ h => nomatch h⟩
  | cons ae rest ih =>
    unfold loopAE
    rw [hstep]
    obtain ⟨m1, n1, hext, hask, hs, hb⟩ := stepC_run O prov ae m acc log
    have here : ∀ id, id = ae → id ∈ ae :: rest := fun id h => h ▸ List.mem_cons_self
    rw [hs, List.any_cons]
    cases hbad : badIn m ae
    · -- the rest of the loop on the extended map, which resolves every ID as the old one does
      obtain ⟨m2, n2, hext2, hask2, hl, hb2⟩ := ih m1 (accStep O (resM prov m) acc ae) (log ++ n1)
      rw [hext.badIn, hext.resM] at hl
      rw [hext.badIn] at hb2
      have later : ∀ id, id ∈ rest → id ∈ ae :: rest := fun id h => List.mem_cons_of_mem _ h
      refine ⟨m2, n1 ++ n2, (hext.mono here).trans (hext2.mono later),
        Asked.trans (hext.mono here) (hask.mono here) (hask2.mono later), ?_, fun hr p hp id hid => ?_⟩
      · simp only [Bool.false_eq_true, if_false, Bool.false_or, List.foldl_cons, ← List.append_assoc]
        exact hl
      · rcases List.mem_cons.mp hid with rfl | hid
        · obtain ⟨v, hv⟩ := hb p hp
          exact ⟨v, hext2.keep _ v hv⟩
        · exact hb2 hr p hp id hid
    · exact ⟨m1, n1, hext.mono here, hask.mono here, by simp, fun h => by simp at h⟩

/-- the verdict of checkAllowedByAuthEvents as a function of the map at entry -/
def caVerdict {P} (O : Oracles P) (prov : Option EventProvider) (e : Event) (m : IdMap) : CAOut :=
  if e.authEventIDs.any (badIn m) then .addErr
  else if O.allowedBy e (Spec.authOf O (resM prov m) e) then .ok else .notAllowed

theorem caVerdict_ne_outOfFuel {P} (O : Oracles P) (prov : Option EventProvider) (e : Event) (m : IdMap) :
    caVerdict O prov e m ≠ .outOfFuel := by
  unfold caVerdict
  split
  · intro h; cases h
  · split <;> (intro h; cases h)

theorem checkAllowed_run {P} (O : Oracles P) (prov : Option EventProvider) (fuel : Nat)
    (hstep : ∀ ae m acc log, retryAE O prov ae fuel m acc log = stepC O prov ae m acc log)
    (e : Event) (m : IdMap) (log : Log) :
    ∃ m' news, checkAllowed O prov fuel e m log = (caVerdict O prov e m, m', log ++ news) ∧
      Ext prov (· ∈ e.authEventIDs) m m' ∧ Asked (· ∈ e.authEventIDs) m m' news ∧
      (e.authEventIDs.any (badIn m) = false → ∀ p, prov = some p → ∀ id ∈ e.authEventIDs, ∃ v, m'.lookup id = some v) := by
  unfold checkAllowed caVerdict
  obtain ⟨m', news, hext, hask, hl, hb⟩ := loopAE_run O prov fuel hstep e.authEventIDs m O.empty log
  rw [hl]
  refine ⟨m', news, ?_, hext, hask, hb⟩
  cases e.authEventIDs.any (badIn m) <;> rfl

theorem checkAllowed_contract {P} (O : Oracles P) (hidem : AddIdem O) (prov : Option EventProvider) (hprov : ProvOK prov) (n : Nat)
    (e : Event) (m : IdMap) (log : Log) :
    ∃ m' log', checkAllowed O prov (n + 2) e m log = (caVerdict O prov e m, m', log') ∧ Ext prov (· ∈ e.authEventIDs) m m' :=
  let ⟨m', news, h, hext, _⟩ := checkAllowed_run O prov (n + 2) (fun ae m acc log => retryAE_eq_stepC O hidem prov hprov ae n m acc log) e m log
  ⟨m', log ++ news, h, hext⟩

theorem checkAllowed_noProvider {P} (O : Oracles P) (n : Nat) (e : Event) (m : IdMap) (log : Log) :
    ∃ m' log', checkAllowed O none (n + 1) e m log = (caVerdict O none e m, m', log') ∧ Ext none (· ∈ e.authEventIDs) m m' :=
  let ⟨m', news, h, hext, _⟩ := checkAllowed_run O none (n + 1) (fun ae m acc log => retryAE_none_eq_stepC O ae n m acc log) e m log
  ⟨m', log ++ news, h, hext⟩

theorem caVerdict_ext {P} (O : Oracles P) {prov : Option EventProvider} {D : Bytes → Prop} {m m' : IdMap} (h : Ext prov D m m') (e : Event) :
    caVerdict O prov e m' = caVerdict O prov e m := by
  unfold caVerdict
  rw [h.badIn, h.resM]

end V.FedCheck
