/-
  C10, ordering definitions: `IsPowerOrder` is extended at its end and determines its output (uniqueness).
-/
import VModel.StateResSpec
namespace V.StateResSpec

variable {α : Type}

theorem Free.mono {child : α → α → Prop} {U V : List α} {x : α} (h : Free child V x) (hs : ∀ a ∈ U, a ∈ V) :
    Free child U x := fun a ha => h a (hs a ha)

theorem IsPowerOrder.congr_input {lt child : α → α → Prop} {input input' out : List α}
    (h : IsPowerOrder lt child input out) (hs : ∀ x, x ∈ input ↔ x ∈ input') : IsPowerOrder lt child input' out :=
  ⟨h.nodup, fun x => (h.mem x).trans (hs x), h.free, h.greatest⟩

theorem IsPowerOrder.mem_init {lt child : α → α → Prop} {input pre : List α} {x : α}
    (h : IsPowerOrder lt child input (pre ++ [x])) (y : α) : y ∈ pre ↔ y ∈ input ∧ y ≠ x := by
  have hnd := List.nodup_append.mp h.nodup
  rw [← h.mem, List.mem_append, List.mem_singleton]
  exact ⟨fun hy => ⟨Or.inl hy, hnd.2.2 y hy x (List.mem_singleton_self x)⟩, fun hy => hy.1.resolve_right hy.2⟩

theorem IsPowerOrder.dropLast {lt child : α → α → Prop} {input pre : List α} {x : α}
    (h : IsPowerOrder lt child input (pre ++ [x])) : IsPowerOrder lt child pre pre :=
  ⟨(List.nodup_append.mp h.nodup).1, fun _ => Iff.rfl,
    fun p y q e => h.free p y (q ++ [x]) (by rw [e]; simp),
    fun p y q e => h.greatest p y (q ++ [x]) (by rw [e]; simp)⟩

theorem IsPowerOrder.last_greatest {lt child : α → α → Prop} {input pre : List α} {x : α}
    (h : IsPowerOrder lt child input (pre ++ [x])) :
    Free child input x ∧ ∀ y ∈ input, y ≠ x → Free child input y → lt y x := by
  have hsub : ∀ a ∈ pre ++ [x], a ∈ input := fun a ha => (h.mem a).mp ha
  refine ⟨fun a ha => h.free pre x [] rfl a ((h.mem a).mpr ha), fun y hy hne hf => ?_⟩
  exact h.greatest pre x [] rfl y ((h.mem_init y).mpr ⟨hy, hne⟩) (hf.mono hsub)

theorem append_singleton_eq_append_cons {pre p q : List α} {x y : α} (e : pre ++ [x] = p ++ y :: q) :
    (q = [] ∧ p = pre ∧ y = x) ∨ ∃ q', q = q' ++ [x] ∧ pre = p ++ y :: q' := by
  rcases List.eq_nil_or_concat q with rfl | ⟨q', z, rfl⟩
  · obtain ⟨e1, e2⟩ := List.append_inj' e rfl
    cases e2
    exact Or.inl ⟨rfl, e1.symm, rfl⟩
  · rw [List.concat_eq_append] at e ⊢
    have e' : pre ++ [x] = (p ++ y :: q') ++ [z] := by rw [e]; simp
    obtain ⟨e1, e2⟩ := List.append_inj' e' rfl
    cases e2
    exact Or.inr ⟨q', rfl, e1⟩

/-- the converse of `last_greatest` -/
theorem IsPowerOrder.snoc {lt child : α → α → Prop} {input input' pre : List α} {x : α}
    (h : IsPowerOrder lt child input' pre) (hin : ∀ y, y ∈ input ↔ (y ∈ input' ∨ y = x)) (hx : x ∉ input')
    (hf : Free child input x) (hg : ∀ y ∈ input, y ≠ x → Free child input y → lt y x) :
    IsPowerOrder lt child input (pre ++ [x]) := by
  have hmem : ∀ y, y ∈ pre ++ [x] ↔ y ∈ input := fun y => by
    rw [hin, List.mem_append, h.mem, List.mem_singleton]
  refine ⟨?_, hmem, ?_, ?_⟩
  · rw [List.nodup_append]
    refine ⟨h.nodup, by simp, ?_⟩
    intro a ha b hb e
    simp only [List.mem_singleton] at hb
    subst hb; subst e
    exact hx ((h.mem a).mp ha)
  · intro p y q e
    rcases append_singleton_eq_append_cons e with ⟨_, rfl, rfl⟩ | ⟨q', _, e'⟩
    · exact hf.mono fun a ha => (hmem a).mp ha
    · exact h.free p y q' e'
  · intro p y q e
    rcases append_singleton_eq_append_cons e with ⟨_, rfl, rfl⟩ | ⟨q', _, e'⟩
    · intro z hz hfz
      have hz' := (h.mem z).mp hz
      exact hg z ((hin z).mpr (Or.inl hz')) (fun e => hx (e ▸ hz')) (hfz.mono fun a ha => (hmem a).mpr ha)
    · exact h.greatest p y q' e'

theorem IsPowerOrder.nil (lt child : α → α → Prop) : IsPowerOrder lt child [] [] := by
  refine ⟨List.nodup_nil, fun _ => Iff.rfl, ?_, ?_⟩ <;>
  · intro p y q e
    cases p <;> cases e

/-- indexed by the length of the output for the induction; the statement to use is `functional`
    (only the asymmetry of `lt` is needed). -/
theorem IsPowerOrder.unique {lt child : α → α → Prop} (hasym : ∀ a b, lt a b → ¬ lt b a) :
    ∀ (n : Nat) {input out₁ out₂ : List α}, out₁.length = n →
      IsPowerOrder lt child input out₁ → IsPowerOrder lt child input out₂ → out₁ = out₂ := by
  intro n
  induction n with
  | zero =>
    intro input out₁ out₂ hl h1 h2
    have e1 : out₁ = [] := List.eq_nil_of_length_eq_zero hl
    subst e1
    cases out₂ with
    | nil => rfl
    | cons y ys => exact nomatch (h1.mem y).mpr ((h2.mem y).mp List.mem_cons_self)
  | succ n ih =>
    intro input out₁ out₂ hl h1 h2
    -- both end with the greatest free element of the input
    rcases List.eq_nil_or_concat out₁ with rfl | ⟨p1, x1, rfl⟩
    · cases hl
    rw [List.concat_eq_append] at h1 hl ⊢
    have hx1 : x1 ∈ input := (h1.mem x1).mp (List.mem_append_right _ (List.mem_singleton_self x1))
    rcases List.eq_nil_or_concat out₂ with rfl | ⟨p2, x2, rfl⟩
    · exact nomatch (h2.mem x1).mpr hx1
    rw [List.concat_eq_append] at h2 ⊢
    have hx2 : x2 ∈ input := (h2.mem x2).mp (List.mem_append_right _ (List.mem_singleton_self x2))
    have hx : x1 = x2 := Classical.byContradiction fun hne =>
      hasym _ _ (h1.last_greatest.2 x2 hx2 (Ne.symm hne) h2.last_greatest.1)
        (h2.last_greatest.2 x1 hx1 hne h1.last_greatest.1)
    subst hx
    rw [ih (by simpa using hl) h1.dropLast
      (h2.dropLast.congr_input fun y => (h2.mem_init y).trans (h1.mem_init y).symm)]

theorem IsPowerOrder.functional {lt child : α → α → Prop} (hasym : ∀ a b, lt a b → ¬ lt b a) {input out₁ out₂ : List α}
    (h1 : IsPowerOrder lt child input out₁) (h2 : IsPowerOrder lt child input out₂) : out₁ = out₂ :=
  IsPowerOrder.unique hasym out₁.length rfl h1 h2

theorem IsPowerOrder.of_map {β : Type} (f : α → β) (hf : ∀ a b, f a = f b → a = b) {lt child : α → α → Prop}
    {lt' child' : β → β → Prop} (hlt : ∀ a b, lt' (f a) (f b) → lt a b) (hch : ∀ a b, child' (f a) (f b) ↔ child a b)
    {input out : List α} (h : IsPowerOrder lt' child' (input.map f) (out.map f)) : IsPowerOrder lt child input out := by
  have hmem : ∀ {l : List α} {x : α}, f x ∈ l.map f ↔ x ∈ l := fun {l x} =>
    ⟨fun hx => by obtain ⟨y, hy, e⟩ := List.mem_map.mp hx; exact hf y x e ▸ hy, List.mem_map_of_mem⟩
  have hfree : ∀ {l : List α} {x : α}, Free child' (l.map f) (f x) ↔ Free child l x := fun {l x} =>
    ⟨fun hx a ha hc => hx (f a) (List.mem_map_of_mem ha) ((hch a x).mpr hc),
     fun hx b hb hc => by obtain ⟨a, ha, rfl⟩ := List.mem_map.mp hb; exact hx a ha ((hch a x).mp hc)⟩
  have hcut : ∀ {pre post : List α} {x : α}, out = pre ++ x :: post → out.map f = pre.map f ++ f x :: post.map f :=
    fun e => by rw [e, List.map_append, List.map_cons]
  have hsnoc : ∀ (pre : List α) (x : α), pre.map f ++ [f x] = (pre ++ [x]).map f := fun pre x => by
    rw [List.map_append, List.map_cons, List.map_nil]
  refine ⟨List.Pairwise.of_map f (fun a b hne e => hne (congrArg f e)) h.nodup,
    fun x => hmem.symm.trans ((h.mem (f x)).trans hmem), ?_, ?_⟩
  · intro pre x post e
    exact hfree.mp (hsnoc pre x ▸ h.free _ _ _ (hcut e))
  · intro pre x post e y hy hfy
    exact hlt _ _ (h.greatest _ _ _ (hcut e) (f y) (List.mem_map_of_mem hy) (hsnoc pre x ▸ hfree.mpr hfy))

/-- every event comes after the parents (hence, transitively, all ancestors) it has in the input -/
theorem IsPowerOrder.topological {lt child : α → α → Prop} {input out : List α} (h : IsPowerOrder lt child input out)
    {pre post : List α} {x a : α} (e : out = pre ++ x :: post) (hc : child a x) (ha : a ∈ out) : a ∈ post := by
  rw [e] at ha
  rcases List.mem_append.mp ha with h1 | h1
  · exact absurd hc (h.free pre x post e a (List.mem_append_left _ h1))
  · rcases List.mem_cons.mp h1 with rfl | h2
    · exact absurd hc (h.free pre a post e a (by simp))
    · exact h2

end V.StateResSpec
