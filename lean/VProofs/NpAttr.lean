/-
  The simp set `np`: the rules that push "reaches no panic site" through a check
  (VProofs.AuthRulesNoPanic).  An attribute has to be declared in a module before the one that uses it.
-/
import Lean.Meta.Tactic.Simp.RegisterCommand

/-- rewrite rules for `V.AuthRules.NoPanic`: through `>>=` and `if`, and at the leaves -/
register_simp_attr np
