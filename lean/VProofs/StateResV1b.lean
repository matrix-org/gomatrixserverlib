/-
  Version 1 state resolution: the resolver state as a finite map from auth slots to events, for arbitrary
  event-type constants.  `lookupG` is the slot lookup, `WFG` the representation invariant; `addG` / `removeG`
  (the bodies of `addAuthEvent` / `removeAuthEvent`) are point updates of the lookup function, and under `WFG`
  the provider seen by the auth checks answers exactly the lookup function.
-/
import VProofs.StateResV1
import VProofs.Assoc
namespace V.StateRes
open Auth

/-! ## association lists with optional values (`map[string]PDU` holding nil entries); `setOpt` is `Assoc.put` -/

/-- the entry stored under `k`; a `nil` entry counts like an absent one -/
def lookupOpt (m : List (Bytes × Option Event)) (k : Bytes) : Option Event :=
  m.findSome? (fun x => if x.1 == k then x.2 else none)

theorem lookupOpt_nil (k : Bytes) : lookupOpt [] k = none := rfl

theorem lookupOpt_some {m : List (Bytes × Option Event)} {k : Bytes} {p : Event} (h : lookupOpt m k = some p) :
    ∃ x ∈ m, x.1 = k ∧ x.2 = some p := by
  unfold lookupOpt at h
  obtain ⟨x, hx, hf⟩ := List.exists_of_findSome?_eq_some h
  by_cases hk : x.1 = k
  · exact ⟨x, hx, hk, by simpa [hk] using hf⟩
  · simp [hk] at hf

theorem lookupOpt_filter_ne (m : List (Bytes × Option Event)) (k k' : Bytes) :
    lookupOpt (m.filter (fun x => x.1 != k)) k' = if k' == k then none else lookupOpt m k' := by
  unfold lookupOpt
  induction m with
  | nil => simp
  | cons x xs ih =>
    rw [List.filter_cons]
    by_cases hx : x.1 = k
    · have : (x.1 != k) = false := by simp [hx]
      rw [this]; simp only [Bool.false_eq_true, if_false]
      rw [ih, List.findSome?_cons]
      by_cases hk : k' = k
      · simp [hk]
      · have : (x.1 == k') = false := by rw [hx]; simpa using fun h => hk h.symm
        simp [hk, this]
    · have : (x.1 != k) = true := by simp [hx]
      rw [this]; simp only [if_true]
      rw [List.findSome?_cons, List.findSome?_cons, ih]
      by_cases hk : k' = k
      · subst hk; simp [hx]
      · simp [hk]

theorem lookupOpt_setOpt (m : List (Bytes × Option Event)) (k : Bytes) (v : Option Event) (k' : Bytes) :
    lookupOpt (setOpt m k v) k' = if k' == k then v else lookupOpt m k' := by
  unfold setOpt
  have h1 := lookupOpt_filter_ne m k k'
  unfold lookupOpt at *
  rw [List.findSome?_append, h1]
  by_cases hk : k' = k
  · subst hk; simp
  · have : ¬ k = k' := fun h => hk h.symm
    simp [hk, this]

theorem ne_create_pl : (b!"m.room.create" : Bytes) ≠ b!"m.room.power_levels" := by decide
theorem ne_create_jr : (b!"m.room.create" : Bytes) ≠ b!"m.room.join_rules" := by decide
theorem ne_create_member : (b!"m.room.create" : Bytes) ≠ b!"m.room.member" := by decide
theorem ne_create_tpi : (b!"m.room.create" : Bytes) ≠ b!"m.room.third_party_invite" := by decide
theorem ne_pl_jr : (b!"m.room.power_levels" : Bytes) ≠ b!"m.room.join_rules" := by decide
theorem ne_pl_member : (b!"m.room.power_levels" : Bytes) ≠ b!"m.room.member" := by decide
theorem ne_pl_tpi : (b!"m.room.power_levels" : Bytes) ≠ b!"m.room.third_party_invite" := by decide
theorem ne_jr_member : (b!"m.room.join_rules" : Bytes) ≠ b!"m.room.member" := by decide
theorem ne_jr_tpi : (b!"m.room.join_rules" : Bytes) ≠ b!"m.room.third_party_invite" := by decide
theorem ne_member_tpi : (b!"m.room.member" : Bytes) ≠ b!"m.room.third_party_invite" := by decide

/-! ## slot lookup, generic in the five type constants (so that `simp` never has to compare byte literals) -/

theorem stateKeyEquals_iff {e : Event} {k : Bytes} : e.stateKeyEquals k = true ↔ e.stateKey = some k := by
  unfold Event.stateKeyEquals; simp

/-- five pairwise different constants -/
structure D5 (c1 c2 c3 c4 c5 : Bytes) : Prop where
  h12 : c1 ≠ c2
  h13 : c1 ≠ c3
  h14 : c1 ≠ c4
  h15 : c1 ≠ c5
  h23 : c2 ≠ c3
  h24 : c2 ≠ c4
  h25 : c2 ≠ c5
  h34 : c3 ≠ c4
  h35 : c3 ≠ c5
  h45 : c4 ≠ c5

section generic
variable (c1 c2 c3 c4 c5 : Bytes)

def lookupG (s : V1State) (t k : Bytes) : Option Event :=
  if t = c1 then (if k = [] then s.create else none)
  else if t = c2 then (if k = [] then s.pl else none)
  else if t = c3 then (if k = [] then s.jr else none)
  else if t = c4 then lookupOpt s.members k
  else if t = c5 then lookupOpt s.tpis k
  else none

def addG (s : V1State) (e : Event) : V1State :=
  if e.stateKey.isNone then s
  else if e.type == c1 then (if e.stateKeyEquals [] then { s with create := some e } else s)
  else if e.type == c2 then (if e.stateKeyEquals [] then { s with pl := some e } else s)
  else if e.type == c3 then (if e.stateKeyEquals [] then { s with jr := some e } else s)
  else if e.type == c4 then { s with members := setOpt s.members (e.stateKey.getD []) (some e) }
  else if e.type == c5 then { s with tpis := setOpt s.tpis (e.stateKey.getD []) (some e) }
  else s

def removeG (s : V1State) (t k : Bytes) : V1State :=
  if t == c1 then (if k.isEmpty then { s with create := none } else s)
  else if t == c2 then (if k.isEmpty then { s with pl := none } else s)
  else if t == c3 then (if k.isEmpty then { s with jr := none } else s)
  else if t == c4 then { s with members := setOpt s.members k none }
  else if t == c5 then { s with tpis := setOpt s.tpis k none }
  else s

/-- (t, k) is one of the slots the resolver keeps -/
def isAuthSlotG (t k : Bytes) : Prop :=
  (t = c1 ∧ k = []) ∨ (t = c2 ∧ k = []) ∨ (t = c3 ∧ k = []) ∨ t = c4 ∨ t = c5

/-- `addG e` stores `e` under the slot (t, k) -/
def authEffG (e : Event) (t k : Bytes) : Prop := e.stateKey = some k ∧ e.type = t ∧ isAuthSlotG c1 c2 c3 c4 c5 t k

instance (t k : Bytes) : Decidable (isAuthSlotG c1 c2 c3 c4 c5 t k) := by unfold isAuthSlotG; infer_instance
instance (e : Event) (t k : Bytes) : Decidable (authEffG c1 c2 c3 c4 c5 e t k) := by unfold authEffG; infer_instance

variable {c1 c2 c3 c4 c5}

/-! The slot cascade `if t = c1 … else if t = c5 …` is the same in `lookupG`, `addG` and `removeG`: `slotG` names the slot
  it selects, and each of the three is a read (`V1State.at`) or a write (`V1State.put`) of that slot. -/

/-- the slots a `V1State` keeps -/
inductive Slot
  | create | pl | jr
  | member (k : Bytes)
  | tpi (k : Bytes)
  deriving DecidableEq

variable (c1 c2 c3 c4 c5) in
def Slot.type : Slot → Bytes
  | .create => c1 | .pl => c2 | .jr => c3 | .member _ => c4 | .tpi _ => c5

def Slot.key : Slot → Bytes
  | .member k | .tpi k => k
  | _ => []

def V1State.at (s : V1State) : Slot → Option Event
  | .create => s.create
  | .pl => s.pl
  | .jr => s.jr
  | .member k => lookupOpt s.members k
  | .tpi k => lookupOpt s.tpis k

def V1State.put (s : V1State) (v : Option Event) : Slot → V1State
  | .create => { s with create := v }
  | .pl => { s with pl := v }
  | .jr => { s with jr := v }
  | .member k => { s with members := setOpt s.members k v }
  | .tpi k => { s with tpis := setOpt s.tpis k v }

theorem V1State.at_put (s : V1State) (v : Option Event) (x y : Slot) : (s.put v x).at y = if y = x then v else s.at y := by
  cases x <;> cases y <;> simp [V1State.at, V1State.put, lookupOpt_setOpt]

variable (c1 c2 c3 c4 c5) in
/-- the slot the cascade selects for (t, k) -/
def slotG (t k : Bytes) : Option Slot :=
  if t = c1 then (if k = [] then some .create else none)
  else if t = c2 then (if k = [] then some .pl else none)
  else if t = c3 then (if k = [] then some .jr else none)
  else if t = c4 then some (.member k)
  else if t = c5 then some (.tpi k)
  else none

theorem slotG_some {t k : Bytes} {x : Slot} (h : slotG c1 c2 c3 c4 c5 t k = some x) :
    x.type c1 c2 c3 c4 c5 = t ∧ x.key = k ∧ isAuthSlotG c1 c2 c3 c4 c5 t k := by
  unfold slotG at h
  unfold isAuthSlotG
  grind [Slot.type, Slot.key]

/-- only here do the five constants have to differ: the cascade stops at the first constant that matches -/
theorem slotG_isSome (hd : D5 c1 c2 c3 c4 c5) {t k : Bytes} (h : isAuthSlotG c1 c2 c3 c4 c5 t k) :
    (slotG c1 c2 c3 c4 c5 t k).isSome := by
  obtain ⟨h12, h13, h14, h15, h23, h24, h25, h34, h35, h45⟩ := hd
  unfold isAuthSlotG at h
  unfold slotG
  grind

theorem lookupG_eq (s : V1State) (t k : Bytes) :
    lookupG c1 c2 c3 c4 c5 s t k = (slotG c1 c2 c3 c4 c5 t k).bind s.at := by
  unfold lookupG slotG
  simp only [apply_ite (Option.bind · s.at)]
  rfl

theorem lookupG_none_of_not_slot {s : V1State} {t k : Bytes} (h : ¬ isAuthSlotG c1 c2 c3 c4 c5 t k) :
    lookupG c1 c2 c3 c4 c5 s t k = none := by
  unfold isAuthSlotG at h
  unfold lookupG
  grind

theorem lookupG_empty (t k : Bytes) : lookupG c1 c2 c3 c4 c5 {} t k = none := by
  unfold lookupG
  simp only [lookupOpt_nil]
  grind

variable (c1 c2 c3 c4 c5) in
/-- write `v` into the slot of (t, k), if there is one -/
def putAt (s : V1State) (v : Option Event) (t k : Bytes) : V1State :=
  (slotG c1 c2 c3 c4 c5 t k).elim s (s.put v)

theorem removeG_eq (s : V1State) (t k : Bytes) : removeG c1 c2 c3 c4 c5 s t k = putAt c1 c2 c3 c4 c5 s none t k := by
  unfold removeG putAt slotG
  simp only [beq_iff_eq, List.isEmpty_iff, apply_ite (Option.elim · s (s.put none))]
  rfl

theorem addG_eq (s : V1State) (e : Event) : addG c1 c2 c3 c4 c5 s e =
    match e.stateKey with
    | none => s
    | some k => putAt c1 c2 c3 c4 c5 s (some e) e.type k := by
  unfold addG
  cases hs : e.stateKey with
  | none => rfl
  | some k =>
    unfold putAt slotG
    simp only [stateKeyEquals_iff, hs, Option.isNone_some, Option.getD_some, beq_iff_eq, Option.some.injEq,
      Bool.false_eq_true, if_false, apply_ite (Option.elim · s (s.put (some e)))]
    rfl

theorem lookupG_putAt (s : V1State) (v : Option Event) (t0 k0 t k : Bytes) :
    lookupG c1 c2 c3 c4 c5 (putAt c1 c2 c3 c4 c5 s v t0 k0) t k =
      if t = t0 ∧ k = k0 ∧ (slotG c1 c2 c3 c4 c5 t0 k0).isSome then v else lookupG c1 c2 c3 c4 c5 s t k := by
  rw [lookupG_eq, lookupG_eq]
  unfold putAt
  cases h0 : slotG c1 c2 c3 c4 c5 t0 k0 with
  | none => simp
  | some x =>
    cases h : slotG c1 c2 c3 c4 c5 t k with
    | none =>
      have : ¬ (t = t0 ∧ k = k0) := by rintro ⟨rfl, rfl⟩; rw [h0] at h; cases h
      simp [this]
    | some y =>
      simp only [Option.elim_some, Option.bind_some, V1State.at_put, Option.isSome_some, and_true]
      by_cases hxy : y = x
      · subst hxy
        obtain ⟨hx1, hx2, _⟩ := slotG_some h0
        obtain ⟨hy1, hy2, _⟩ := slotG_some h
        rw [if_pos rfl, if_pos ⟨hy1.symm.trans hx1, hy2.symm.trans hx2⟩]
      · rw [if_neg hxy, if_neg]
        rintro ⟨rfl, rfl⟩
        rw [h0] at h; exact hxy (Option.some.inj h).symm

theorem lookupG_addG_eff (hd : D5 c1 c2 c3 c4 c5) (s : V1State) {e : Event} {t k : Bytes}
    (h : authEffG c1 c2 c3 c4 c5 e t k) : lookupG c1 c2 c3 c4 c5 (addG c1 c2 c3 c4 c5 s e) t k = some e := by
  obtain ⟨hs, ht, hslot⟩ := h
  subst ht
  rw [addG_eq, hs, lookupG_putAt, if_pos ⟨rfl, rfl, slotG_isSome hd hslot⟩]

theorem lookupG_addG_not (s : V1State) {e : Event} {t k : Bytes}
    (h : ¬ authEffG c1 c2 c3 c4 c5 e t k) :
    lookupG c1 c2 c3 c4 c5 (addG c1 c2 c3 c4 c5 s e) t k = lookupG c1 c2 c3 c4 c5 s t k := by
  rw [addG_eq]
  cases hs : e.stateKey with
  | none => rfl
  | some k0 =>
    rw [lookupG_putAt, if_neg]
    rintro ⟨rfl, rfl, hslot⟩
    obtain ⟨x, hx⟩ := Option.isSome_iff_exists.mp hslot
    exact h ⟨hs, rfl, (slotG_some hx).2.2⟩

theorem lookupG_removeG (s : V1State) (t0 k0 t k : Bytes) :
    lookupG c1 c2 c3 c4 c5 (removeG c1 c2 c3 c4 c5 s t0 k0) t k =
      if t = t0 ∧ k = k0 then none else lookupG c1 c2 c3 c4 c5 s t k := by
  rw [removeG_eq, lookupG_putAt]
  by_cases h : t = t0 ∧ k = k0
  · obtain ⟨rfl, rfl⟩ := h
    simp only [true_and, and_self, if_true]
    cases hs : slotG c1 c2 c3 c4 c5 t k with
    | none => rw [lookupG_eq, hs]; rfl
    | some x => rfl
  · rw [if_neg h, if_neg (fun hh => h ⟨hh.1, hh.2.1⟩)]

/-- representation invariant of the resolver state -/
structure WFG (c1 c2 c3 c4 c5 : Bytes) (s : V1State) : Prop where
  create : ∀ e, s.create = some e → e.type = c1 ∧ e.stateKey = some []
  pl : ∀ e, s.pl = some e → e.type = c2 ∧ e.stateKey = some []
  jr : ∀ e, s.jr = some e → e.type = c3 ∧ e.stateKey = some []
  members : ∀ x ∈ s.members, ∀ e, x.2 = some e → e.type = c4 ∧ e.stateKey = some x.1
  tpis : ∀ x ∈ s.tpis, ∀ e, x.2 = some e → e.type = c5 ∧ e.stateKey = some x.1
  membersKeys : (s.members.map (·.1)).Nodup
  tpisKeys : (s.tpis.map (·.1)).Nodup

theorem WFG.empty : WFG c1 c2 c3 c4 c5 {} where
  create := fun _ h => by cases h
  pl := fun _ h => by cases h
  jr := fun _ h => by cases h
  members := fun _ h => by cases h
  tpis := fun _ h => by cases h
  membersKeys := List.nodup_nil
  tpisKeys := List.nodup_nil

theorem setOpt_wf {T : Bytes} {m : List (Bytes × Option Event)} {k : Bytes} {v : Option Event}
    (hm : ∀ x ∈ m, ∀ e, x.2 = some e → e.type = T ∧ e.stateKey = some x.1)
    (hv : ∀ e, v = some e → e.type = T ∧ e.stateKey = some k) :
    ∀ x ∈ setOpt m k v, ∀ e, x.2 = some e → e.type = T ∧ e.stateKey = some x.1 := by
  intro x hx e he
  rcases Assoc.mem_put hx with ⟨hx, _⟩ | rfl
  · exact hm x hx e he
  · exact hv e he

theorem WFG.put {s : V1State} (h : WFG c1 c2 c3 c4 c5 s) {v : Option Event} (x : Slot)
    (hv : ∀ e, v = some e → e.type = x.type c1 c2 c3 c4 c5 ∧ e.stateKey = some x.key) : WFG c1 c2 c3 c4 c5 (s.put v x) := by
  cases x with
  | create => exact ⟨hv, h.pl, h.jr, h.members, h.tpis, h.membersKeys, h.tpisKeys⟩
  | pl => exact ⟨h.create, hv, h.jr, h.members, h.tpis, h.membersKeys, h.tpisKeys⟩
  | jr => exact ⟨h.create, h.pl, hv, h.members, h.tpis, h.membersKeys, h.tpisKeys⟩
  | member k => exact ⟨h.create, h.pl, h.jr, setOpt_wf h.members hv, h.tpis, Assoc.nodup_keys_put h.membersKeys k v, h.tpisKeys⟩
  | tpi k => exact ⟨h.create, h.pl, h.jr, h.members, setOpt_wf h.tpis hv, h.membersKeys, Assoc.nodup_keys_put h.tpisKeys k v⟩

theorem WFG.putAt {s : V1State} (h : WFG c1 c2 c3 c4 c5 s) {v : Option Event} {t k : Bytes}
    (hv : ∀ e, v = some e → e.type = t ∧ e.stateKey = some k) : WFG c1 c2 c3 c4 c5 (putAt c1 c2 c3 c4 c5 s v t k) := by
  unfold V.StateRes.putAt
  cases hx : slotG c1 c2 c3 c4 c5 t k with
  | none => exact h
  | some x =>
    obtain ⟨h1, h2, _⟩ := slotG_some hx
    exact h.put x (h1 ▸ h2 ▸ hv)

theorem WFG.addG {s : V1State} (h : WFG c1 c2 c3 c4 c5 s) (e : Event) : WFG c1 c2 c3 c4 c5 (addG c1 c2 c3 c4 c5 s e) := by
  rw [addG_eq]
  split
  · exact h
  · rename_i k hs
    exact h.putAt (fun x hx => by cases hx; exact ⟨rfl, hs⟩)

theorem WFG.removeG {s : V1State} (h : WFG c1 c2 c3 c4 c5 s) (t k : Bytes) :
    WFG c1 c2 c3 c4 c5 (removeG c1 c2 c3 c4 c5 s t k) := by
  rw [removeG_eq]
  exact h.putAt (fun _ hx => by cases hx)

theorem WFG.at {s : V1State} (h : WFG c1 c2 c3 c4 c5 s) {x : Slot} {p : Event} (hl : s.at x = some p) :
    p.type = x.type c1 c2 c3 c4 c5 ∧ p.stateKey = some x.key := by
  cases x with
  | create => exact h.create p hl
  | pl => exact h.pl p hl
  | jr => exact h.jr p hl
  | member k =>
    obtain ⟨y, hy, hyk, hyp⟩ := lookupOpt_some hl
    exact hyk ▸ h.members y hy p hyp
  | tpi k =>
    obtain ⟨y, hy, hyk, hyp⟩ := lookupOpt_some hl
    exact hyk ▸ h.tpis y hy p hyp

theorem lookupG_some_eff {s : V1State} (h : WFG c1 c2 c3 c4 c5 s) {t k : Bytes} {p : Event}
    (hl : lookupG c1 c2 c3 c4 c5 s t k = some p) : authEffG c1 c2 c3 c4 c5 p t k := by
  rw [lookupG_eq] at hl
  obtain ⟨x, hx, hp⟩ := Option.bind_eq_some_iff.mp hl
  obtain ⟨h1, h2, h3⟩ := slotG_some hx
  obtain ⟨h4, h5⟩ := h.at hp
  exact ⟨h5.trans (congrArg some h2), h4.trans h1, h3⟩

/-! ## the provider answers the lookup function -/

theorem find_slot {T : Bytes} {o : Option Event} (ho : ∀ e, o = some e → e.type = T ∧ e.stateKey = some []) (t k : Bytes) :
    o.toList.find? (fun e => e.type == t && e.stateKey == some k) = if t = T ∧ k = [] then o else none := by
  cases o with
  | none => simp
  | some e =>
    obtain ⟨h1, h2⟩ := ho e rfl
    simp only [Option.toList_some, List.find?_cons, List.find?_nil, h1, h2]
    by_cases h : T = t ∧ [] = k
    · obtain ⟨rfl, rfl⟩ := h; simp
    · have h' : ¬ (t = T ∧ k = []) := fun ⟨a, b⟩ => h ⟨a.symm, b.symm⟩
      rw [if_neg h']
      have : (T == t && some ([] : Bytes) == some k) = false := by
        rw [Bool.eq_false_iff]; intro hh; simp only [Bool.and_eq_true, beq_iff_eq, Option.some.injEq] at hh; exact h hh
      rw [this]

theorem find_keyed {T : Bytes} {m : List (Bytes × Option Event)}
    (hm : ∀ x ∈ m, ∀ e, x.2 = some e → e.type = T ∧ e.stateKey = some x.1) (t k : Bytes) :
    (m.filterMap (·.2)).find? (fun e => e.type == t && e.stateKey == some k) = if t = T then lookupOpt m k else none := by
  induction m with
  | nil => simp [lookupOpt_nil]
  | cons x xs ih =>
    have ih' := ih (fun y hy => hm y (List.mem_cons_of_mem _ hy))
    unfold lookupOpt at *
    rw [List.filterMap_cons, List.findSome?_cons]
    cases hx : x.2 with
    | none =>
      simp only []
      rw [ih']
      by_cases h : x.1 == k <;> simp [h]
    | some e =>
      obtain ⟨h1, h2⟩ := hm x List.mem_cons_self e hx
      simp only [List.find?_cons, h1, h2, ih']
      by_cases ht : T = t
      · subst ht
        by_cases hk : x.1 = k
        · simp [hk]
        · have hk' : (x.1 == k) = false := by simpa using hk
          simp [hk']
      · have ht' : ¬ t = T := fun h => ht h.symm
        have ht'' : (T == t) = false := by simpa using ht
        simp [ht', ht'']

theorem provider_getG (hd : D5 c1 c2 c3 c4 c5) {s : V1State} (h : WFG c1 c2 c3 c4 c5 s) (valid : Bool) (t k : Bytes) :
    (s.provider valid).get t k = lookupG c1 c2 c3 c4 c5 s t k := by
  obtain ⟨h12, h13, h14, h15, h23, h24, h25, h34, h35, h45⟩ := hd
  unfold V1State.provider Provider.get lookupG
  simp only [List.find?_append, find_slot h.create, find_slot h.pl, find_slot h.jr, find_keyed h.members, find_keyed h.tpis]
  grind

end generic
end V.StateRes
