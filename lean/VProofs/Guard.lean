/-
  The models write a Go function as a chain of tests that leave early: `if c then .error e else …`,
  `if c then none else …`, `x >>= f`.  A proof about a run that got through needs to know that each test was passed and
  what the rest returned; these lemmas say that for one test at a time, for `Option` and for `Except` over any error
  type.  Last, `V.ErrsIn P x`: every error `x` can return satisfies `P` — the form in which a function's error class is
  stated once and from which "never this error" follows.
-/
namespace V.Guard

variable {α β ε : Type} {c : Prop} [Decidable c]

theorem ite_cases {x y z : α} (h : (if c then x else y) = z) : c ∧ x = z ∨ ¬ c ∧ y = z := by
  by_cases hc : c
  · exact .inl ⟨hc, by rwa [if_pos hc] at h⟩
  · exact .inr ⟨hc, by rwa [if_neg hc] at h⟩

theorem ite_ne {a b x : α} (ha : a ≠ x) (hb : b ≠ x) : (if c then a else b) ≠ x := by
  split <;> assumption

theorem some_of_else_none {x : Option α} {z : α} (h : (if c then x else none) = some z) : c ∧ x = some z :=
  Option.ite_none_right_eq_some.mp h

theorem ok_iff {e : ε} {x : Except ε α} {v : α} : (if c then .error e else x) = .ok v ↔ ¬ c ∧ x = .ok v := by
  by_cases h : c
  · rw [if_pos h]; exact ⟨nofun, fun h' => absurd h h'.1⟩
  · rw [if_neg h]; exact ⟨fun h' => ⟨h, h'⟩, fun h' => h'.2⟩

theorem ok_iff' {e : ε} {x : Except ε α} {v : α} : (if c then x else .error e) = .ok v ↔ c ∧ x = .ok v := by
  by_cases h : c
  · rw [if_pos h]; exact ⟨fun h' => ⟨h, h'⟩, fun h' => h'.2⟩
  · rw [if_neg h]; exact ⟨nofun, fun h' => absurd h'.1 h⟩

theorem bind_ok {x : Except ε α} {f : α → Except ε β} {b : β} (h : x >>= f = .ok b) : ∃ a, x = .ok a ∧ f a = .ok b := by
  cases x with
  | error v => cases h
  | ok a => exact ⟨a, rfl, h⟩

theorem eq_ok_of_toOption {e : Except ε α} {x : α} (h : e.toOption = some x) : e = .ok x := by
  cases e with
  | error _ => cases h
  | ok a => cases h; rfl

end V.Guard

namespace V

def ErrsIn {ε α : Type} (P : ε → Prop) (x : Except ε α) : Prop := ∀ e, x = .error e → P e

namespace ErrsIn
variable {ε α β : Type} {P : ε → Prop}

theorem ok (a : α) : ErrsIn P (.ok a : Except ε α) := nofun

theorem error {e : ε} (h : P e) : ErrsIn P (.error e : Except ε α) := fun _ he => by cases he; exact h

theorem mapM {f : α → Except ε β} : ∀ {l : List α}, (∀ a ∈ l, ErrsIn P (f a)) → ErrsIn P (l.mapM f)
  | [], _ => by rw [List.mapM_nil]; exact ok _
  | a :: l, h => by
    intro e he
    rw [List.mapM_cons] at he
    cases ha : f a with
    | error x => rw [ha] at he; cases he; exact h a List.mem_cons_self _ ha
    | ok b =>
      rw [ha] at he
      cases hl : l.mapM f with
      | error x => rw [hl] at he; cases he; exact mapM (fun c hc => h c (List.mem_cons_of_mem _ hc)) _ hl
      | ok bs => rw [hl] at he; cases he

end ErrsIn
end V
