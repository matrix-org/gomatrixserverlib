/-
  Version 1 state resolution: the former counter-example to order independence, as concrete events.

  An auth event (`AJ`, @a:x's join) is supplied for a slot that is also conflicted (`a1`, `a2`).  Before the library
  was fixed, `resolveAuthBlock` left that slot EMPTY after resolving the @a:x block, so the @b:x block (whose candidate
  `b2` is an invite sent by @a:x) was judged differently depending on whether it came before or after the @a:x block:
      resolveV1 id [a1, a2, b1, b2] [C, AJ]  gave  [$a2, $b1]
      resolveV1 id [b1, b2, a1, a2] [C, AJ]  gave  [$b2, $a2]          (#eval on the model before the fix)
  Now the previous occupant of the slot is put back, and both orders give {$a2, $b2}.
  The examples are checked by kernel evaluation of the executable model (`decide +kernel`: plain kernel reduction, no compiled code).
-/
import VProofs.StateResV1f
namespace V.StateRes.V1Ex
open Json Auth List

/-- a room-version-1 state event in room `!r:x` (depth = origin_server_ts; no prev / auth events listed) -/
def mk (id type sk sender : Bytes) (depth : Bytes) (content : List (Bytes × JVal)) : Event :=
  { ver := b!"1", eventID := id,
    obj := [(b!"type", .str type), (b!"state_key", .str sk), (b!"sender", .str sender), (b!"room_id", .str b!"!r:x"),
            (b!"depth", .num depth), (b!"origin_server_ts", .num depth), (b!"content", .obj content),
            (b!"prev_events", .arr []), (b!"auth_events", .arr [])] }

def C : Event := mk b!"$c" b!"m.room.create" b!"" b!"@a:x" b!"1" [(b!"creator", .str b!"@a:x")]
/-- supplied auth event: @a:x has joined -/
def AJ : Event := mk b!"$aj" b!"m.room.member" b!"@a:x" b!"@a:x" b!"2" [(b!"membership", .str b!"join")]
/-- two conflicting member events of @a:x -/
def a1 : Event := mk b!"$a1" b!"m.room.member" b!"@a:x" b!"@a:x" b!"5" [(b!"membership", .str b!"join"), (b!"displayname", .str b!"A")]
def a2 : Event := mk b!"$a2" b!"m.room.member" b!"@a:x" b!"@a:x" b!"6" [(b!"membership", .str b!"join"), (b!"displayname", .str b!"AA")]
/-- two conflicting member events of @b:x: a leave, and an invite sent by @a:x (allowed only while @a:x is joined) -/
def b1 : Event := mk b!"$b1" b!"m.room.member" b!"@b:x" b!"@b:x" b!"3" [(b!"membership", .str b!"leave")]
def b2 : Event := mk b!"$b2" b!"m.room.member" b!"@b:x" b!"@a:x" b!"4" [(b!"membership", .str b!"invite")]

/-- the supplied auth event `AJ` occupies the slot of the conflicted events `a1`, `a2` (a hypothesis "no supplied auth event in the slot of a conflicted event" would fail here) -/
theorem ex_not_P2 : AJ.stateKey.isSome ∧ a1.stateKey.isSome ∧ keyOf AJ = keyOf a1 := by decide

/-- the invite `b2` passes the auth checks only while @a:x's membership is known -/
theorem ex_b2_allowed : allowedFresh b2 (Provider.ofEvents [C, AJ, b1]) false = .ok ∧
    allowedFresh b2 (Provider.ofEvents [C, b1]) false = .notAllowed := by decide +kernel

theorem ex_order1 : (resolveV1 id [a1, a2, b1, b2] [C, AJ]).map (·.eventID) = [b!"$a2", b!"$b2"] := by decide +kernel

theorem ex_order2 : (resolveV1 id [b1, b2, a1, a2] [C, AJ]).map (·.eventID) = [b!"$b2", b!"$a2"] := by decide +kernel

theorem ex_orders_perm :
    (resolveV1 id [a1, a2, b1, b2] [C, AJ]).map (·.eventID) ~ (resolveV1 id [b1, b2, a1, a2] [C, AJ]).map (·.eventID) := by
  rw [ex_order1, ex_order2]
  exact Perm.swap _ _ _

/-! ## the remaining hypotheses of `v1_perm_invariant` hold here (non-vacuity) -/

/-- P1 for the supplied auth events -/
theorem ex_P1 : ∀ a ∈ [C, AJ], ∀ b ∈ [C, AJ], a.stateKey.isSome → keyOf a = keyOf b → b.stateKey.isSome → a = b := by
  intro a ha b hb _ hk _
  exact Lists.eq_of_nodup_map keyOf (by decide) ha hb hk

/-- P3 for the conflicted events (with the identity as "sha1"): candidates of one slot differ in depth -/
theorem ex_P3 : ∀ a ∈ [a1, a2, b1, b2], ∀ b ∈ [a1, a2, b1, b2], a.stateKey.isSome → b.stateKey.isSome → keyOf a = keyOf b →
    a.depth = b.depth → id a.eventID = id b.eventID → a = b := by
  intro a ha b hb _ _ _ hd _
  exact Lists.eq_of_nodup_map Event.depth (by decide) ha hb hd

/-- the premises of P1 / P3 are not vacuous: two different conflicted events share a slot -/
theorem ex_P3_nontrivial : a1.stateKey.isSome ∧ a2.stateKey.isSome ∧ keyOf a1 = keyOf a2 ∧ a1.depth ≠ a2.depth := by decide

/-- the general theorem applies: conflicted events rearranged, auth events rearranged and repeated -/
theorem ex_invariant : resolveV1 id [a1, a2, b1, b2] [C, AJ] ~ resolveV1 id [b1, b2, a1, a2] [AJ, C, AJ] := by
  refine v1_perm_invariant id (conflicted := [a1, a2] ++ [b1, b2]) List.perm_append_comm ?_ ex_P1 ex_P3
  intro x
  simp only [List.mem_cons, List.not_mem_nil, or_false]
  constructor
  · rintro (h | h)
    · exact Or.inr (Or.inl h)
    · exact Or.inl h
  · rintro (h | h | h)
    · exact Or.inr h
    · exact Or.inl h
    · exact Or.inr h

end V.StateRes.V1Ex
