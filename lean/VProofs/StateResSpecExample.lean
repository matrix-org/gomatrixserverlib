/-
  C10: a concrete, non-trivial instance of the hypotheses of the C10 theorems (well-formed state sets, ranked auth
  graph): a room-version-10 room with create / join / power-levels events agreed by both state sets and two
  competing topic events.  The closed facts about concrete events are checked by kernel evaluation
  (`decide +kernel`: no axioms beyond the usual three).
-/
import VModel.StateResSpec
import VProofs.StateResBasic
namespace V.StateResSpec.Example
open Json V.StateRes

def mk (id type : Bytes) (sk : Bytes) (sender : Bytes) (ts : Bytes) (auth : List Bytes) (content : JVal) : Event :=
  { ver := b!"10", eventID := id,
    obj := [(b!"type", .str type), (b!"state_key", .str sk), (b!"sender", .str sender), (b!"room_id", .str b!"!r:h"),
            (b!"origin_server_ts", .num ts), (b!"depth", .num b!"1"),
            (b!"auth_events", .arr (auth.map .str)), (b!"prev_events", .arr []), (b!"content", content)] }

def eC := mk b!"$c" b!"m.room.create" [] b!"@u:h" b!"1" [] (.obj [(b!"creator", .str b!"@u:h"), (b!"room_version", .str b!"10")])
def eM := mk b!"$m" b!"m.room.member" b!"@u:h" b!"@u:h" b!"2" [b!"$c"] (.obj [(b!"membership", .str b!"join")])
def eP := mk b!"$p" b!"m.room.power_levels" [] b!"@u:h" b!"3" [b!"$c", b!"$m"] (.obj [(b!"users", .obj [(b!"@u:h", .num b!"100")])])
def eA := mk b!"$a" b!"m.room.topic" [] b!"@u:h" b!"5" [b!"$c", b!"$m", b!"$p"] (.obj [(b!"topic", .str b!"A")])
def eB := mk b!"$b" b!"m.room.topic" [] b!"@u:h" b!"4" [b!"$c", b!"$m", b!"$p"] (.obj [(b!"topic", .str b!"B")])

/-- two state sets that agree on create / member / power levels and differ on the topic -/
def exSets : List (List Event) := [[eC, eM, eP, eA], [eC, eM, eP, eB]]
def exAuth : List Event := [eC, eM, eP]

theorem mem_all {x : Event} (h : x ∈ exSets.flatten ++ exAuth) : x = eC ∨ x = eM ∨ x = eP ∨ x = eA ∨ x = eB := by
  simp [exSets, exAuth] at h
  rcases h with h | h | h | h | h | h | h | h | h | h | h <;> simp [h]

theorem id_inj {x y : Event} (hx : x = eC ∨ x = eM ∨ x = eP ∨ x = eA ∨ x = eB)
    (hy : y = eC ∨ y = eM ∨ y = eP ∨ y = eA ∨ y = eB) (h : x.eventID = y.eventID) : x = y :=
  Lists.eq_of_nodup_map (·.eventID) (l := [eC, eM, eP, eA, eB]) (by decide +kernel) (by simpa using hx) (by simpa using hy) h

theorem key_M : keyOf eM = some (b!"m.room.member", b!"@u:h") := by decide +kernel
theorem key_P : keyOf eP = some (b!"m.room.power_levels", []) := by decide +kernel
theorem key_A : keyOf eA = some (b!"m.room.topic", []) := by decide +kernel
theorem key_B : keyOf eB = some (b!"m.room.topic", []) := by decide +kernel

theorem isStateMap_of_keys {S : List Event} (h : (S.map keyOf).Nodup) : IsStateMap S :=
  ⟨Lists.nodup_of_nodup_map keyOf h, fun _ ha _ hb _ hk => Lists.eq_of_nodup_map keyOf h ha hb hk⟩

theorem exWF : WF exSets exAuth where
  ids := fun _ _ ha hb h => id_inj (mem_all ha) (mem_all hb) h
  maps := by
    intro S hS
    simp only [exSets, List.mem_cons, List.not_mem_nil, or_false] at hS
    rcases hS with rfl | rfl <;> exact isStateMap_of_keys (by decide +kernel)

theorem exRanked : Ranked (exSets.flatten ++ exAuth) :=
  ⟨fun id => if id = b!"$c" then 0 else if id = b!"$m" then 1 else if id = b!"$p" then 2 else 3, by decide +kernel⟩

/-- the instance is not trivial: the two topic events are conflicted -/
theorem exConflicted : Conflicted exSets eA := by
  refine ⟨⟨_, List.mem_cons_self, by simp⟩, by rw [key_A]; simp, ?_⟩
  rintro ⟨_, k, hk⟩
  have h1 : keyOf eA = some k := ((hk _ List.mem_cons_self eA).mpr rfl).2
  have hk' : k = (b!"m.room.topic", []) := by rw [key_A] at h1; exact (Option.some.inj h1).symm
  subst hk'
  have : eB = eA := (hk [eC, eM, eP, eB] (by simp [exSets]) eB).mp ⟨by simp, key_B⟩
  exact absurd (congrArg Event.eventID this) (by decide)

/-! ## Version 1: the order of the member blocks does not matter (any more)

  Room version 1; `$A0`: @a joined; conflicted: two further joins of @a (`A1`, `A2`) and two invites of @b SENT BY @a
  (`B1`, `B2`); auth events: create, creator's join, public join rules, `A0`.  Before the fix of `resolveAuthBlock`
  (which used to clear the winner's slot until the phase was over, dropping `A0`) the @b block saw "@a has no
  membership" iff the @a block was resolved first, and the Go code answered `nondet:…$B1…|…$B2…` on this input;
  now every block leaves the registered events as it found them and both orders give `$A2`, `$B2`. -/

def mk1 (id type : Bytes) (sk : Bytes) (sender : Bytes) (depth : Bytes) (auth : List Bytes) (content : JVal) : Event :=
  { ver := b!"1", eventID := id,
    obj := [(b!"type", .str type), (b!"state_key", .str sk), (b!"sender", .str sender), (b!"room_id", .str b!"!r:h"),
            (b!"origin_server_ts", .num depth), (b!"depth", .num depth),
            (b!"auth_events", .arr (auth.map (fun a => .arr [.str a, .obj []]))), (b!"prev_events", .arr []), (b!"content", content)] }

def memb (m : Bytes) : JVal := .obj [(b!"membership", .str m)]
def vC  := mk1 b!"$C:h" b!"m.room.create" [] b!"@c:h" b!"1" [] (.obj [(b!"creator", .str b!"@c:h")])
def vJC := mk1 b!"$JC:h" b!"m.room.member" b!"@c:h" b!"@c:h" b!"2" [b!"$C:h"] (memb b!"join")
def vJR := mk1 b!"$JR:h" b!"m.room.join_rules" [] b!"@c:h" b!"3" [b!"$C:h", b!"$JC:h"] (.obj [(b!"join_rule", .str b!"public")])
def vA0 := mk1 b!"$A0:h" b!"m.room.member" b!"@a:h" b!"@a:h" b!"4" [b!"$C:h", b!"$JR:h"] (memb b!"join")
def vA1 := mk1 b!"$A1:h" b!"m.room.member" b!"@a:h" b!"@a:h" b!"5" [b!"$C:h", b!"$JR:h", b!"$A0:h"] (memb b!"join")
def vA2 := mk1 b!"$A2:h" b!"m.room.member" b!"@a:h" b!"@a:h" b!"6" [b!"$C:h", b!"$JR:h", b!"$A0:h"] (memb b!"join")
def vB1 := mk1 b!"$B1:h" b!"m.room.member" b!"@b:h" b!"@a:h" b!"7" [b!"$C:h", b!"$JR:h", b!"$A0:h"] (memb b!"invite")
def vB2 := mk1 b!"$B2:h" b!"m.room.member" b!"@b:h" b!"@a:h" b!"8" [b!"$C:h", b!"$JR:h", b!"$A0:h"] (memb b!"invite")
def vAuth : List Event := [vC, vJC, vJR, vA0]

/-- the same conflicted events, presented in two orders, resolve to the same events (kernel-evaluated on the model;
    the Go code answers `$A2:h,$B2:h,$C:h,$JC:h,$JR:h` on the corresponding op line) -/
theorem v1_former_counterexample :
    ((resolveV1 (fun id => id) [vA1, vA2, vB1, vB2] vAuth).map (·.eventID),
     (resolveV1 (fun id => id) [vB1, vB2, vA1, vA2] vAuth).map (·.eventID)) =
      ([b!"$A2:h", b!"$B2:h"], [b!"$B2:h", b!"$A2:h"]) := by decide +kernel

end V.StateResSpec.Example
