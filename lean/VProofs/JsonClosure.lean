/- Assembly: `canonical` = specification (`canonical_of_parse`, from `compact_of_parse`, `parse_encode` and
   `sortEmit_ofJVal`), and what the C01 theorems ask of strings (`wellFormed`) implies what that needs
   (`surrogatesOk`), by way of SignJSON's gate (`Sign.pairedOk`).  Then the closure properties of the canonical
   encoding: sorting preserves grammatical numbers, keeps distinct keys distinct and is idempotent on values without
   duplicate keys; the canonical bytes read back; injectivity. -/
import VProofs.JsonCompact
import VProofs.JsonSortEmit
import VProofs.JsonParsed
import VProofs.JsonHered
import VModel.Sign
namespace V.Json
open List

/-- **model = specification**, in its most general form: for every text the parser accepts and whose
    strings contain no lone surrogate escape.  (Duplicate keys are *not* excluded here: model and
    specification use the same deterministic sort.  They are excluded in the property theorems because
    the order the Go code gives equal keys is not modelled.) -/
theorem canonical_of_parse {t : Bytes} {p : PVal} (hp : parse t = some p) (hs : p.surrogatesOk = true) :
    canonical t = .ok (encodeCanon p.toJVal) := by
  have hv : valid t = true := by simp [valid, hp]
  have hc := compact_of_parse hp hs
  have hn := parse_numsOk hp
  have hr := parse_encode p.toJVal hn
  unfold canonical
  simp only [hv, Bool.not_true, Bool.false_eq_true, ↓reduceIte, hc, sortJSON, hr, Option.map_some]
  rw [sortEmit_ofJVal]
  rfl

/-! ### the three conditions on the strings of a parsed value, strongest first: `wellFormed` (what the C01 theorems ask) implies
  `Sign.pairedOk` (SignJSON's gate), which implies `surrogatesOk` (what `canonical_of_parse` needs) -/

section
open V.Sign

mutual
/-- VerifyJSON's gate is SignJSON's gate plus the UTF-8 clause -/
theorem pairedOk_of_wellFormed : (p : PVal) → p.wellFormed = true → pairedOk p = true
  | .null, _ => rfl
  | .bool _, _ => rfl
  | .num _, _ => rfl
  | .str raw _, h => by
    simp only [PVal.wellFormed, rawStringWellFormed, Bool.and_eq_true] at h
    simp only [pairedOk, h.2]
  | .arr xs, h => by
    simp only [PVal.wellFormed] at h
    simp only [pairedOk, pairedOkList_of_wellFormed xs h]
  | .obj kvs, h => by
    simp only [PVal.wellFormed] at h
    simp only [pairedOk, pairedOkMembers_of_wellFormed kvs h]
theorem pairedOkList_of_wellFormed : (xs : List PVal) → wellFormedList xs = true → pairedOkList xs = true
  | [], _ => rfl
  | x :: xs, h => by
    simp only [wellFormedList, Bool.and_eq_true] at h
    simp only [pairedOkList, pairedOk_of_wellFormed x h.1, pairedOkList_of_wellFormed xs h.2, Bool.and_self]
theorem pairedOkMembers_of_wellFormed : (kvs : List (Bytes × Bytes × PVal)) → wellFormedMembers kvs = true →
    pairedOkMembers kvs = true
  | [], _ => rfl
  | (raw, _, v) :: kvs, h => by
    simp only [wellFormedMembers, rawStringWellFormed, Bool.and_eq_true] at h
    simp only [pairedOkMembers, h.1.1.2, pairedOk_of_wellFormed v h.1.2, pairedOkMembers_of_wellFormed kvs h.2, Bool.and_self]
end

mutual
theorem surrogatesOk_of_paired : (p : PVal) → pairedOk p = true → p.surrogatesOk = true
  | .null, _ => rfl
  | .bool _, _ => rfl
  | .num _, _ => rfl
  | .str raw _, h => by
    simp only [pairedOk] at h
    simp only [PVal.surrogatesOk]
    exact noLoneSurr_of_paired raw h
  | .arr xs, h => by
    simp only [pairedOk] at h
    simp only [PVal.surrogatesOk, surrogatesOkList_of_paired xs h]
  | .obj kvs, h => by
    simp only [pairedOk] at h
    simp only [PVal.surrogatesOk, surrogatesOkMembers_of_paired kvs h]
theorem surrogatesOkList_of_paired : (xs : List PVal) → pairedOkList xs = true → surrogatesOkList xs = true
  | [], _ => rfl
  | x :: xs, h => by
    simp only [pairedOkList, Bool.and_eq_true] at h
    simp only [surrogatesOkList, surrogatesOk_of_paired x h.1, surrogatesOkList_of_paired xs h.2, Bool.and_self]
theorem surrogatesOkMembers_of_paired : (kvs : List (Bytes × Bytes × PVal)) → pairedOkMembers kvs = true →
    surrogatesOkMembers kvs = true
  | [], _ => rfl
  | (raw, _, v) :: kvs, h => by
    simp only [pairedOkMembers, Bool.and_eq_true] at h
    simp only [surrogatesOkMembers, noLoneSurr_of_paired raw h.1.1,
      surrogatesOk_of_paired v h.1.2, surrogatesOkMembers_of_paired kvs h.2, Bool.and_self]
end
end

theorem surrogatesOk_of_wellFormed : (p : PVal) → p.wellFormed = true → p.surrogatesOk = true :=
  fun p h => surrogatesOk_of_paired p (pairedOk_of_wellFormed p h)
theorem surrogatesOkList_of_wellFormed : (xs : List PVal) → wellFormedList xs = true → surrogatesOkList xs = true :=
  fun xs h => surrogatesOkList_of_paired xs (pairedOkList_of_wellFormed xs h)
theorem surrogatesOkMembers_of_wellFormed : (kvs : List (Bytes × Bytes × PVal)) → wellFormedMembers kvs = true →
    surrogatesOkMembers kvs = true :=
  fun kvs h => surrogatesOkMembers_of_paired kvs (pairedOkMembers_of_wellFormed kvs h)

theorem numsOkMembers_eq_all (l : List (Bytes × JVal)) : numsOkMembers l = l.all (fun kv => kv.2.numsOk) := by
  induction l with
  | nil => rfl
  | cons x xs ih => obtain ⟨k, v⟩ := x; simp [numsOkMembers, ih]

theorem numsOk_sorted : (v : JVal) → v.numsOk = true → v.sorted.numsOk = true :=
  (numsOk_hered.map sorted_hmap (fun _ h => h) fun _ h => h).1
theorem numsOkList_sorted : (xs : List JVal) → numsOkList xs = true → numsOkList (sortedList xs) = true :=
  fun xs => numsOk_sorted (.arr xs)
theorem numsOkMembers_sorted : (kvs : List (Bytes × JVal)) → numsOkMembers kvs = true →
    numsOkMembers (sortedMembers kvs) = true :=
  (numsOk_hered.map sorted_hmap (fun _ h => h) fun _ h => h).2.2

theorem jNoDupMembers_all : ∀ l : List (Bytes × JVal), jNoDupMembers l = l.all (fun kv => kv.2.noDupKeys)
  | [] => rfl
  | (k, v) :: l => by simp [jNoDupMembers, jNoDupMembers_all l]

theorem sortedMembers_keys (kvs : List (Bytes × JVal)) : (sortedMembers kvs).map (·.1) = kvs.map (·.1) := by
  rw [sortedMembers_eq_map]; simp [Function.comp_def]

theorem noDupKeys_sorted : (v : JVal) → v.noDupKeys = true → v.sorted.noDupKeys = true :=
  (noDupKeys_hered.map sorted_hmap (fun p => p.nodup_iff.mp) fun _ h => h).1
theorem noDupKeys_sortedList : (xs : List JVal) → jNoDupList xs = true → jNoDupList (sortedList xs) = true :=
  fun xs => noDupKeys_sorted (.arr xs)
theorem noDupKeys_sortedMembers : (kvs : List (Bytes × JVal)) → jNoDupMembers kvs = true → jNoDupMembers (sortedMembers kvs) = true :=
  (noDupKeys_hered.map sorted_hmap (fun p => p.nodup_iff.mp) fun _ h => h).2.2

mutual
theorem sorted_idem : (v : JVal) → v.noDupKeys = true → v.sorted.sorted = v.sorted
  | .null, _ => rfl
  | .bool _, _ => rfl
  | .num _, _ => rfl
  | .str _, _ => rfl
  | .arr xs, h => by
    simp only [JVal.noDupKeys] at h
    simp only [JVal.sorted, sortedList_idem xs h]
  | .obj kvs, h => by
    simp only [JVal.noDupKeys, Bool.and_eq_true] at h
    have hn : NodupKeys (sortedMembers kvs) := by
      unfold NodupKeys; rw [sortedMembers_keys]; exact (noDupIn_iff_nodup _).mp h.1
    simp only [JVal.sorted]
    rw [sortedMembers_eq_map (sortByKey _),
      ← sortByKey_map (fun kv : Bytes × JVal => (kv.1, kv.2.sorted)) (fun _ => rfl),
      ← sortedMembers_eq_map, sortedMembers_idem kvs h.2, sortByKey_of_strict (sortByKey_strict hn)]
theorem sortedList_idem : (xs : List JVal) → jNoDupList xs = true → sortedList (sortedList xs) = sortedList xs
  | [], _ => rfl
  | x :: xs, h => by
    simp only [jNoDupList, Bool.and_eq_true] at h
    simp only [sortedList, sorted_idem x h.1, sortedList_idem xs h.2]
theorem sortedMembers_idem : (kvs : List (Bytes × JVal)) → jNoDupMembers kvs = true →
    sortedMembers (sortedMembers kvs) = sortedMembers kvs
  | [], _ => rfl
  | (k, v) :: kvs, h => by
    simp only [jNoDupMembers, Bool.and_eq_true] at h
    simp only [sortedMembers, sorted_idem v h.1, sortedMembers_idem kvs h.2]
end

theorem encodeCanon_sorted (v : JVal) (h : v.noDupKeys = true) : encodeCanon v.sorted = encodeCanon v := by
  unfold encodeCanon; rw [sorted_idem v h]

/-- The canonical bytes of a value are valid JSON denoting the same value (members sorted, `-0` as `0`). -/
theorem parse_encodeCanon (v : JVal) (hv : v.numsOk = true) :
    parse (encodeCanon v) = some (ofJVal v.sorted) ∧ (ofJVal v.sorted).toJVal = v.sorted.normNums :=
  ⟨parse_encode v.sorted (numsOk_sorted v hv), ofJVal_toJVal v.sorted⟩

/-- Different values (up to member order and `-0`) have different canonical bytes. -/
theorem encodeCanon_inj (v w : JVal) (hv : v.numsOk = true) (hw : w.numsOk = true)
    (h : encodeCanon v = encodeCanon w) : v.sorted.normNums = w.sorted.normNums := by
  have h1 := (parse_encodeCanon v hv).1
  have h2 := (parse_encodeCanon w hw).1
  rw [h, h2] at h1
  simp only [Option.some.injEq] at h1
  rw [← ofJVal_toJVal v.sorted, ← ofJVal_toJVal w.sorted, h1]

theorem canonical_encodeCanon (v : JVal) (hv : v.numsOk = true) (hd : v.noDupKeys = true) :
    canonical (encodeCanon v) = .ok (encodeCanon v) := by
  have h1 := (parse_encodeCanon v hv).1
  rw [canonical_of_parse h1 (ofJVal_surrogatesOk _), ofJVal_toJVal, encodeCanon_normNums, encodeCanon_sorted v hd]

end V.Json
