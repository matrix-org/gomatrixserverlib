/-
  The closure-based stages of the state-resolution model (`authClosure`, `fullAuthChain`, `reachFrom`,
  `conflictedSubgraph`, `controlClosure`) depend only on the SETS of events involved, never on list order:
  * the auth map enters only through `findByID` (and its length, as fuel): EQUALITIES under `MapEq`;
  * frontier / seen / state set enter only as sets: `SameSet` results.
-/
import VProofs.StateResStages
namespace V.StateRes

/-! ## the auth map enters only through lookups -/

theorem authParents_mapEq {am am' : List Event} (h : MapEq am am') : authParents am = authParents am' := by
  funext e; unfold authParents; rw [h.find_eq]

theorem authClosure_zero (am : List Event) (fr : List Event) (seen : List ID) : authClosure am 0 fr seen = seen := rfl

/-- the frontier of the next round -/
def nextFresh (am : List Event) (fr : List Event) (seen : List ID) : List Event :=
  (eventMapFromEvents (fr.map (authParents am)).flatten).filter (fun e => !seen.contains e.eventID)

theorem authClosure_succ (am : List Event) (fuel : Nat) (fr : List Event) (seen : List ID) :
    authClosure am (fuel + 1) fr seen =
      if (nextFresh am fr seen).isEmpty then seen
      else authClosure am fuel (nextFresh am fr seen) (seen ++ (nextFresh am fr seen).map (·.eventID)) := rfl

theorem nextFresh_mapEq {am am' : List Event} (h : MapEq am am') (fr : List Event) (seen : List ID) :
    nextFresh am fr seen = nextFresh am' fr seen := by
  unfold nextFresh; rw [authParents_mapEq h]

theorem authClosure_mapEq {am am' : List Event} (h : MapEq am am') (fuel : Nat) (fr : List Event) (seen : List ID) :
    authClosure am fuel fr seen = authClosure am' fuel fr seen := by
  induction fuel generalizing fr seen with
  | zero => rfl
  | succ n ih => rw [authClosure_succ, authClosure_succ, nextFresh_mapEq h, ih]

theorem fullAuthChain_mapEq {am am' : List Event} (h : MapEq am am') (s : List Event) :
    fullAuthChain am s = fullAuthChain am' s := by
  unfold fullAuthChain; rw [h.1, authClosure_mapEq h]

theorem reachFrom_mapEq {am am' : List Event} (h : MapEq am am') : reachFrom am = reachFrom am' := by
  funext e; unfold reachFrom; rw [h.1, authClosure_mapEq h]

theorem conflictedSubgraph_mapEq {am am' : List Event} (h : MapEq am am') (cids : List ID) (s : List Event) :
    conflictedSubgraph am cids s = conflictedSubgraph am' cids s := by
  unfold conflictedSubgraph; rw [reachFrom_mapEq h, h.find_eq]

theorem controlClosure_eq_authClosure (cm : List Event) (fuel : Nat) (fr : List Event) (seen : List ID) :
    controlClosure cm fuel fr seen = authClosure cm fuel fr seen := by
  induction fuel generalizing fr seen with
  | zero => rfl
  | succ n ih =>
    rw [authClosure_succ]
    show (if (nextFresh cm fr seen).isEmpty then seen
      else controlClosure cm n (nextFresh cm fr seen) (seen ++ (nextFresh cm fr seen).map (·.eventID))) = _
    rw [ih]

theorem controlClosure_mapEq {cm cm' : List Event} (h : MapEq cm cm') (fuel : Nat) (fr : List Event) (seen : List ID) :
    controlClosure cm fuel fr seen = controlClosure cm' fuel fr seen := by
  rw [controlClosure_eq_authClosure, controlClosure_eq_authClosure, authClosure_mapEq h]

/-! ## frontier / seen / state set enter only as sets -/

theorem mem_authParents {am : List Event} {e x : Event} :
    x ∈ authParents am e ↔ ∃ id ∈ e.authEventIDs, findByID am id = some x := by
  unfold authParents; rw [List.mem_filterMap]

theorem idsIn_of_lookups {am : List Event} {l : List Event} (h : ∀ x ∈ l, ∃ id, findByID am id = some x) : IdsIn l := by
  intro x y hx hy hxy
  obtain ⟨i, hi⟩ := h x hx
  obtain ⟨j, hj⟩ := h y hy
  have h1 := (findByID_some hi).2
  have h2 := (findByID_some hj).2
  have : i = j := by rw [← h1, ← h2, hxy]
  subst this
  rw [hi] at hj
  exact Option.some.inj hj

theorem parents_lookups (am : List Event) (fr : List Event) :
    ∀ x ∈ (fr.map (authParents am)).flatten, ∃ id, findByID am id = some x := by
  intro x hx
  obtain ⟨l, hl, hxl⟩ := List.mem_flatten.mp hx
  obtain ⟨e, _, rfl⟩ := List.mem_map.mp hl
  obtain ⟨id, _, hid⟩ := mem_authParents.mp hxl
  exact ⟨id, hid⟩

theorem parents_sameSet (am : List Event) {fr fr' : List Event} (hf : SameSet fr fr') :
    SameSet (fr.map (authParents am)).flatten (fr'.map (authParents am)).flatten := by
  rw [← List.flatMap_def, ← List.flatMap_def]; exact hf.flatMap _

theorem mem_nextFresh {am : List Event} {fr : List Event} {seen : List ID} {x : Event} :
    x ∈ nextFresh am fr seen ↔ x ∈ (fr.map (authParents am)).flatten ∧ x.eventID ∉ seen := by
  unfold nextFresh
  rw [List.mem_filter, eventMap_sameSet (idsIn_of_lookups (parents_lookups am fr)) x]
  simp

theorem nextFresh_sameSet (am : List Event) {fr fr' : List Event} {seen seen' : List ID}
    (hf : SameSet fr fr') (hs : SameSet seen seen') : SameSet (nextFresh am fr seen) (nextFresh am fr' seen') := by
  intro x
  rw [mem_nextFresh, mem_nextFresh, parents_sameSet am hf x, hs x.eventID]

theorem authClosure_sameSet (am : List Event) (fuel : Nat) {fr fr' : List Event} {seen seen' : List ID}
    (hf : SameSet fr fr') (hs : SameSet seen seen') :
    SameSet (authClosure am fuel fr seen) (authClosure am fuel fr' seen') := by
  induction fuel generalizing fr fr' seen seen' with
  | zero => exact hs
  | succ n ih =>
    have hn := nextFresh_sameSet am hf hs
    rw [authClosure_succ, authClosure_succ, hn.isEmpty]
    split
    · exact hs
    · exact ih hn (hs.append (hn.map _))

theorem fullAuthChain_sameSet (am : List Event) {s s' : List Event} (h : SameSet s s') :
    SameSet (fullAuthChain am s) (fullAuthChain am s') :=
  authClosure_sameSet am _ h (SameSet.refl _)

theorem controlClosure_sameSet (cm : List Event) (fuel : Nat) {fr fr' : List Event} {seen seen' : List ID}
    (hf : SameSet fr fr') (hs : SameSet seen seen') :
    SameSet (controlClosure cm fuel fr seen) (controlClosure cm fuel fr' seen') := by
  rw [controlClosure_eq_authClosure, controlClosure_eq_authClosure]
  exact authClosure_sameSet cm fuel hf hs

/-- the candidate list of `conflictedSubgraph` before deduplication -/
def subgraphCand (am : List Event) (origins : List Event) : List Event :=
  origins ++ ((origins.map (reachFrom am)).flatten.filterMap (findByID am))

theorem conflictedSubgraph_eq (am : List Event) (cids : List ID) (s : List Event) :
    conflictedSubgraph am cids s =
      ((eventMapFromEvents (subgraphCand am (s.filter (fun e => cids.contains e.eventID)))).filter
        (fun x => (reachFrom am x).any (fun id => cids.contains id))).map (·.eventID) := rfl

theorem subgraphCand_sub {am origins : List Event} {x : Event} (h : x ∈ subgraphCand am origins) : x ∈ origins ∨ x ∈ am := by
  unfold subgraphCand at h
  rcases List.mem_append.mp h with h | h
  · exact Or.inl h
  · obtain ⟨id, _, hid⟩ := List.mem_filterMap.mp h
    exact Or.inr (findByID_some hid).1

theorem subgraphCand_sameSet (am : List Event) {o o' : List Event} (h : SameSet o o') :
    SameSet (subgraphCand am o) (subgraphCand am o') := by
  unfold subgraphCand
  refine h.append (SameSet.filterMap _ ?_)
  rw [← List.flatMap_def, ← List.flatMap_def]; exact h.flatMap _

theorem conflictedSubgraph_sameSet {U : Event → Prop} (hU : EvId U) (am : List Event) {cids cids' : List ID} {s s' : List Event}
    (hs : ∀ x ∈ s, U x) (ham : ∀ x ∈ am, U x) (hc : SameSet cids cids') (h : SameSet s s') :
    SameSet (conflictedSubgraph am cids s) (conflictedSubgraph am cids' s') := by
  rw [conflictedSubgraph_eq, conflictedSubgraph_eq]
  have hcc : (fun id => cids.contains id) = (fun id => cids'.contains id) := funext (fun id => hc.contains id)
  have hce : (fun (e : Event) => cids.contains e.eventID) = (fun e => cids'.contains e.eventID) :=
    funext (fun e => hc.contains e.eventID)
  rw [hcc, hce]
  have ho : SameSet (s.filter (fun e => cids'.contains e.eventID)) (s'.filter (fun e => cids'.contains e.eventID)) := h.filter _
  refine SameSet.map _ (SameSet.filter _ (SameSet.of_perm (eventMap_perm hU (fun x hx => ?_) (subgraphCand_sameSet am ho))))
  exact (subgraphCand_sub hx).elim (fun h' => hs x (List.mem_filter.mp h').1) (ham x)

def interIDs : List (List ID) → List ID
  | [] => []
  | c :: cs => c.filter (fun id => cs.all (fun d => d.contains id))

def diffIDs (chains : List (List ID)) : List ID :=
  (chains.foldl unionIDs []).filter (fun id => !(interIDs chains).contains id)

def subIDs (algo : Nat) (am : List Event) (cids : List ID) (sets : List (List Event)) : List ID :=
  if algo == 3 then (sets.map (conflictedSubgraph am cids)).foldl unionIDs [] else []

theorem authDifferenceNew_eq (algo : Nat) (am c : List Event) (sets : List (List Event)) :
    authDifferenceNew algo am c sets =
      (unionIDs (diffIDs (sets.map (fullAuthChain am))) (subIDs algo am (c.map (·.eventID)) sets)).filterMap
        (lookupAny am c) := rfl

theorem mem_interIDs {chains : List (List ID)} {id : ID} :
    id ∈ interIDs chains ↔ chains ≠ [] ∧ ∀ ch ∈ chains, id ∈ ch := by
  cases chains with
  | nil => simp [interIDs]
  | cons c cs => simp [interIDs, List.mem_filter, List.all_eq_true]

theorem mem_diffIDs {chains : List (List ID)} {id : ID} :
    id ∈ diffIDs chains ↔ (∃ ch ∈ chains, id ∈ ch) ∧ ¬ ∀ ch ∈ chains, id ∈ ch := by
  unfold diffIDs
  rw [List.mem_filter, mem_foldl_unionIDs, not_contains_iff, mem_interIDs]
  simp only [List.not_mem_nil, false_or, not_and]
  constructor
  · rintro ⟨⟨ch, hch, hid⟩, hn⟩
    exact ⟨⟨ch, hch, hid⟩, hn (List.ne_nil_of_mem hch)⟩
  · rintro ⟨hex, hn⟩
    exact ⟨hex, fun _ => hn⟩

theorem mem_subIDs {algo : Nat} {am : List Event} {cids : List ID} {sets : List (List Event)} {id : ID} :
    id ∈ subIDs algo am cids sets ↔ algo = 3 ∧ ∃ s ∈ sets, id ∈ conflictedSubgraph am cids s := by
  unfold subIDs
  by_cases ha : algo = 3
  · subst ha
    simp only [beq_self_eq_true, if_true, true_and, mem_foldl_unionIDs, List.not_mem_nil, false_or, List.mem_map]
    constructor
    · rintro ⟨l, ⟨s, hs, rfl⟩, hid⟩; exact ⟨s, hs, hid⟩
    · rintro ⟨s, hs, hid⟩; exact ⟨_, ⟨s, hs, rfl⟩, hid⟩
  · have : (algo == 3) = false := by simpa using ha
    simp [this, ha]

theorem authDifferenceNew_mapEq (algo : Nat) {am am' : List Event} (hm : MapEq am am') (c : List Event)
    (sets : List (List Event)) : authDifferenceNew algo am c sets = authDifferenceNew algo am' c sets := by
  rw [authDifferenceNew_eq, authDifferenceNew_eq]
  have h1 : fullAuthChain am = fullAuthChain am' := funext (fullAuthChain_mapEq hm)
  have h2 : conflictedSubgraph am (c.map (·.eventID)) = conflictedSubgraph am' (c.map (·.eventID)) :=
    funext (conflictedSubgraph_mapEq hm _)
  unfold subIDs
  rw [h1, h2, lookupAny_congr hm.find_eq rfl]

theorem mem_diffIDs_map {f : List Event → List ID} {sets : List (List Event)} {id : ID} :
    id ∈ diffIDs (sets.map f) ↔ (∃ s ∈ sets, id ∈ f s) ∧ ¬ ∀ s ∈ sets, id ∈ f s := by
  simp only [mem_diffIDs, List.mem_map, forall_exists_index, and_imp, forall_apply_eq_imp_iff₂]
  exact and_congr_left' ⟨fun ⟨_, ⟨s, hs, e⟩, h⟩ => ⟨s, hs, e ▸ h⟩, fun ⟨s, hs, h⟩ => ⟨_, ⟨s, hs, rfl⟩, h⟩⟩

theorem authDifferenceNew_congr {U : Event → Prop} (hU : EvId U) (algo : Nat) {am am' c c' : List Event}
    {sets sets' : List (List Event)}
    (hsets : ∀ s ∈ sets, ∀ x ∈ s, U x) (ham : ∀ x ∈ am, U x)
    (hcU : ∀ x ∈ c, U x)
    (hm : MapEq am am') (hc : SameSet c c') (hs : SetsSim sets sets') :
    SameSet (authDifferenceNew algo am c sets) (authDifferenceNew algo am' c' sets') := by
  rw [← authDifferenceNew_mapEq algo hm c' sets', authDifferenceNew_eq, authDifferenceNew_eq,
    ← lookupAny_congr rfl (funext (findByID_congr hU hcU hc))]
  refine SameSet.filterMap _ fun id => ?_
  rw [mem_unionIDs, mem_unionIDs, mem_diffIDs_map, mem_diffIDs_map, mem_subIDs, mem_subIDs]
  have hch : ∀ s ∈ sets, ∀ s' ∈ sets', SameSet s s' → (id ∈ fullAuthChain am s ↔ id ∈ fullAuthChain am s') :=
    fun _ _ _ _ e => fullAuthChain_sameSet am e id
  exact or_congr (and_congr (hs.exists_congr hch) (not_congr (hs.forall_congr hch)))
    (and_congr_right' (hs.exists_congr fun s h1 _ _ e =>
      conflictedSubgraph_sameSet hU am (hsets s h1) ham (hc.map _) e id))

theorem mem_authDifferenceNew_sub {algo : Nat} {am c : List Event} {sets : List (List Event)} {e : Event}
    (h : e ∈ authDifferenceNew algo am c sets) : e ∈ am ∨ e ∈ c := by
  rw [authDifferenceNew_eq] at h
  obtain ⟨id, _, hid⟩ := List.mem_filterMap.mp h
  exact mem_of_lookupAny hid

theorem conflictedSubgraph_nil (am : List Event) (s : List Event) : conflictedSubgraph am [] s = [] := by
  rw [conflictedSubgraph_eq]
  have : s.filter (fun e => ([] : List ID).contains e.eventID) = [] := by simp
  rw [this]
  rfl

theorem authDifferenceNew_all_equal (algo : Nat) (am : List Event) (sets : List (List Event))
    (h : ∀ s ∈ sets, ∀ s' ∈ sets, SameSet s s') : authDifferenceNew algo am [] sets = [] := by
  rw [authDifferenceNew_eq]
  have hids : unionIDs (diffIDs (sets.map (fullAuthChain am))) (subIDs algo am (([] : List Event).map (·.eventID)) sets) = [] := by
    rw [List.eq_nil_iff_forall_not_mem]
    intro id hid
    rcases mem_unionIDs.mp hid with hid | hid
    · obtain ⟨⟨ch, hch, hmem⟩, hn⟩ := mem_diffIDs.mp hid
      apply hn
      intro d hd
      obtain ⟨s, hs, rfl⟩ := List.mem_map.mp hch
      obtain ⟨s', hs', rfl⟩ := List.mem_map.mp hd
      exact (fullAuthChain_sameSet am (h s hs s' hs') id).mp hmem
    · obtain ⟨_, s, _, hmem⟩ := mem_subIDs.mp hid
      rw [List.map_nil, conflictedSubgraph_nil] at hmem
      cases hmem
  rw [hids]; rfl

/-! ## what the closure contains: bounds on `authClosure` -/

theorem authClosure_sub {am : List Event} {fuel : Nat} {fr : List Event} {seen : List ID} {id : ID}
    (h : id ∈ authClosure am fuel fr seen) : id ∈ seen ∨ ∃ e ∈ am, e.eventID = id := by
  induction fuel generalizing fr seen with
  | zero => exact Or.inl h
  | succ n ih =>
    rw [authClosure_succ] at h
    split at h
    · exact Or.inl h
    · rcases ih h with h' | h'
      · rcases List.mem_append.mp h' with h'' | h''
        · exact Or.inl h''
        · obtain ⟨x, hx, rfl⟩ := List.mem_map.mp h''
          obtain ⟨i, hi⟩ := parents_lookups am fr x (mem_nextFresh.mp hx).1
          exact Or.inr ⟨x, (findByID_some hi).1, rfl⟩
      · exact Or.inr h'

theorem authClosure_nodup {am : List Event} {fuel : Nat} {fr : List Event} {seen : List ID} (h : seen.Nodup) :
    (authClosure am fuel fr seen).Nodup := by
  induction fuel generalizing fr seen with
  | zero => exact h
  | succ n ih =>
    rw [authClosure_succ]
    split
    · exact h
    · apply ih
      rw [List.nodup_append]
      refine ⟨h, (eventMap_idNodup _).filter _, ?_⟩
      intro a ha b hb hab
      obtain ⟨x, hx, rfl⟩ := List.mem_map.mp hb
      exact (mem_nextFresh.mp hx).2 (hab ▸ ha)

theorem authClosure_seen_sub {am : List Event} {fuel : Nat} {fr : List Event} {seen : List ID} {id : ID}
    (h : id ∈ seen) : id ∈ authClosure am fuel fr seen := by
  induction fuel generalizing fr seen with
  | zero => exact h
  | succ n ih =>
    rw [authClosure_succ]
    split
    · exact h
    · exact ih (List.mem_append_left _ h)

theorem controlClosure_sub {cm : List Event} {fuel : Nat} {fr : List Event} {seen : List ID} {id : ID}
    (h : id ∈ controlClosure cm fuel fr seen) : id ∈ seen ∨ ∃ e ∈ cm, e.eventID = id := by
  rw [controlClosure_eq_authClosure] at h; exact authClosure_sub h

theorem controlClosure_nodup {cm : List Event} {fuel : Nat} {fr : List Event} {seen : List ID} (h : seen.Nodup) :
    (controlClosure cm fuel fr seen).Nodup := by
  rw [controlClosure_eq_authClosure]; exact authClosure_nodup h

theorem controlClosure_seen_sub {cm : List Event} {fuel : Nat} {fr : List Event} {seen : List ID} {id : ID}
    (h : id ∈ seen) : id ∈ controlClosure cm fuel fr seen := by
  rw [controlClosure_eq_authClosure]; exact authClosure_seen_sub h

end V.StateRes
