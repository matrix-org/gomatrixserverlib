/-
  C10, the EXECUTABLE rendering of the definition (`VModel/StateResSpecExec.lean`) against the Prop-level definition
  (`VModel/StateResSpec.lean`): the mainline (`mainlineOf`, `mainline`), position / steps (`walk`, `posSteps`),
  the mainline ordering (`mainlineOrder`) and the partial state as an association list (`AMap`) against the map `SMap`
  (`applyOneA`, `authStepA` and their folds).
-/
import VProofs.StateResSpecExecSets
import VProofs.StateResSpecMainline
import VProofs.StateResSpecState
namespace V.StateResSpec.Exec
open Auth
open V.StateRes (ID OtherKey otherLt insertBy sortBy otherLt_strictTotal)

variable {m ml : List Event}

theorem mainlineOf_zero (m : List Event) (ps : List Event) : mainlineOf m 0 ps = [] := by
  unfold mainlineOf; rfl

theorem mainlineOf_succ (m : List Event) (n : Nat) (ps : List Event) :
    mainlineOf m (n + 1) ps = ps.foldr (fun p acc => acc ++ (mainlineOf m n (plParents m p) ++ [p])) [] := by
  rw [mainlineOf]

theorem mainlineOf_fold {n : Nat}
    (ih : ∀ ps, (∀ p ∈ ps, DepthLE m p n) → MainlineOf m ps (mainlineOf m n ps)) :
    ∀ ps : List Event, (∀ p ∈ ps, DepthLE m p (n + 1)) →
      MainlineOf m ps (ps.foldr (fun p acc => acc ++ (mainlineOf m n (plParents m p) ++ [p])) [])
  | [], _ => .nil
  | p :: ps, hd => by
    rw [List.foldr_cons]
    exact .cons (ih _ (hd p List.mem_cons_self).parents)
      (mainlineOf_fold ih ps (fun q hq => hd q (List.mem_cons_of_mem _ hq)))

theorem mainlineOf_spec : ∀ (n : Nat) (ps : List Event), (∀ p ∈ ps, DepthLE m p n) →
    MainlineOf m ps (mainlineOf m n ps) := by
  intro n
  induction n with
  | zero =>
    intro ps hd
    cases ps with
    | nil => rw [mainlineOf_zero]; exact .nil
    | cons p ps => exact (hd p List.mem_cons_self).not_zero.elim
  | succ n ih =>
    intro ps hd
    rw [mainlineOf_succ]
    exact mainlineOf_fold ih ps hd

theorem mainline_is_mainline (hac : Acyclic (· ∈ m)) (pl : Option Event) : IsMainline m pl (mainline m pl) := by
  cases pl with
  | none => rfl
  | some e =>
    show MainlineOf m [e] (mainlineOf m (m.length + 3) [e])
    apply mainlineOf_spec
    intro p hp
    rw [List.mem_singleton.mp hp]
    exact (depthLE_of_acyclic hac e).mono (by omega)

theorem mainline_unique (hac : Acyclic (· ∈ m)) {pl : Option Event} {l : List Event} (h : IsMainline m pl l) :
    l = mainline m pl := IsMainline.unique h (mainline_is_mainline hac pl)

theorem walk_zero (m ml : List Event) (ps : List Event) (st : Nat × Nat) : walk m ml 0 ps st = st := by
  unfold walk; rfl

theorem walk_succ (m ml : List Event) (n : Nat) (ps : List Event) (st : Nat × Nat) :
    walk m ml (n + 1) ps st = walkList m ml (walk m ml n) ps st := by
  rw [walk]

theorem walkList_spec {n : Nat}
    (ih : ∀ ps st, (∀ p ∈ ps, DepthLE m p n) → Walk m ml ps st (walk m ml n ps st)) :
    ∀ (ps : List Event) (st : Nat × Nat), (∀ p ∈ ps, DepthLE m p (n + 1)) →
      Walk m ml ps st (walkList m ml (walk m ml n) ps st)
  | [], st, _ => by rw [walkList]; exact .nil
  | p :: rest, st, hd => by
    rw [walkList]
    cases hpos : posOf ml p.eventID with
    | some pos => exact .hit hpos
    | none =>
      exact .miss hpos (ih _ _ (hd p List.mem_cons_self).parents)
        (walkList_spec ih rest _ (fun q hq => hd q (List.mem_cons_of_mem _ hq)))

theorem walk_spec : ∀ (n : Nat) (ps : List Event) (st : Nat × Nat), (∀ p ∈ ps, DepthLE m p n) →
    Walk m ml ps st (walk m ml n ps st) := by
  intro n
  induction n with
  | zero =>
    intro ps st hd
    cases ps with
    | nil => rw [walk_zero]; exact .nil
    | cons p ps => exact (hd p List.mem_cons_self).not_zero.elim
  | succ n ih =>
    intro ps st hd
    rw [walk_succ]
    exact walkList_spec ih ps st hd

theorem posSteps_spec (hac : Acyclic (· ∈ m)) (e : Event) : MainlinePosSteps m ml e (posSteps m ml e) := by
  show Walk m ml (plParents m e) (0, 0) (walk m ml (m.length + 3) (plParents m e) (0, 0))
  apply walk_spec
  intro p hp
  exact ((depthLE_of_acyclic hac e).parents p hp).mono (by omega)

theorem posSteps_unique (hac : Acyclic (· ∈ m)) {e : Event} {r : Nat × Nat} (h : MainlinePosSteps m ml e r) :
    r = posSteps m ml e := MainlinePosSteps.unique h (posSteps_spec hac e)

theorem insertSortedK_eq (x : Event × OtherKey) : ∀ l : List (Event × OtherKey),
    insertSortedK x l = insertBy (fun a b => otherLt a.2 b.2) x l
  | [] => rfl
  | y :: ys => by
    rw [insertSortedK, insertBy, insertSortedK_eq x ys]

theorem foldr_insertSortedK : ∀ l : List (Event × OtherKey),
    l.foldr insertSortedK [] = sortBy (fun a b => otherLt a.2 b.2) l
  | [] => rfl
  | x :: xs => by
    rw [List.foldr_cons, foldr_insertSortedK xs, insertSortedK_eq, sortBy]

theorem mainlineOrder_spec (hac : Acyclic (· ∈ m)) (ml input : List Event) :
    IsMainlineOrder m ml input (mainlineOrder m ml input) := by
  unfold mainlineOrder
  rw [foldr_insertSortedK]
  exact ⟨V.StateRes.sortOn_perm otherLt _ input, fun e => otherKeyOf e (posSteps m ml e),
    fun e _ => ⟨_, posSteps_spec hac e, rfl⟩, V.StateRes.sortOn_sorted _ otherLt_strictTotal input⟩

theorem mainlineOrder_unique (hac : Acyclic (· ∈ m)) {ml input out : List Event}
    (hid : ∀ a ∈ input, ∀ b ∈ input, a.eventID = b.eventID → a = b) (h : IsMainlineOrder m ml input out) :
    out = mainlineOrder m ml input :=
  IsMainlineOrder.unique hid h (mainlineOrder_spec hac ml input)

theorem AMap.toSMap_nil : AMap.toSMap [] = SMap.empty := rfl

/-- `AMap.get` is `Assoc.lookup`, `AMap.set` is `Assoc.put`, both by definition -/
theorem AMap.toSMap_set (s : AMap) (k : Key) (e : Event) : (s.set k e).toSMap = s.toSMap.set k e :=
  funext fun k' => (Assoc.lookup_put s k e k').trans (Assoc.ite_beq _ _ _ _)

theorem applyOneA_toSMap (s : AMap) (e : Event) : (applyOneA s e).toSMap = applyOne s.toSMap e := by
  unfold applyOneA applyOne
  cases keyOf e with
  | none => rfl
  | some k => exact AMap.toSMap_set s k e

theorem applyOneA_keysNodup {s : AMap} (h : KeysNodup s) (e : Event) : KeysNodup (applyOneA s e) := by
  unfold applyOneA
  cases keyOf e with
  | none => exact h
  | some k => exact Assoc.nodup_keys_put h k e

theorem authStepA_toSMap (m : List Event) (rej : List ID) (s : AMap) (e : Event) :
    (authStepA m rej s e).toSMap = authStep m rej s.toSMap e := by
  unfold authStepA authStep
  cases allowedFresh e (Provider.ofEvents (providerEvents m rej s.toSMap e)) false with
  | ok => exact applyOneA_toSMap s e
  | _ => rfl

theorem authStepA_keysNodup (m : List Event) (rej : List ID) {s : AMap} (h : KeysNodup s) (e : Event) :
    KeysNodup (authStepA m rej s e) := by
  unfold authStepA
  cases allowedFresh e (Provider.ofEvents (providerEvents m rej s.toSMap e)) false with
  | ok => exact applyOneA_keysNodup h e
  | _ => exact h

theorem foldl_applyOneA_toSMap (l : List Event) (s : AMap) : (l.foldl applyOneA s).toSMap = applyAll s.toSMap l :=
  (List.foldl_hom AMap.toSMap fun s e => (applyOneA_toSMap s e).symm).symm

theorem foldl_authStepA_toSMap (m : List Event) (rej : List ID) (l : List Event) (s : AMap) :
    (l.foldl (authStepA m rej) s).toSMap = iterAuth m rej s.toSMap l :=
  (List.foldl_hom AMap.toSMap fun s e => (authStepA_toSMap m rej s e).symm).symm

theorem foldl_applyOneA_keysNodup (l : List Event) {s : AMap} (h : KeysNodup s) : KeysNodup (l.foldl applyOneA s) :=
  List.foldlRecOn l applyOneA h fun _ hs e _ => applyOneA_keysNodup hs e

theorem foldl_authStepA_keysNodup (m : List Event) (rej : List ID) (l : List Event) {s : AMap} (h : KeysNodup s) :
    KeysNodup (l.foldl (authStepA m rej) s) :=
  List.foldlRecOn l (authStepA m rej) h fun _ hs e _ => authStepA_keysNodup m rej hs e

end V.StateResSpec.Exec
