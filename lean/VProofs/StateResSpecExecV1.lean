/-
  C10, version 1: the executable rendering `Exec.v1Resolve` (VModel/StateResSpecExec.lean) satisfies the definition
  `V1Resolves`; no hypotheses.
-/
import VModel.StateResSpecExec
import VProofs.StateResSort
import VProofs.StateResSpecSplit
namespace V.StateResSpec
open V.StateRes

theorem isNormalWinner_iff {valid : Bool} {s : V1State} {c0 w : Event} {rest : List Event} :
    IsNormalWinner valid s (c0 :: rest) w ↔ w = (rest.reverse.find? (fun e => v1Allowed s valid e)).getD c0 := by
  constructor
  · rintro ⟨c0', rest', hs, h⟩
    obtain ⟨rfl, rfl⟩ := List.cons.inj hs
    rcases h with h | ⟨h, rfl⟩
    · rw [Lists.find?_reverse_some_iff.mpr h]; rfl
    · rw [Lists.find?_reverse_none_iff.mpr h]; rfl
  · rintro rfl
    refine ⟨c0, rest, rfl, ?_⟩
    cases hf : rest.reverse.find? (fun e => v1Allowed s valid e) with
    | some w => exact Or.inl (Lists.find?_reverse_some_iff.mp hf)
    | none => exact Or.inr ⟨Lists.find?_reverse_none_iff.mp hf, rfl⟩

theorem phaseBlocks_ne_nil (evs : List Event) (p : Nat) : ∀ b ∈ phaseBlocks evs p, b ≠ [] := by
  intro b hb
  unfold phaseBlocks at hb
  obtain ⟨k, hk, rfl⟩ := List.mem_map.mp hb
  exact candidates_ne_nil (List.mem_filter.mp hk).1

end V.StateResSpec

namespace V.StateResSpec.Exec
open V.StateRes (ID V1State v1Allowed v1Lt insertBy sortBy sortBy_perm sortBy_sorted v1Lt_strictTotal)

theorem insertV1_eq (sha : ID → Bytes) (x : Event) : ∀ l : List Event,
    insertV1 sha x l = insertBy (fun a b => v1Lt (v1Key sha a) (v1Key sha b)) x l
  | [] => rfl
  | y :: ys => by
    unfold insertV1 insertBy
    rw [insertV1_eq sha x ys]

theorem v1Order_eq (sha : ID → Bytes) : ∀ block : List Event,
    v1Order sha block = sortBy (fun a b => v1Lt (v1Key sha a) (v1Key sha b)) block
  | [] => rfl
  | x :: xs => by
    have ih := v1Order_eq sha xs
    unfold v1Order at ih ⊢
    rw [List.foldr_cons, ih, insertV1_eq]
    rfl

theorem v1Order_isV1Order (sha : ID → Bytes) (block : List Event) : IsV1Order sha block (v1Order sha block) := by
  rw [v1Order_eq]
  exact ⟨sortBy_perm _ block, sortBy_sorted (v1Key sha) v1Lt_strictTotal block⟩

theorem v1Order_nil_iff (sha : ID → Bytes) (block : List Event) : v1Order sha block = [] ↔ block = [] :=
  ⟨fun h => List.Perm.eq_nil (h ▸ (v1Order_isV1Order sha block).1.symm), fun h => by rw [h]; rfl⟩

theorem authBlockRun_spec (valid : Bool) : ∀ (rest : List Event) (s : V1State) (w : Event),
    AuthBlockRun valid s w rest (authBlockRun valid s w rest).1 (authBlockRun valid s w rest).2
  | [], s, w => by unfold authBlockRun; exact AuthBlockRun.done
  | e :: more, s, w => by
    unfold authBlockRun
    cases h : v1Allowed s valid e with
    | true =>
      simp only [if_true]
      exact AuthBlockRun.next h (authBlockRun_spec valid more (s.addAuthEvent e) e)
    | false =>
      simp only [Bool.false_eq_true, if_false]
      exact AuthBlockRun.stop h

theorem phaseRun_spec (sha : ID → Bytes) (valid : Bool) : ∀ (blocks : List (List Event)) (s : V1State),
    PhaseRun sha valid s blocks (phaseRun sha valid s blocks).1 (phaseRun sha valid s blocks).2
  | [], s => by unfold phaseRun; exact PhaseRun.nil
  | block :: blocks, s => by
    unfold phaseRun
    cases ho : v1Order sha block with
    | nil =>
      have hb : block = [] := (v1Order_nil_iff sha block).mp ho
      subst hb
      exact PhaseRun.skip (phaseRun_spec sha valid blocks s)
    | cons c0 rest =>
      simp only
      exact PhaseRun.block (ho ▸ v1Order_isV1Order sha block) (authBlockRun_spec valid rest (s.addAuthEvent c0) c0)
        (phaseRun_spec sha valid blocks _)

theorem normalWinner_spec (valid : Bool) (s : V1State) {sorted : List Event} (hne : sorted ≠ []) :
    ∃ w, normalWinner valid s sorted = some w ∧ IsNormalWinner valid s sorted w := by
  cases sorted with
  | nil => exact absurd rfl hne
  | cons c0 rest => exact ⟨_, rfl, isNormalWinner_iff.mpr (congrArg (·.getD c0) List.getLast?_filter)⟩

theorem normalRun_spec (sha : ID → Bytes) (valid : Bool) (s : V1State) : ∀ (blocks : List (List Event)), (∀ b ∈ blocks, b ≠ []) →
    NormalRun sha valid s blocks (blocks.filterMap (fun b => normalWinner valid s (v1Order sha b)))
  | [], _ => NormalRun.nil
  | b :: bs, hne => by
    have hb : v1Order sha b ≠ [] := fun h => hne b List.mem_cons_self ((v1Order_nil_iff sha b).mp h)
    obtain ⟨w, hw, hwin⟩ := normalWinner_spec valid s hb
    rw [List.filterMap_cons, hw]
    exact NormalRun.cons (v1Order_isV1Order sha b) hwin (normalRun_spec sha valid s bs (fun b' hb' => hne b' (List.mem_cons_of_mem _ hb')))

theorem sameRoom_iff (auth : List Event) : sameRoom auth = true ↔ SameRoom auth := by
  unfold sameRoom SameRoom
  simp only [List.all_eq_true, beq_iff_eq]

theorem v1Resolve_resolves (sha : ID → Bytes) (conflicted auth : List Event) :
    V1Resolves sha conflicted auth (v1Resolve sha conflicted auth) := by
  refine ⟨sameRoom auth, _, _, _, _, _, _, _, _, _, _, _, (sameRoom_iff auth),
    phaseRun_spec sha _ (phaseBlocks conflicted 0) _,
    phaseRun_spec sha _ (phaseBlocks conflicted 1) _,
    phaseRun_spec sha _ (phaseBlocks conflicted 2) _,
    phaseRun_spec sha _ (phaseBlocks conflicted 3) _,
    phaseRun_spec sha _ (phaseBlocks conflicted 4) _,
    normalRun_spec sha _ _ (phaseBlocks conflicted 5) (phaseBlocks_ne_nil conflicted 5), rfl⟩

end V.StateResSpec.Exec
