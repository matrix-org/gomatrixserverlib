/-
  Version 1 state resolution, permutation invariance: the result of `resolveV1` does not depend on the order of the conflicted events
  nor on the order / multiplicity of the supplied auth events (`v1_perm_invariant`).
-/
import VProofs.StateResV1e
import VProofs.AuthNeededProviders
namespace V.StateRes
open List

/-! ## the blocks of one phase for two arrangements of the conflicted events -/

theorem phaseBlocks_eq (conflicted : List Event) (p : Bytes × Bytes → Bool) :
    phaseBlocks conflicted p =
      (((groupByKey conflicted).map (·.1)).filter p).map (fun K => conflicted.filter (hasKey K)) := by
  unfold phaseBlocks
  rw [List.filter_map, List.map_map]
  apply List.map_congr_left
  intro g hg
  exact (groupByKey_group (List.mem_filter.mp hg).1).1

theorem eachPerm_map {α} {F F' : α → List Event} {L : List α} (h : ∀ x ∈ L, F x ~ F' x) : EachPerm (L.map F) (L.map F') := by
  induction L with
  | nil => exact .nil
  | cons x xs ih =>
    exact .cons (h x List.mem_cons_self) (ih (fun y hy => h y (List.mem_cons_of_mem _ hy)))

theorem phaseBlocks_equiv {conflicted conflicted' : List Event} (hc : conflicted ~ conflicted') (p : Bytes × Bytes → Bool) :
    SetsEquiv (phaseBlocks conflicted p) (phaseBlocks conflicted' p) := by
  rw [phaseBlocks_eq, phaseBlocks_eq]
  refine ⟨(((groupByKey conflicted').map (·.1)).filter p).map (fun K => conflicted.filter (hasKey K)), ?_, ?_⟩
  · exact ((groupByKey_perm_keys hc).filter p).map _
  · exact eachPerm_map (fun K _ => hc.filter _)

/-! the blocks of a phase are `K ↦ conflicted.filter (hasKey K)` over a duplicate-free list of keys (`phaseBlocks_eq`): what
  `blocks_order_eqv` asks of the blocks follows from that shape -/

theorem keyOf_of_mem_keyBlock {conflicted : List Event} {K : Bytes × Bytes} {e : Event} (h : e ∈ conflicted.filter (hasKey K)) :
    e ∈ conflicted ∧ e.stateKey.isSome ∧ keyOf e = K :=
  ⟨(List.mem_filter.mp h).1, hasKey_iff_keyOf.mp (List.mem_filter.mp h).2⟩

theorem keyBlocks_slots (conflicted : List Event) (Ks : List (Bytes × Bytes)) :
    BlocksSlots (Ks.map (fun K => conflicted.filter (hasKey K))) := by
  intro b hb
  obtain ⟨K, _, rfl⟩ := List.mem_map.mp hb
  exact ⟨K, fun e he => (keyOf_of_mem_keyBlock he).2.2⟩

theorem keyBlocks_dist (conflicted : List Event) {Ks : List (Bytes × Bytes)} (h : Ks.Nodup) :
    (Ks.map (fun K => conflicted.filter (hasKey K))).Pairwise (fun b1 b2 => ∀ e1 ∈ b1, ∀ e2 ∈ b2, keyOf e1 ≠ keyOf e2) := by
  rw [List.pairwise_map]
  refine List.Pairwise.imp ?_ h
  intro K K' hne e1 h1 e2 h2 heq
  exact hne ((keyOf_of_mem_keyBlock h1).2.2.symm.trans (heq.trans (keyOf_of_mem_keyBlock h2).2.2))

/-- (P3) candidates for one slot are told apart by (depth, sha1 of the event ID) -/
def CandInj (sha : ID → Bytes) (conflicted : List Event) : Prop :=
  ∀ a ∈ conflicted, ∀ b ∈ conflicted, a.stateKey.isSome → b.stateKey.isSome → keyOf a = keyOf b →
    a.depth = b.depth → sha a.eventID = sha b.eventID → a = b

theorem keyBlocks_inj {sha : ID → Bytes} {conflicted : List Event} (h : CandInj sha conflicted) (Ks : List (Bytes × Bytes)) :
    ∀ b ∈ Ks.map (fun K => conflicted.filter (hasKey K)), ∀ x ∈ b, ∀ y ∈ b,
      x.depth = y.depth → sha x.eventID = sha y.eventID → x = y := by
  intro b hb x hx y hy hd hs
  obtain ⟨K, _, rfl⟩ := List.mem_map.mp hb
  obtain ⟨x1, x2, x3⟩ := keyOf_of_mem_keyBlock hx
  obtain ⟨y1, y2, y3⟩ := keyOf_of_mem_keyBlock hy
  exact h x x1 y y1 x2 y2 (x3.trans y3.symm) hd hs

theorem phase_perm (sha : ID → Bytes) (valid : Bool) {s s' : V1State} {conflicted conflicted' : List Event}
    (p : Bytes × Bytes → Bool) (h : s.Eqv s') (hc : conflicted ~ conflicted') (hinj : CandInj sha conflicted) :
    (phaseRun sha valid conflicted p s).2 ~ (phaseRun sha valid conflicted' p s').2 ∧
      (phaseRun sha valid conflicted p s).1.Eqv (phaseRun sha valid conflicted' p s').1 := by
  have e := phaseBlocks_eq conflicted p
  unfold phaseRun
  rw [e]
  exact blocks_order_eqv sha valid h (e ▸ phaseBlocks_equiv hc p) (keyBlocks_slots conflicted _)
    (keyBlocks_dist conflicted ((groupByKey_keys_nodup conflicted).sublist List.filter_sublist)) (keyBlocks_inj hinj _)

/-! ## the `valid` flag and the initial state depend on the set of auth events only -/

/-- `v1Valid auth` is the Valid() bit of `NewAuthEvents(auth)` (by definition) -/
theorem v1Valid_sameSet {auth auth' : List Event} (h : SameSet auth auth') : v1Valid auth = v1Valid auth' :=
  AuthNeeded.valid_sameSet h 0 0

/-- `hi` (P1): the last auth event supplied for a slot is the one kept. -/
theorem v1S0_eqv {auth auth' : List Event} (h : SameSet auth auth') (hi : SlotInj auth) : (v1S0 auth).Eqv (v1S0 auth') :=
  (V1State.Eqv.refl V1State.WF.empty).foldl_add h hi

theorem runPhases_perm (sha : ID → Bytes) (valid : Bool) {conflicted conflicted' : List Event} (hc : conflicted ~ conflicted')
    (hinj : CandInj sha conflicted) (ps : List (Bytes × Bytes → Bool)) {s s' : V1State} (h : s.Eqv s') :
    (runPhases sha valid conflicted ps s).2 ~ (runPhases sha valid conflicted' ps s').2 ∧
      (runPhases sha valid conflicted ps s).1.Eqv (runPhases sha valid conflicted' ps s').1 := by
  induction ps generalizing s s' with
  | nil => exact ⟨Perm.refl _, h⟩
  | cons p ps ih =>
    obtain ⟨r1, s1⟩ := phase_perm sha valid p h hc hinj
    obtain ⟨r2, s2⟩ := ih s1
    exact ⟨r1.append r2, s2⟩

theorem v1Phases_excl : v1Phases.Pairwise (fun p q => ∀ K, q K = true → p K = false) := by
  obtain ⟨h0, h1, h2, h3, h4, _⟩ := v1Phase_classes
  have h : v1Phases = (List.range 5).map fibre := by rw [v1Phases, h0, h1, h2, h3, h4]; rfl
  rw [h, List.pairwise_map]
  refine List.pairwise_lt_range.imp ?_
  intro i j hij K hj
  unfold fibre at hj ⊢
  rw [eq_of_beq hj]
  exact beq_false_of_ne (by omega)

theorem normalBlocks_perm (sha : ID → Bytes) (valid : Bool) {s s' : V1State} (h : s.Eqv s')
    {blocks blocks' : List (List Event)} (heq : SetsEquiv blocks blocks')
    (hinj : ∀ b ∈ blocks, ∀ x ∈ b, ∀ y ∈ b, x.depth = y.depth → sha x.eventID = sha y.eventID → x = y) :
    blocks.filterMap (resolveNormalBlock sha valid s) ~ blocks'.filterMap (resolveNormalBlock sha valid s') := by
  obtain ⟨c, hpc, hec⟩ := heq
  refine (hpc.filterMap _).trans (Perm.of_eq (eachPerm_filterMap hec ?_))
  intro b hbc b' hbb'
  rw [resolveNormalBlock_perm sha valid s hbb' (hinj b (hpc.mem_iff.mpr hbc))]
  exact resolveNormalBlock_eqv sha valid h b'

/-- P1: of two different supplied auth events for one slot the later one is kept, which depends on their order.
    P3: the sort is by (depth, sha1) only, so the order of two candidates with the same pair depends on their input order.
    No hypothesis "P2" (no supplied auth event in the slot of a conflicted event; `V1Ex.ex_not_P2`) is needed: a block
    puts the previous occupant of its slot back, and the winners registered after a phase overwrite the supplied event
    of their slot whatever the order, since winners of one phase have pairwise distinct slots. -/
theorem v1_perm_invariant (sha : ID → Bytes) {conflicted conflicted' auth auth' : List Event}
    (hc : conflicted ~ conflicted') (ha : SameSet auth auth')
    (P1 : ∀ a ∈ auth, ∀ b ∈ auth, a.stateKey.isSome → keyOf a = keyOf b → b.stateKey.isSome → a = b)
    (P3 : ∀ a ∈ conflicted, ∀ b ∈ conflicted, a.stateKey.isSome → b.stateKey.isSome → keyOf a = keyOf b →
      a.depth = b.depth → sha a.eventID = sha b.eventID → a = b) :
    resolveV1 sha conflicted auth ~ resolveV1 sha conflicted' auth' := by
  rw [resolveV1_eq, resolveV1_eq, ← v1Valid_sameSet ha]
  obtain ⟨r, s⟩ := runPhases_perm sha (v1Valid auth) hc P3 _ (v1S0_eqv ha P1)
  exact r.append (normalBlocks_perm sha _ s (phaseBlocks_equiv hc _) (phaseBlocks_eq conflicted _ ▸ keyBlocks_inj P3 _))

end V.StateRes
