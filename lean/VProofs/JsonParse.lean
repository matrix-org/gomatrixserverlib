/- `parse_encode`: the parser reads back a compact rendering `encode v` (any member order) as the value `v` with
   `-0` normalised and every string in its canonical spelling; in particular it reads the canonical
   spelling `encodeStringBody d` of any byte string `d` as exactly `d`. -/
import VProofs.JsonStr
import VProofs.JsonNum
namespace V.Json

theorem ps_quote (f : Nat) (s raw dec : Bytes) : parseString (f + 1) (0x22 :: s) raw dec = some (raw, dec, s) := by
  rw [parseString_succ]; rfl

theorem ps_esc (f : Nat) (e x : UInt8) (s raw dec : Bytes) (h : simpleEscape e = some x) :
    parseString (f + 1) (0x5C :: e :: s) raw dec = parseString f s (raw ++ [0x5C, e]) (dec ++ [x]) := by
  rw [parseString_succ]
  have h1 : ((0x5C : UInt8) == 0x22) = false := by decide
  have h2 : ¬ ((0x5C : UInt8) < 0x20) := by decide
  simp only [h1, h2, Bool.false_eq_true, ↓reduceIte, beq_self_eq_true, h]

theorem ps_plain (f : Nat) (c : UInt8) (s raw dec : Bytes) (h : plainByte c = true) :
    parseString (f + 1) (c :: s) raw dec = parseString f s (raw ++ [c]) (dec ++ [c]) := by
  obtain ⟨h1, h2, h3⟩ := plainByte_iff.mp h
  rw [parseString_succ]
  simp only [h1, h2, h3, Bool.false_eq_true, ↓reduceIte]

/-- The six-byte escape `\u00XY` written for a control character reads back as that character. -/
theorem ctrl_table : ∀ n, n < 0x20 →
    isHex (UInt8.ofNat (0x30 + n / 16)) = true ∧ isHex (hexDigitLower (n % 16)) = true ∧
    hex4 0x30 0x30 (UInt8.ofNat (0x30 + n / 16)) (hexDigitLower (n % 16)) = n ∧
    utf8Encode n = [UInt8.ofNat n] ∧ isSurrogate n = false := by
  decide +kernel

theorem ps_ctrl (f : Nat) (c : UInt8) (s raw dec : Bytes) (h : c < 0x20) :
    parseString (f + 1)
      (0x5C :: 0x75 :: 0x30 :: 0x30 :: UInt8.ofNat (0x30 + c.toNat / 16) :: hexDigitLower (c.toNat % 16) :: s) raw dec =
    parseString f s
      (raw ++ [0x5C, 0x75, 0x30, 0x30, UInt8.ofNat (0x30 + c.toNat / 16), hexDigitLower (c.toNat % 16)]) (dec ++ [c]) := by
  have hn : c.toNat < 0x20 := by simpa using UInt8.lt_iff_toNat_lt.mp h
  obtain ⟨t1, t2, t3, t4, t5⟩ := ctrl_table c.toNat hn
  rw [parseString_succ]
  have h1 : ((0x5C : UInt8) == 0x22) = false := by decide
  have h2 : ¬ ((0x5C : UInt8) < 0x20) := by decide
  have h3 : simpleEscape 0x75 = none := by decide
  have h0 : isHex 0x30 = true := by decide
  have hpu : parseUEscape (0x30 :: 0x30 :: UInt8.ofNat (0x30 + c.toNat / 16) :: hexDigitLower (c.toNat % 16) :: s) =
      some ([0x30, 0x30, UInt8.ofNat (0x30 + c.toNat / 16), hexDigitLower (c.toNat % 16)], [c], s) := by
    unfold parseUEscape
    simp only [h0, t1, t2, Bool.and_self, ↓reduceIte, t3, t5, Bool.false_eq_true, t4]
    simp
  simp only [h1, h2, Bool.false_eq_true, ↓reduceIte, beq_self_eq_true, h3, hpu]

/-- one byte of the decoded string = one item of the canonical spelling -/
theorem ps_item (f : Nat) (c : UInt8) (s raw dec : Bytes) :
    parseString (f + 1) (encodeStringBody [c] ++ s) raw dec =
      parseString f s (raw ++ encodeStringBody [c]) (dec ++ [c]) := by
  rcases esb_one c with ⟨e, he, h⟩ | ⟨hc, h⟩ | ⟨hp, h⟩ <;> rw [h]
  · exact ps_esc f e c s raw dec he
  · exact ps_ctrl f c s raw dec hc
  · exact ps_plain f c s raw dec hp

theorem parseString_esb : ∀ (d : Bytes) (f : Nat) (raw dec rest : Bytes), (encodeStringBody d).length < f →
    parseString f (encodeStringBody d ++ 0x22 :: rest) raw dec = some (raw ++ encodeStringBody d, dec ++ d, rest)
  | [], f, raw, dec, rest, h => by
    cases f with
    | zero => omega
    | succ f => simp [esb_nil, ps_quote]
  | c :: d, f, raw, dec, rest, h => by
    cases f with
    | zero => omega
    | succ f =>
      rw [esb_cons, List.length_append] at h
      have := esb_one_length c
      rw [esb_cons, List.append_assoc, ps_item, parseString_esb d f _ _ rest (by omega)]
      simp

/-- The canonical spelling never contains a surrogate escape. -/
theorem surrogatesPaired_esb : ∀ d : Bytes, surrogatesPaired (encodeStringBody d) = true
  | [] => rfl
  | c :: d => by
    have ih := surrogatesPaired_esb d
    rw [esb_cons]
    rcases esb_one c with ⟨e, he, h⟩ | ⟨hc, h⟩ | ⟨hp, h⟩ <;> rw [h]
    · have hu : (e == 0x75) = false := by rw [beq_eq_false_iff_ne]; rintro rfl; cases he
      exact (surrogatesPaired_esc _ _ hu).trans ih
    · obtain ⟨_, _, t3, _, t5⟩ := ctrl_table c.toNat (by simpa using UInt8.lt_iff_toNat_lt.mp hc)
      exact (surrogatesPaired_u _ _ _ _ _ (by rw [t3]; exact t5)).trans ih
    · exact (surrogatesPaired_byte c _ (plainByte_iff.mp hp).2.1).trans ih

theorem noLoneSurr_esb (d : Bytes) : noLoneSurr (encodeStringBody d) = true :=
  noLoneSurr_of_paired _ (surrogatesPaired_esb d)

mutual
/-- What the parser returns on `encode v`. -/
def ofJVal : JVal → PVal
  | .null => .null
  | .bool b => .bool b
  | .num lit => .num (encodeNum lit)
  | .str s => .str (encodeStringBody s) s
  | .arr xs => .arr (ofJVals xs)
  | .obj kvs => .obj (ofJMembers kvs)
def ofJVals : List JVal → List PVal
  | [] => []
  | x :: xs => ofJVal x :: ofJVals xs
def ofJMembers : List (Bytes × JVal) → List (Bytes × Bytes × PVal)
  | [] => []
  | (k, v) :: kvs => (encodeStringBody k, k, ofJVal v) :: ofJMembers kvs
end

theorem skipWs_cons_of_not_ws (c : UInt8) (r : Bytes) (h : isWs c = false) : skipWs (c :: r) = c :: r := by
  simp [skipWs, h]

theorem numStop_close (c : UInt8) (h : c = 0x2C ∨ c = 0x5D ∨ c = 0x7D) (r : Bytes) : headOk numStop (c :: r) = true := by
  rcases h with rfl | rfl | rfl <;> (simp only [headOk_cons]; decide)

theorem isNumLit_encodeNum {lit : Bytes} (h : isNumLit lit = true) : isNumLit (encodeNum lit) = true := by
  unfold encodeNum
  split
  · decide
  · exact h

theorem parseValue_num (f : Nat) (lit rest : Bytes) (h : isNumLit lit = true) (hs : headOk numStop rest = true) :
    parseValue (f + 1) (lit ++ rest) = some (.num lit, rest) := by
  obtain ⟨c, l, rfl, hc⟩ := isNumLit_head h
  have hnum := parseNumber_append rest h hs
  obtain ⟨w, ne⟩ := numHead_facts hc
  have f1 := ne 0x7B (by decide); have f2 := ne 0x5B (by decide); have f3 := ne 0x22 (by decide)
  have f4 := ne 0x74 (by decide); have f5 := ne 0x66 (by decide); have f6 := ne 0x6E (by decide)
  rw [parseValue, List.cons_append, skipWs_cons_of_not_ws _ _ w]
  simp only [f1, f2, f3, f4, f5, f6, Bool.false_eq_true, ↓reduceIte, hc]
  rw [List.cons_append] at hnum
  rw [hnum]

theorem encode_head : ∀ v : JVal, v.numsOk = true →
    ∃ c l, encode v = c :: l ∧ isWs c = false ∧ (c == 0x5D) = false ∧ (c == 0x7D) = false
  | .null, _ => ⟨_, _, rfl, by decide, by decide, by decide⟩
  | .bool true, _ => ⟨_, _, rfl, by decide, by decide, by decide⟩
  | .bool false, _ => ⟨_, _, rfl, by decide, by decide, by decide⟩
  | .str s, _ => ⟨_, _, rfl, by decide, by decide, by decide⟩
  | .arr xs, _ => ⟨_, _, rfl, by decide, by decide, by decide⟩
  | .obj kvs, _ => ⟨_, _, rfl, by decide, by decide, by decide⟩
  | .num lit, h => by
    simp only [JVal.numsOk] at h
    obtain ⟨c, l, hl, hc⟩ := isNumLit_head (isNumLit_encodeNum h)
    obtain ⟨w, ne⟩ := numHead_facts hc
    exact ⟨c, l, by simp [encode, hl], w, ne _ (by decide), ne _ (by decide)⟩

/-- the last element of an array, given that its value reads back -/
theorem parseElems_last {f : Nat} {v : JVal} {rest : Bytes} (accl : List PVal)
    (hv : parseValue f (encode v ++ 0x5D :: rest) = some (ofJVal v, 0x5D :: rest)) :
    parseElems (f + 1) (encode v ++ 0x5D :: rest) accl = some (.arr (accl ++ [ofJVal v]), rest) := by
  rw [parseElems, hv]; rfl

/-- an element followed by a comma -/
theorem parseElems_more {f : Nat} {v : JVal} {tail : Bytes} (accl : List PVal)
    (hv : parseValue f (encode v ++ 0x2C :: tail) = some (ofJVal v, 0x2C :: tail)) :
    parseElems (f + 1) (encode v ++ 0x2C :: tail) accl = parseElems f tail (accl ++ [ofJVal v]) := by
  rw [parseElems, hv]; rfl

/-- one member `"key":value` of an object up to the byte `d` after it, given that its value reads back -/
theorem parseMembers_member (f : Nat) (k : Bytes) (v : JVal) (d : UInt8) (tail : Bytes)
    (accl : List (Bytes × Bytes × PVal))
    (hv : parseValue f (encode v ++ d :: tail) = some (ofJVal v, d :: tail)) (hd : isWs d = false) :
    parseMembers (f + 1) ((0x22 :: encodeStringBody k ++ [0x22, 0x3A] ++ encode v) ++ d :: tail) accl =
      if d == 0x2C then parseMembers f tail (accl ++ [(encodeStringBody k, k, ofJVal v)])
      else if d == 0x7D then some (.obj (accl ++ [(encodeStringBody k, k, ofJVal v)]), tail)
      else none := by
  have shape : (0x22 :: encodeStringBody k ++ [0x22, 0x3A] ++ encode v) ++ d :: tail =
      0x22 :: (encodeStringBody k ++ 0x22 :: (0x3A :: (encode v ++ d :: tail))) := by
    simp only [List.cons_append, List.append_assoc, List.nil_append]
  rw [shape, parseMembers, skipWs_cons_of_not_ws _ _ (by decide)]
  simp only [beq_self_eq_true, ↓reduceIte]
  rw [parseString_esb k _ [] [] _ (by simp only [List.length_append, List.length_cons]; omega)]
  simp only [List.nil_append]
  rw [skipWs_cons_of_not_ws _ _ (by decide)]
  simp only [beq_self_eq_true, ↓reduceIte, hv, skipWs_cons_of_not_ws _ _ hd]

theorem joinWith_cons_ne (sep : UInt8) (x : Bytes) {l : List Bytes} (h : l ≠ []) :
    joinWith sep (x :: l) = x ++ sep :: joinWith sep l := by
  cases l with
  | nil => exact absurd rfl h
  | cons y ys => rfl

theorem joinWith_cons_append (sep : UInt8) (x : Bytes) {l : List Bytes} (h : l ≠ []) (t : Bytes) :
    joinWith sep (x :: l) ++ t = x ++ sep :: (joinWith sep l ++ t) := by
  rw [joinWith_cons_ne _ _ h, List.append_assoc]; rfl

theorem joinWith_head (sep : UInt8) {x l : Bytes} {c : UInt8} (h : x = c :: l) (xs : List Bytes) :
    ∃ l', joinWith sep (x :: xs) = c :: l' := by
  subst h
  cases xs with
  | nil => exact ⟨l, rfl⟩
  | cons y ys => exact ⟨l ++ sep :: joinWith sep (y :: ys), rfl⟩

/-- `[` followed by a byte that is neither whitespace nor `]` opens a non-empty array -/
theorem parseValue_arr (f : Nat) {c : UInt8} (l : Bytes) (hw : isWs c = false) (hc : (c == 0x5D) = false) :
    parseValue (f + 1) (0x5B :: c :: l) = parseElems f (c :: l) [] := by
  rw [parseValue, skipWs_cons_of_not_ws _ _ (by decide)]
  simp only [show ((0x5B : UInt8) == 0x7B) = false by decide, Bool.false_eq_true, ↓reduceIte, beq_self_eq_true]
  rw [skipWs_cons_of_not_ws _ _ hw]
  simp only [hc, Bool.false_eq_true, ↓reduceIte]

/-- `{"` opens a non-empty object -/
theorem parseValue_obj (f : Nat) (l : Bytes) :
    parseValue (f + 1) (0x7B :: 0x22 :: l) = parseMembers f (0x22 :: l) [] := by
  rw [parseValue]; rfl

mutual
/-- reading `encode v` back: values -/
theorem parseValue_encode : (v : JVal) → v.numsOk = true → ∀ (f : Nat) (rest : Bytes),
    (encode v).length < f → headOk numStop rest = true →
    parseValue f (encode v ++ rest) = some (ofJVal v, rest)
  | _, _, 0, _, hf, _ => absurd hf (Nat.not_lt_zero _)
  | .null, _, _ + 1, _, _, _ => by rw [parseValue]; rfl
  | .bool true, _, _ + 1, _, _, _ => by rw [parseValue]; rfl
  | .bool false, _, _ + 1, _, _, _ => by rw [parseValue]; rfl
  | .num lit, hv, f + 1, rest, _, hs => by
    simp only [JVal.numsOk] at hv
    simp only [encode, ofJVal]
    exact parseValue_num f _ rest (isNumLit_encodeNum hv) hs
  | .str s, _, f + 1, rest, hf, _ => by
    rw [encode, List.cons_append, List.cons_append, List.append_assoc, List.singleton_append, parseValue,
      skipWs_cons_of_not_ws _ _ (by decide)]
    have h1 : ((0x22 : UInt8) == 0x7B) = false := by decide
    have h2 : ((0x22 : UInt8) == 0x5B) = false := by decide
    simp only [h1, h2, Bool.false_eq_true, ↓reduceIte, beq_self_eq_true]
    rw [parseString_esb s _ [] [] _ (by simp only [List.length_append, List.length_cons]; omega)]
    rfl
  | .arr [], _, _ + 1, _, _, _ => by rw [parseValue]; rfl
  | .arr (x :: xs), hv, f + 1, rest, hf, hs => by
    simp only [JVal.numsOk] at hv
    obtain ⟨c, l, hcl, w, nb, _⟩ := encode_head x (by rw [numsOkList, Bool.and_eq_true] at hv; exact hv.1)
    -- the first byte after `[` is the first byte of the first element
    obtain ⟨l', hj⟩ := joinWith_head 0x2C hcl (encodeList xs)
    have ih := parseElems_encode (x :: xs) (List.cons_ne_nil _ _) hv f rest [] (by
      simp only [encode, List.length_cons, List.length_append, List.length_nil] at hf; omega)
    rw [encodeList, hj] at ih
    rw [encode, List.cons_append, List.cons_append, List.append_assoc, encodeList, hj, List.cons_append,
      parseValue_arr f _ w nb]
    exact ih
  | .obj [], _, _ + 1, _, _, _ => by rw [parseValue]; rfl
  | .obj ((k, x) :: kvs), hv, f + 1, rest, hf, hs => by
    simp only [JVal.numsOk] at hv
    obtain ⟨l', hj⟩ := joinWith_head 0x2C (x := 0x22 :: encodeStringBody k ++ [0x22, 0x3A] ++ encode x)
      (c := 0x22) (by simp only [List.cons_append]; rfl) (encodeMembers kvs)
    have ih := parseMembers_encode ((k, x) :: kvs) (List.cons_ne_nil _ _) hv f rest [] (by
      simp only [encode, List.length_cons, List.length_append, List.length_nil] at hf; omega)
    rw [encodeMembers, hj] at ih
    rw [encode, List.cons_append, List.cons_append, List.append_assoc, encodeMembers, hj, List.cons_append,
      parseValue_obj f]
    exact ih
/-- reading `encode v` back: array elements (after `[`) -/
theorem parseElems_encode : (l : List JVal) → l ≠ [] → numsOkList l = true →
    ∀ (f : Nat) (rest : Bytes) (accl : List PVal), (joinWith 0x2C (encodeList l)).length + 1 < f →
    parseElems f (joinWith 0x2C (encodeList l) ++ 0x5D :: rest) accl = some (.arr (accl ++ ofJVals l), rest)
  | [], hne, _, _, _, _, _ => absurd rfl hne
  | _ :: _, _, _, 0, _, _, hf => absurd hf (Nat.not_lt_zero _)
  | [x], _, hv, f + 1, rest, accl, hf => by
    rw [numsOkList, numsOkList, Bool.and_true] at hv
    rw [encodeList, encodeList, joinWith] at hf ⊢
    rw [parseElems_last accl (parseValue_encode x hv f _ (by omega) (numStop_close _ (Or.inr (Or.inl rfl)) _))]
    rfl
  | x :: y :: ys, _, hv, f + 1, rest, accl, hf => by
    have hne : encodeList (y :: ys) ≠ [] := List.cons_ne_nil _ _
    rw [numsOkList, Bool.and_eq_true] at hv
    rw [encodeList, joinWith_cons_ne _ _ hne, List.length_append, List.length_cons] at hf
    rw [encodeList, joinWith_cons_append _ _ hne,
      parseElems_more accl (parseValue_encode x hv.1 f _ (by omega) (numStop_close _ (Or.inl rfl) _)),
      parseElems_encode (y :: ys) (List.cons_ne_nil _ _) hv.2 f rest _ (by omega), List.append_assoc]
    rfl
/-- reading `encode v` back: object members (after `{`) -/
theorem parseMembers_encode : (l : List (Bytes × JVal)) → l ≠ [] → numsOkMembers l = true →
    ∀ (f : Nat) (rest : Bytes) (accl : List (Bytes × Bytes × PVal)), (joinWith 0x2C (encodeMembers l)).length + 1 < f →
    parseMembers f (joinWith 0x2C (encodeMembers l) ++ 0x7D :: rest) accl = some (.obj (accl ++ ofJMembers l), rest)
  | [], hne, _, _, _, _, _ => absurd rfl hne
  | _ :: _, _, _, 0, _, _, hf => absurd hf (Nat.not_lt_zero _)
  | [(k, x)], _, hv, f + 1, rest, accl, hf => by
    rw [numsOkMembers, numsOkMembers, Bool.and_true] at hv
    rw [encodeMembers, encodeMembers, joinWith] at hf ⊢
    simp only [List.length_cons, List.length_append] at hf
    rw [parseMembers_member f k x _ _ accl
      (parseValue_encode x hv f _ (by omega) (numStop_close _ (Or.inr (Or.inr rfl)) _)) (by decide)]
    rfl
  | (k, x) :: (k2, y2) :: ys, _, hv, f + 1, rest, accl, hf => by
    have hne : encodeMembers ((k2, y2) :: ys) ≠ [] := List.cons_ne_nil _ _
    rw [numsOkMembers, Bool.and_eq_true] at hv
    rw [encodeMembers, joinWith_cons_ne _ _ hne] at hf
    simp only [List.length_cons, List.length_append] at hf
    rw [encodeMembers, joinWith_cons_append _ _ hne, parseMembers_member f k x _ _ accl
      (parseValue_encode x hv.1 f _ (by omega) (numStop_close _ (Or.inl rfl) _)) (by decide)]
    simp only [beq_self_eq_true, ↓reduceIte]
    rw [parseMembers_encode ((k2, y2) :: ys) (List.cons_ne_nil _ _) hv.2 f rest _ (by omega), List.append_assoc]
    rfl
end

theorem parse_encode (v : JVal) (hv : v.numsOk = true) : parse (encode v) = some (ofJVal v) := by
  unfold parse
  have := parseValue_encode v hv ((encode v).length + 1) [] (Nat.lt_succ_self _) rfl
  rw [List.append_nil] at this
  rw [this]
  rfl

theorem parse_nil : parse [] = none := by decide

end V.Json
