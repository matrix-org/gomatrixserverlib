/- Helper lemmas about VModel.B64 (C17): the alphabets; an encoding is the alphabet's characters for the sextets of the
   bytes (`V.Sign.sextets`, shared with the signing model's base64), and on those Go's quantum decoder computes what the
   sextet-wise decoder computes, so decoding what was encoded rests on the one regrouping lemma `Sign.b64Bytes_sextets`;
   the length of an encoding, JSON string bodies. -/
import VModel.B64
import VProofs.SignB64
namespace V.B64

/-- an alphabet whose decoding table inverts its encoding table -/
def GoodAlphabet (α : List UInt8) : Prop := ∀ i : Fin 64, decChar α (encChar α i.val) = some i.val

theorem indexIn_getD : ∀ {l : List UInt8}, l.Nodup → ∀ {i : Nat}, i < l.length → indexIn (l.getD i 0) l = some i
  | a :: as, _, 0, _ => by simp [indexIn]
  | a :: as, hn, i + 1, hi => by
    have hi' : i < as.length := Nat.lt_of_succ_lt_succ hi
    obtain ⟨ha, hn'⟩ := List.nodup_cons.mp hn
    have hne : (a == as.getD i 0) = false := by
      rw [beq_eq_false_iff_ne]; rintro rfl
      exact ha (by rw [List.getD_eq_getElem?_getD, List.getElem?_eq_getElem hi']; exact List.getElem_mem hi')
    rw [List.getD_cons_succ, indexIn, hne, indexIn_getD hn' hi']
    rfl

/-- distinct numeric values, distinct bytes (comparing numbers is what the kernel does fast) -/
theorem nodup_of_toNat {l : List UInt8} (h : (l.map UInt8.toNat).Nodup) : l.Nodup :=
  List.Pairwise.of_map UInt8.toNat (fun _ _ hne e => hne (congrArg _ e)) h

theorem std_nodup : stdAlphabet.length = 64 ∧ stdAlphabet.Nodup := ⟨rfl, nodup_of_toNat (by decide +kernel)⟩
theorem url_nodup : urlAlphabet.length = 64 ∧ urlAlphabet.Nodup := ⟨rfl, nodup_of_toNat (by decide +kernel)⟩

theorem std_good : GoodAlphabet stdAlphabet := fun i => indexIn_getD std_nodup.2 (std_nodup.1.symm ▸ i.isLt)
theorem url_good : GoodAlphabet urlAlphabet := fun i => indexIn_getD url_nodup.2 (url_nodup.1.symm ▸ i.isLt)

theorem dec_enc {α : List UInt8} (h : GoodAlphabet α) {i : Nat} (hi : i < 64) : decChar α (encChar α i) = some i :=
  h ⟨i, hi⟩

theorem encodeWith_eq_map (α : List UInt8) : ∀ bs : BS, encodeWith α bs = (Sign.sextets bs).map (encChar α)
  | [] => rfl
  | [_] => rfl
  | [_, _] => rfl
  | a :: b :: c :: rest => by
    simp only [encodeWith, Sign.sextets, List.map_cons, encodeWith_eq_map α rest]

/-- the bytes Go's decoder cuts from the 12-, 18- and 24-bit value of a quantum are the ones `Sign.b64Bytes` regroups from
    its sextets -/
theorem quantum_arith {a b c d : Nat} (ha : a < 64) (hb : b < 64) (hc : c < 64) (hd : d < 64) :
    let u := a * 64 + b; let w := u * 64 + c; let v := w * 64 + d
    u / 16 % 256 = a * 4 + b / 16 ∧ w / 1024 % 256 = a * 4 + b / 16 ∧ w / 4 % 256 = b % 16 * 16 + c / 4 ∧
    v / 65536 % 256 = a * 4 + b / 16 ∧ v / 256 % 256 = b % 16 * 16 + c / 4 ∧ v % 256 = c % 4 * 64 + d := by
  omega

/-- on the characters of a good alphabet Go's quantum decoder computes what the sextet-wise decoder of the signing model computes -/
theorem decodeLoop_map {α : List UInt8} (h : GoodAlphabet α) :
    ∀ l : List Nat, (∀ n ∈ l, n < 64) → decodeLoop α (l.map (encChar α)) [] = Sign.b64Bytes l
  | [], _ => rfl
  | [a], hl => by
    simp only [List.forall_mem_cons] at hl
    simp [decodeLoop, Sign.b64Bytes, dec_enc h hl.1]
  | [a, b], hl => by
    simp only [List.forall_mem_cons] at hl
    simp [decodeLoop, Sign.b64Bytes, dec_enc h hl.1, dec_enc h hl.2.1, (quantum_arith hl.1 hl.2.1 hl.1 hl.1).1]
  | [a, b, c], hl => by
    simp only [List.forall_mem_cons] at hl
    obtain ⟨ha, hb, hc, -⟩ := hl
    obtain ⟨-, h1, h2, -⟩ := quantum_arith ha hb hc hc
    simp [decodeLoop, Sign.b64Bytes, dec_enc h ha, dec_enc h hb, dec_enc h hc, h1, h2]
  | a :: b :: c :: d :: rest, hl => by
    simp only [List.forall_mem_cons] at hl
    obtain ⟨ha, hb, hc, hd, hr⟩ := hl
    obtain ⟨-, -, -, h1, h2, h3⟩ := quantum_arith ha hb hc hd
    simp only [List.map_cons, decodeLoop, dec_enc h ha, dec_enc h hb, dec_enc h hc, dec_enc h hd, List.nil_append,
      List.cons_append, decodeLoop_map h rest hr, Sign.b64Bytes, quantum3, h1, h2, h3]
    cases Sign.b64Bytes rest <;> rfl

theorem decode_encode_with {α : List UInt8} (h : GoodAlphabet α) : ∀ bs : BS, decodeWith α (encodeWith α bs) = some bs := by
  intro bs
  rw [decodeWith, encodeWith_eq_map, decodeLoop_map h _ (Sign.sextets_lt bs), Sign.b64Bytes_sextets]

theorem encodeWith_injective {α : List UInt8} (h : GoodAlphabet α) {x y : BS} (he : encodeWith α x = encodeWith α y) : x = y :=
  Option.some.inj ((decode_encode_with h x).symm.trans (he ▸ decode_encode_with h y))

theorem encodeWith_chars (α : List UInt8) : ∀ bs : BS, ∀ c ∈ encodeWith α bs, ∃ i : Fin 64, c = encChar α i.val := by
  intro bs c hc
  rw [encodeWith_eq_map] at hc
  obtain ⟨n, hn, rfl⟩ := List.mem_map.mp hc
  exact ⟨⟨n, Sign.sextets_lt bs n hn⟩, rfl⟩

theorem std_no_url_marks : ∀ i : Fin 64, Sign.isURLMark (encChar stdAlphabet i.val) = false := by decide +kernel

/-- decoding picks the standard alphabet for what `encode` wrote: it contains neither `-` nor `_` -/
theorem decode_encode (bs : BS) : decode (encode bs) = some bs := by
  unfold decode encode
  have : (encodeWith stdAlphabet bs).any (fun c => c == 0x2D || c == 0x5F) = false := by
    rw [List.any_eq_false]
    intro c hc
    obtain ⟨i, rfl⟩ := encodeWith_chars _ _ c hc
    have := std_no_url_marks i
    unfold Sign.isURLMark at this
    simp [this]
  simp only [this, Bool.false_eq_true, if_false]
  exact decode_encode_with std_good bs

/-- unpadded: 4 characters per 3 bytes, rounded up -/
theorem encodeWith_length (α : List UInt8) : ∀ bs : BS, (encodeWith α bs).length = (bs.length * 4 + 2) / 3 := by
  intro bs
  induction bs using encodeWith.induct with
  | case1 => simp [encodeWith]
  | case2 a => simp [encodeWith]
  | case3 a b => simp [encodeWith]
  | case4 a b c rest ih =>
    rw [encodeWith]
    simp only [List.length_cons, ih]
    omega

/-- outside the two marks the alphabets coincide, so either table decodes a URL-safe character that is not a mark -/
theorem url_agrees_std (i : Fin 64) (h : Sign.isURLMark (encChar urlAlphabet i.val) = false) :
    decChar stdAlphabet (encChar urlAlphabet i.val) = decChar urlAlphabet (encChar urlAlphabet i.val) := by
  have heq : ∀ i : Fin 64, Sign.isURLMark (encChar urlAlphabet i.val) = false →
      encChar urlAlphabet i.val = encChar stdAlphabet i.val := by decide +kernel
  rw [url_good i, heq i h, std_good i]

theorem decodeLoop_congr {α β : List UInt8} : ∀ (s : BS) (acc : List Nat),
    (∀ c ∈ s, decChar α c = decChar β c) → decodeLoop α s acc = decodeLoop β s acc
  | [], acc, _ => by simp [decodeLoop]
  | ch :: rest, acc, h => by
    have h0 := h ch (List.mem_cons_self ..)
    have ih := fun acc' => decodeLoop_congr rest acc' (fun c hc => h c (List.mem_cons_of_mem _ hc))
    unfold decodeLoop
    rw [h0]
    simp only [ih]

def plainJSONChar (c : UInt8) : Bool := !(c == 0x22) && !(c < 0x20) && !(c == 0x5C)

theorem jsonStringBody_plain : ∀ (s r : BS), s.all plainJSONChar = true → jsonStringBody (s ++ 0x22 :: r) = some (s, r)
  | [], r, _ => by rw [List.nil_append]; unfold jsonStringBody; simp
  | c :: cs, r, h => by
    simp only [List.all_cons, Bool.and_eq_true] at h
    obtain ⟨hc, hcs⟩ := h
    unfold plainJSONChar at hc
    simp only [Bool.and_eq_true, Bool.not_eq_true', beq_eq_false_iff_ne, decide_eq_false_iff_not] at hc
    have ih := jsonStringBody_plain cs r hcs
    simp only [List.cons_append]
    unfold jsonStringBody
    simp [hc.1.1, hc.1.2, hc.2, ih]

theorem std_plain : ∀ i : Fin 64, plainJSONChar (encChar stdAlphabet i.val) = true := by decide +kernel

end V.B64
