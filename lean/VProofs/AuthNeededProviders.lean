/-
  C09: what `NewAuthEvents` (Provider.ofEvents) answers, as order-independent data:
  the last event with a given (type, state_key), and the Valid() bit.
-/
import VModel.AuthNeeded
import VProofs.AuthRulesNoPanic
namespace V.AuthNeeded
open V V.Json V.GoJson V.Auth V.StateRes V.AuthRules

def isKey (t k : Bytes) (e : Event) : Bool := e.type == t && e.stateKey == some k

def lastWith (t k : Bytes) (l : List Event) : Option Event := (l.filter (isKey t k)).getLast?

/-- the step of the `events` fold of `Provider.ofEvents` (the map write of Go's `AddEvent`) -/
def stepEvents (acc : List Event) (e : Event) : List Event :=
  acc.filter (fun x => !(x.type == e.type && x.stateKey == e.stateKey)) ++ [e]

theorem key_same {t k : Bytes} {x e : Event} (hx : isKey t k x = true) (he : isKey t k e = true) :
    (x.type == e.type && x.stateKey == e.stateKey) = true := by
  unfold isKey at hx he
  simp only [Bool.and_eq_true, beq_iff_eq] at hx he ⊢
  exact ⟨hx.1.trans he.1.symm, hx.2.trans he.2.symm⟩

theorem isKey_congr {t k : Bytes} {x e : Event} (h : (x.type == e.type && x.stateKey == e.stateKey) = true) :
    isKey t k x = isKey t k e := by
  simp only [Bool.and_eq_true, beq_iff_eq] at h
  unfold isKey
  rw [h.1, h.2]

/-- inserting an event replaces the one with its key: lookups of that key find it, all others are unchanged -/
theorem find_step (t k : Bytes) (acc : List Event) (e : Event) :
    (stepEvents acc e).find? (isKey t k) = if isKey t k e then some e else acc.find? (isKey t k) := by
  unfold stepEvents
  rw [List.find?_append, List.find?_filter]
  cases hk : isKey t k e with
  | true =>
    have : acc.find? (fun a => decide ((!(a.type == e.type && a.stateKey == e.stateKey)) = true ∧ isKey t k a = true)) = none := by
      rw [List.find?_eq_none]
      intro x _ hx
      simp only [decide_eq_true_eq, Bool.not_eq_true'] at hx
      rw [key_same hx.2 hk] at hx
      exact Bool.noConfusion hx.1
    rw [this]
    simp [hk]
  | false =>
    have : (fun a : Event => decide ((!(a.type == e.type && a.stateKey == e.stateKey)) = true ∧ isKey t k a = true)) = isKey t k := by
      funext x
      cases hs : (x.type == e.type && x.stateKey == e.stateKey) with
      | true => simp [isKey_congr hs, hk]
      | false => simp
    rw [this]
    simp [hk]

theorem find_foldl (t k : Bytes) (l : List Event) (acc : List Event) :
    (l.foldl stepEvents acc).find? (isKey t k) = (lastWith t k l).or (acc.find? (isKey t k)) := by
  rw [Lists.foldl_write (get := fun acc : List Event => acc.find? (isKey t k)) (v := fun e => e) (find_step t k) l acc,
    Option.map_id', lastWith, List.getLast?_filter]

/-- `NewAuthEvents(l).get(type, state_key)` is the last event of `l` with that key -/
theorem get_ofEvents (l : List Event) (t k : Bytes) (ident : Nat := 0) : (Provider.ofEvents l ident).get t k = lastWith t k l := by
  unfold Provider.get Provider.ofEvents
  exact (find_foldl t k l []).trans Option.or_none

/-- no two events of the list have the same (type, state_key) -/
def DistinctKeys (l : List Event) : Prop :=
  l.Pairwise (fun a b => (a.type == b.type && a.stateKey == b.stateKey) = false)

/-- insertion order does not matter when the keys are pairwise distinct -/
theorem lastWith_perm {l1 l2 : List Event} (hp : l1.Perm l2) (hd : DistinctKeys l1) (t k : Bytes) :
    lastWith t k l1 = lastWith t k l2 := by
  unfold lastWith
  rw [List.getLast?_filter, List.getLast?_filter]
  refine Lists.find?_perm_of_pairwise _ ((List.reverse_perm l1).trans (hp.trans (List.reverse_perm l2).symm)) ?_
  rw [List.pairwise_reverse]
  refine hd.imp fun hab hk => ?_
  rw [key_same hk.2 hk.1] at hab
  cases hab

/-! ### the Valid() bit -/

/-- all events are of one room -/
def SameRoom (l : List Event) : Prop := ∀ a ∈ l, ∀ b ∈ l, a.roomID = b.roomID

/-- `NewAuthEvents(l).Valid()` holds exactly when all events are of one room -/
theorem valid_ofEvents (l : List Event) (ident : Nat := 0) : (Provider.ofEvents l ident).valid = true ↔ SameRoom l := by
  have e : (Provider.ofEvents l ident).roomIDs =
      (l.map Event.roomID).foldl (fun K k => if K.contains k then K else K ++ [k]) [] := by rw [List.foldl_map]; rfl
  unfold Provider.valid SameRoom
  rw [decide_eq_true_iff, e, Lists.length_le_one_iff (Lists.nodup_foldl_insertNew _ List.nodup_nil)]
  simp only [Lists.mem_foldl_insertNew, List.not_mem_nil, false_or, List.mem_map]
  constructor
  · intro h a ha b hb; exact h _ ⟨a, ha, rfl⟩ _ ⟨b, hb, rfl⟩
  · rintro h _ ⟨a, ha, rfl⟩ _ ⟨b, hb, rfl⟩; exact h a ha b hb

/-- the Valid() bit depends on the set of events only -/
theorem valid_sameSet {l1 l2 : List Event} (h : ∀ x, x ∈ l1 ↔ x ∈ l2) (i1 i2 : Nat) :
    (Provider.ofEvents l1 i1).valid = (Provider.ofEvents l2 i2).valid := by
  rw [Bool.eq_iff_iff, valid_ofEvents l1 i1, valid_ofEvents l2 i2]
  exact ⟨fun H a ha b hb => H a ((h a).mpr ha) b ((h b).mpr hb), fun H a ha b hb => H a ((h a).mp ha) b ((h b).mp hb)⟩

theorem lastWith_filter (t k : Bytes) (l : List Event) (keep : Event → Bool) (h : ∀ e, isKey t k e = true → keep e = true) :
    lastWith t k (l.filter keep) = lastWith t k l := by
  unfold lastWith
  rw [List.filter_filter]
  congr 1
  apply List.filter_congr
  intro x _
  by_cases hx : isKey t k x = true
  · simp [hx, h x hx]
  · have : isKey t k x = false := Bool.eq_false_iff.mpr hx
    simp [this]

theorem lastWith_append (t k : Bytes) (l x : List Event) (h : ∀ e ∈ x, isKey t k e = false) :
    lastWith t k (l ++ x) = lastWith t k l := by
  unfold lastWith
  rw [List.filter_append, Lists.filter_eq_nil_of _ x h, List.append_nil]

theorem get_isKey {p : Provider} {t k : Bytes} {x : Event} (h : p.get t k = some x) : isKey t k x = true ∧ x ∈ p.events := by
  unfold Provider.get at h
  exact ⟨List.find?_some h, List.mem_of_find?_eq_some h⟩

theorem isKey_inj {t k t' k' : Bytes} {x : Event} (h : isKey t k x = true) (h' : isKey t' k' x = true) : t = t' ∧ k = k' := by
  unfold isKey at h h'
  simp only [Bool.and_eq_true, beq_iff_eq] at h h'
  refine ⟨h.1.symm.trans h'.1, ?_⟩
  have := h.2.symm.trans h'.2
  exact Option.some.inj this

/-- the provider built from the selected events answers the needed lookups as the full provider does -/
theorem get_select (p : Provider) (e : Event) (t k : Bytes) (hn : (t, k) ∈ neededPairs (stateNeeded e)) (ident : Nat := 0) :
    (Provider.ofEvents (selectNeeded p e) ident).get t k = p.get t k := by
  rw [get_ofEvents _ t k ident, lastWith, List.getLast?_filter]
  -- a selected event with the key is what the provider answers for the key
  have hsel : ∀ x ∈ selectNeeded p e, isKey t k x = true → p.get t k = some x := by
    intro x hx hk
    unfold selectNeeded at hx
    obtain ⟨tk, _, hg⟩ := List.mem_filterMap.mp hx
    obtain ⟨rfl, rfl⟩ := isKey_inj (get_isKey hg).1 hk
    exact hg
  cases hf : (selectNeeded p e).reverse.find? (isKey t k) with
  | some x => exact (hsel x (List.mem_reverse.mp (List.mem_of_find?_eq_some hf)) (List.find?_some hf)).symm
  | none =>
    cases hg : p.get t k with
    | none => rfl
    | some v =>
      have hv : v ∈ (selectNeeded p e).reverse := List.mem_reverse.mpr (List.mem_filterMap.mpr ⟨(t, k), hn, hg⟩)
      exact absurd (get_isKey hg).1 (List.find?_eq_none.mp hf v hv)

theorem select_subset (p : Provider) (e : Event) : ∀ x ∈ selectNeeded p e, x ∈ p.events := by
  intro x hx
  unfold selectNeeded at hx
  obtain ⟨tk, _, hg⟩ := List.mem_filterMap.mp hx
  exact (get_isKey hg).2

theorem events_subset (l : List Event) : ∀ (acc : List Event) (x : Event), x ∈ l.foldl stepEvents acc → x ∈ acc ∨ x ∈ l := by
  induction l with
  | nil => intro acc x h; exact Or.inl h
  | cons e rest ih =>
    intro acc x h
    simp only [List.foldl_cons] at h
    rcases ih _ x h with h' | h'
    · unfold stepEvents at h'
      simp only [List.mem_append, List.mem_filter, List.mem_singleton] at h'
      rcases h' with h' | h'
      · exact Or.inl h'.1
      · exact Or.inr (h' ▸ List.mem_cons_self ..)
    · exact Or.inr (List.mem_cons_of_mem _ h')

theorem ofEvents_events_subset (l : List Event) (ident : Nat) : ∀ x ∈ (Provider.ofEvents l ident).events, x ∈ l := by
  intro x hx
  rcases events_subset l [] x hx with h | h
  · cases h
  · exact h

end V.AuthNeeded
