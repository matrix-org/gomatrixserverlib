/-
  Basic notions for VModel.StateRes: lists with the same members (`SameSet`), lists whose members a key tells apart,
  lookups by event ID, `eventMapFromEvents` (first occurrence per ID), `insertID` / `unionIDs`, the measure `unseenIn`
  of the searches that mark IDs, event maps that
  answer alike (`MapEq`), state-set lists that are rearrangements of each other (`SetsEquiv`), and the
  (type, state_key) slot of a state event.
-/
import VModel.StateRes
import VProofs.Lists
namespace V.StateRes
open List

/-- the two lists hold the same elements (order and multiplicity ignored) -/
def SameSet {α} (a b : List α) : Prop := ∀ x, x ∈ a ↔ x ∈ b

theorem SameSet.refl {α} (a : List α) : SameSet a a := fun _ => Iff.rfl
theorem SameSet.symm {α} {a b : List α} (h : SameSet a b) : SameSet b a := fun x => (h x).symm
theorem SameSet.trans {α} {a b c : List α} (h : SameSet a b) (h' : SameSet b c) : SameSet a c :=
  fun x => (h x).trans (h' x)
theorem SameSet.of_perm {α} {a b : List α} (h : a ~ b) : SameSet a b := fun _ => h.mem_iff

theorem SameSet.filter {α} {a b : List α} (p : α → Bool) (h : SameSet a b) : SameSet (a.filter p) (b.filter p) := by
  intro x; simp only [List.mem_filter, h x]

theorem SameSet.map {α β} {a b : List α} (f : α → β) (h : SameSet a b) : SameSet (a.map f) (b.map f) := by
  intro x; simp only [List.mem_map, h _]

theorem SameSet.append {α} {a b c d : List α} (h : SameSet a b) (h' : SameSet c d) : SameSet (a ++ c) (b ++ d) := by
  intro x; simp only [List.mem_append, h x, h' x]

theorem SameSet.filterMap {α β} {a b : List α} (f : α → Option β) (h : SameSet a b) :
    SameSet (a.filterMap f) (b.filterMap f) := by
  intro x; simp only [List.mem_filterMap, h _]

theorem SameSet.flatMap {α β} {a b : List α} (f : α → List β) (h : SameSet a b) :
    SameSet (a.flatMap f) (b.flatMap f) := by
  intro x; simp only [List.mem_flatMap, h _]

theorem SameSet.isEmpty {α} {a b : List α} (h : SameSet a b) : a.isEmpty = b.isEmpty := by
  rw [Bool.eq_iff_iff, List.isEmpty_iff, List.isEmpty_iff, List.eq_nil_iff_forall_not_mem, List.eq_nil_iff_forall_not_mem]
  simp only [h _]

theorem SameSet.contains {a b : List ID} (h : SameSet a b) (x : ID) : a.contains x = b.contains x := by
  rw [Bool.eq_iff_iff]; simp only [List.contains_iff_mem, h x]

theorem SameSet.any {α} {a b : List α} (h : SameSet a b) (p : α → Bool) : a.any p = b.any p := by
  rw [Bool.eq_iff_iff]; simp only [List.any_eq_true, h _]

theorem SameSet.all {α} {a b : List α} (h : SameSet a b) (p : α → Bool) : a.all p = b.all p := by
  rw [Bool.eq_iff_iff]; simp only [List.all_eq_true, h _]

theorem SameSet.perm {α} {a b : List α} (h : SameSet a b) (ha : a.Nodup) (hb : b.Nodup) : a ~ b :=
  (List.perm_ext_iff_of_nodup ha hb).mpr h

/-! ## Lists whose members are told apart by a key; keeping the first member per key

  Used for events and for Kahn nodes, both keyed by event ID. -/

section keyed
variable {α β : Type} (f : α → β) [BEq β] [LawfulBEq β]

def dedupByStep (acc : List α) (x : α) : List α := if acc.any (fun y => f y == f x) then acc else acc ++ [x]

omit [LawfulBEq β] in
theorem mem_dedupByStep {acc : List α} {x y : α} :
    y ∈ dedupByStep f acc x ↔ y ∈ acc ∨ (y = x ∧ acc.any (fun z => f z == f x) = false) := by
  unfold dedupByStep
  cases acc.any (fun z => f z == f x) <;> simp

omit [LawfulBEq β] in
theorem dedupBy_acc_sub {l acc : List α} {x : α} (h : x ∈ acc) : x ∈ l.foldl (dedupByStep f) acc :=
  List.foldlRecOn l _ h (fun _ hb _ _ => (mem_dedupByStep f).mpr (Or.inl hb))

omit [LawfulBEq β] in
theorem dedupBy_mem {l acc : List α} {x : α} (h : x ∈ l.foldl (dedupByStep f) acc) : x ∈ acc ∨ x ∈ l :=
  List.foldlRecOn l (dedupByStep f) (motive := fun b => ∀ x ∈ b, x ∈ acc ∨ x ∈ l) (fun _ hx => Or.inl hx)
    (fun _ hb _ ha x hx => ((mem_dedupByStep f).mp hx).elim (hb x) (fun hxa => Or.inr (hxa.1 ▸ ha))) x h

theorem dedupBy_find (k : β) (l acc : List α) :
    (l.foldl (dedupByStep f) acc).find? (fun y => f y == k) =
      (acc.find? (fun y => f y == k)).or (l.find? (fun y => f y == k)) := by
  induction l generalizing acc with
  | nil => simp
  | cons a as ih =>
    rw [List.foldl_cons, ih, List.find?_cons]
    unfold dedupByStep
    split
    · rename_i hs
      cases hk : f a == k with
      | false => rfl
      | true =>
        -- the accumulator already answers under the key of `a`
        obtain ⟨y, hy, hya⟩ := List.any_eq_true.mp hs
        have : (acc.find? (fun y => f y == k)).isSome := List.find?_isSome.mpr ⟨y, hy, eq_of_beq hk ▸ hya⟩
        obtain ⟨z, hz⟩ := Option.isSome_iff_exists.mp this
        rw [hz]; rfl
    · rw [List.find?_append, List.find?_cons, List.find?_nil, Option.or_assoc]
      cases f a == k <;> rfl

theorem dedupBy_nodup {l acc : List α} (h : (acc.map f).Nodup) : ((l.foldl (dedupByStep f) acc).map f).Nodup := by
  refine List.foldlRecOn l (dedupByStep f) (motive := fun b => (b.map f).Nodup) h (fun b hb a _ => ?_)
  unfold dedupByStep; split
  · exact hb
  · rename_i hn
    rw [List.map_append, List.nodup_append]
    refine ⟨hb, List.nodup_cons.mpr ⟨List.not_mem_nil, List.nodup_nil⟩, ?_⟩
    intro x hx y hy heq
    obtain ⟨e, he, rfl⟩ := List.mem_map.mp hx
    rw [List.mem_singleton.mp hy] at heq
    exact hn (List.any_eq_true.mpr ⟨e, he, beq_iff_eq.mpr heq⟩)

theorem dedupBy_mem_of_mem {U : α → Prop} (hU : ∀ a b, U a → U b → f a = f b → a = b) {l : List α} (hl : ∀ x ∈ l, U x)
    {x : α} (h : x ∈ l) : x ∈ l.foldl (dedupByStep f) [] := by
  have hf := dedupBy_find f (f x) l []
  rw [List.find?_nil, Option.none_or] at hf
  cases hx : l.find? (fun y => f y == f x) with
  | none => exact absurd (beq_self_eq_true _) (List.find?_eq_none.mp hx x h)
  | some y =>
    rw [hx] at hf
    rw [← hU y x (hl y (List.mem_of_find?_eq_some hx)) (hl x h) (eq_of_beq (List.find?_some (p := fun y => f y == f x) hx))]
    exact List.mem_of_find?_eq_some hf

end keyed

/-- within `U`, the event ID identifies the event -/
def EvId (U : Event → Prop) : Prop := ∀ x y, U x → U y → x.eventID = y.eventID → x = y

abbrev IdsIn (l : List Event) : Prop := EvId (· ∈ l)

theorem EvId.mono {U V : Event → Prop} (h : EvId U) (hV : ∀ x, V x → U x) : EvId V :=
  fun x y hx hy => h x y (hV x hx) (hV y hy)

def IdNodup (l : List Event) : Prop := (l.map (·.eventID)).Nodup

theorem IdNodup.nodup {l : List Event} (h : IdNodup l) : l.Nodup := Lists.nodup_of_nodup_map _ h

theorem IdNodup.idsIn {l : List Event} (h : IdNodup l) : IdsIn l := fun _ _ hx hy => Lists.eq_of_nodup_map _ h hx hy

theorem IdNodup.filter {l : List Event} (p : Event → Bool) (h : IdNodup l) : IdNodup (l.filter p) := by
  unfold IdNodup at *
  exact List.Nodup.sublist (List.Sublist.map _ List.filter_sublist) h

theorem IdNodup.perm {l l' : List Event} (hp : l ~ l') (h : IdNodup l) : IdNodup l' := by
  unfold IdNodup at *
  exact (hp.map _).nodup_iff.mp h

theorem findByID_some {m : List Event} {id : ID} {e : Event} (h : findByID m id = some e) : e ∈ m ∧ e.eventID = id := by
  unfold findByID at h
  exact ⟨List.mem_of_find?_eq_some h, by simpa using List.find?_some h⟩

theorem findByID_eq_none {m : List Event} {id : ID} : findByID m id = none ↔ ∀ e ∈ m, e.eventID ≠ id := by
  unfold findByID; simp

theorem findByID_isSome {m : List Event} {id : ID} : (findByID m id).isSome ↔ ∃ e ∈ m, e.eventID = id := by
  unfold findByID; simp

theorem findByID_nil (id : ID) : findByID [] id = none := rfl

theorem findByID_cons (a : Event) (m : List Event) (id : ID) :
    findByID (a :: m) id = if a.eventID == id then some a else findByID m id := by
  unfold findByID; rw [List.find?_cons]; split <;> simp_all

theorem findByID_append (m m' : List Event) (id : ID) :
    findByID (m ++ m') id = (findByID m id).or (findByID m' id) := by
  unfold findByID; rw [List.find?_append]

theorem findByID_of_mem {m : List Event} (hm : IdsIn m) {e : Event} (he : e ∈ m) : findByID m e.eventID = some e := by
  cases h : findByID m e.eventID with
  | none => exact absurd rfl (findByID_eq_none.mp h e he)
  | some x =>
    obtain ⟨hx, hid⟩ := findByID_some h
    rw [hm x e hx he hid]

theorem findByID_congr {U : Event → Prop} (hU : EvId U) {m m' : List Event} (hm : ∀ x ∈ m, U x)
    (h : SameSet m m') (id : ID) : findByID m id = findByID m' id :=
  Lists.find?_eq_of_mem_iff h (fun a ha b hb ea eb => hU a b (hm a ha) (hm b hb) ((eq_of_beq ea).trans (eq_of_beq eb).symm))

/-! ## eventMapFromEvents: first occurrence per ID -/

def dedupStep (acc : List Event) (e : Event) : List Event :=
  if (findByID acc e.eventID).isSome then acc else acc ++ [e]

theorem eventMapFromEvents_eq (l : List Event) : eventMapFromEvents l = l.foldl dedupStep [] := rfl

theorem dedupStep_eq : dedupStep = dedupByStep Event.eventID := by
  funext acc e
  unfold dedupStep dedupByStep findByID
  simp only [List.find?_isSome, List.any_eq_true]

theorem eventMapFromEvents_eq_dedupBy (l : List Event) : eventMapFromEvents l = l.foldl (dedupByStep Event.eventID) [] := by
  rw [eventMapFromEvents_eq, dedupStep_eq]

theorem dedupFold_acc_sub {l acc : List Event} {e : Event} (h : e ∈ acc) : e ∈ l.foldl dedupStep acc := by
  rw [dedupStep_eq]; exact dedupBy_acc_sub _ h

theorem mem_eventMap {l : List Event} {e : Event} (h : e ∈ eventMapFromEvents l) : e ∈ l :=
  (dedupBy_mem _ (eventMapFromEvents_eq_dedupBy l ▸ h)).resolve_left List.not_mem_nil

theorem eventMap_idNodup (l : List Event) : IdNodup (eventMapFromEvents l) := by
  rw [eventMapFromEvents_eq_dedupBy]; exact dedupBy_nodup _ List.nodup_nil

theorem findByID_eventMap (l : List Event) (id : ID) : findByID (eventMapFromEvents l) id = findByID l id := by
  rw [eventMapFromEvents_eq_dedupBy]; exact dedupBy_find Event.eventID id l []

theorem mem_eventMap_of_mem {l : List Event} (hl : IdsIn l) {e : Event} (h : e ∈ l) : e ∈ eventMapFromEvents l := by
  have := findByID_of_mem hl h
  rw [← findByID_eventMap] at this
  exact (findByID_some this).1

theorem eventMap_sameSet {l : List Event} (hl : IdsIn l) : SameSet (eventMapFromEvents l) l :=
  fun _ => ⟨mem_eventMap, mem_eventMap_of_mem hl⟩

theorem eventMap_idsIn (l : List Event) : IdsIn (eventMapFromEvents l) := (eventMap_idNodup l).idsIn

theorem eventMap_ids (l : List Event) (id : ID) :
    id ∈ (eventMapFromEvents l).map (·.eventID) ↔ id ∈ l.map (·.eventID) := by
  simp only [List.mem_map, ← findByID_isSome, findByID_eventMap]

theorem eventMap_perm {U : Event → Prop} (hU : EvId U) {l l' : List Event} (hl : ∀ x ∈ l, U x)
    (h : SameSet l l') : eventMapFromEvents l ~ eventMapFromEvents l' := by
  refine SameSet.perm ?_ (eventMap_idNodup l).nodup (eventMap_idNodup l').nodup
  exact (eventMap_sameSet (hU.mono hl)).trans (h.trans (eventMap_sameSet (hU.mono fun x hx => hl x ((h x).mpr hx))).symm)

theorem eventMap_of_idNodup {l : List Event} (h : IdNodup l) : eventMapFromEvents l = l := by
  refine Lists.foldl_eq_append_of_nodup Event.eventID (fun acc x hx => ?_) l [] h
  show dedupStep acc x = _
  rw [dedupStep_eq, dedupByStep, if_neg]
  rw [List.any_eq_true]
  rintro ⟨y, hy, e⟩
  exact hx (eq_of_beq e ▸ List.mem_map_of_mem hy)

theorem mem_unionIDs {a b : List ID} {x : ID} : x ∈ unionIDs a b ↔ x ∈ a ∨ x ∈ b := Lists.mem_foldl_insertNew

theorem nodup_unionIDs {a : List ID} (b : List ID) (h : a.Nodup) : (unionIDs a b).Nodup := Lists.nodup_foldl_insertNew b h

theorem mem_insertID {s : List ID} {id x : ID} : x ∈ insertID s id ↔ x ∈ s ∨ x = id :=
  (mem_unionIDs (b := [id])).trans (by rw [List.mem_singleton])

theorem mem_foldl_unionIDs {ls : List (List ID)} {a : List ID} {x : ID} :
    x ∈ ls.foldl unionIDs a ↔ x ∈ a ∨ ∃ l ∈ ls, x ∈ l := by
  induction ls generalizing a with
  | nil => simp
  | cons l ls ih =>
    rw [List.foldl_cons, ih, mem_unionIDs]
    simp only [List.mem_cons, exists_eq_or_imp, or_assoc]

theorem nodup_foldl_unionIDs {a : List ID} (ls : List (List ID)) (h : a.Nodup) : (ls.foldl unionIDs a).Nodup :=
  List.foldlRecOn ls unionIDs h (fun _ hb l _ => nodup_unionIDs l hb)

/-! ## the pigeonhole measure of the searches that mark IDs of a finite map -/

def unseenIn (m : List Event) (seen : List ID) : Nat := m.countP (fun x => !seen.contains x.eventID)

theorem not_contains_iff (l : List ID) (y : ID) : (!l.contains y) = true ↔ y ∉ l :=
  Lists.not_eq_true_iff List.contains_iff_mem

theorem unseenIn_le_length (m : List Event) (seen : List ID) : unseenIn m seen ≤ m.length := List.countP_le_length

theorem unseenIn_nil (m : List Event) : unseenIn m [] = m.length := by
  unfold unseenIn; simp

theorem unseenIn_mono {m : List Event} {a b : List ID} (h : ∀ x ∈ a, x ∈ b) : unseenIn m b ≤ unseenIn m a :=
  List.countP_mono_left fun _ _ he => (not_contains_iff a _).mpr fun hc => (not_contains_iff b _).mp he (h _ hc)

theorem unseenIn_lt {m : List Event} {a b : List ID} (h : ∀ x ∈ a, x ∈ b) {f : Event} (hf : f ∈ m) (h1 : f.eventID ∉ a)
    (h2 : f.eventID ∈ b) : unseenIn m b < unseenIn m a :=
  Lists.countP_lt_of_witness m (fun x _ he => (not_contains_iff a _).mpr fun hc => (not_contains_iff b _).mp he (h _ hc))
    ⟨f, hf, (not_contains_iff a _).mpr h1, by rw [← Bool.not_eq_true, not_contains_iff]; exact fun h => h h2⟩

/-- two event maps that answer every lookup alike and have the same size (the closures use the size as fuel) -/
def MapEq (m m' : List Event) : Prop := m.length = m'.length ∧ ∀ id, findByID m id = findByID m' id

theorem MapEq.refl (m : List Event) : MapEq m m := ⟨rfl, fun _ => rfl⟩
theorem MapEq.symm {m m' : List Event} (h : MapEq m m') : MapEq m' m := ⟨h.1.symm, fun id => (h.2 id).symm⟩
theorem MapEq.find_eq {am am' : List Event} (h : MapEq am am') : findByID am = findByID am' := funext h.2

theorem eventMap_mapEq {U : Event → Prop} (hU : EvId U) {l l' : List Event} (hl : ∀ x ∈ l, U x)
    (h : SameSet l l') : MapEq (eventMapFromEvents l) (eventMapFromEvents l') := by
  refine ⟨(eventMap_perm hU hl h).length_eq, fun id => ?_⟩
  rw [findByID_eventMap, findByID_eventMap]
  exact findByID_congr hU hl h id

/-- every state set of one list has the same events as some state set of the other, and conversely -/
def SetsSim (a b : List (List Event)) : Prop :=
  (∀ s ∈ a, ∃ s' ∈ b, SameSet s s') ∧ (∀ s' ∈ b, ∃ s ∈ a, SameSet s s')

theorem SetsSim.refl (a : List (List Event)) : SetsSim a a :=
  ⟨fun s hs => ⟨s, hs, SameSet.refl s⟩, fun s hs => ⟨s, hs, SameSet.refl s⟩⟩

/-- what `SetsSim` is for: a property of state sets that respects `SameSet` holds of some / every state set on one side
    iff it does on the other -/
theorem SetsSim.exists_congr {a b : List (List Event)} (h : SetsSim a b) {p q : List Event → Prop}
    (hp : ∀ s ∈ a, ∀ s' ∈ b, SameSet s s' → (p s ↔ q s')) : (∃ s ∈ a, p s) ↔ ∃ s' ∈ b, q s' :=
  ⟨fun ⟨s, hs, h1⟩ => let ⟨s', hs', e⟩ := h.1 s hs; ⟨s', hs', (hp s hs s' hs' e).mp h1⟩,
   fun ⟨s', hs', h1⟩ => let ⟨s, hs, e⟩ := h.2 s' hs'; ⟨s, hs, (hp s hs s' hs' e).mpr h1⟩⟩

theorem SetsSim.forall_congr {a b : List (List Event)} (h : SetsSim a b) {p q : List Event → Prop}
    (hp : ∀ s ∈ a, ∀ s' ∈ b, SameSet s s' → (p s ↔ q s')) : (∀ s ∈ a, p s) ↔ ∀ s' ∈ b, q s' :=
  ⟨fun h1 s' hs' => let ⟨s, hs, e⟩ := h.2 s' hs'; (hp s hs s' hs' e).mp (h1 s hs),
   fun h1 s hs => let ⟨s', hs', e⟩ := h.1 s hs; (hp s hs s' hs' e).mpr (h1 s' hs')⟩

/-- corresponding state sets are permutations of each other -/
inductive EachPerm : List (List Event) → List (List Event) → Prop
  | nil : EachPerm [] []
  | cons {s s' : List Event} {c b : List (List Event)} : s ~ s' → EachPerm c b → EachPerm (s :: c) (s' :: b)

/-- `b` is `a` with the state sets permuted and the events inside each state set permuted -/
def SetsEquiv (a b : List (List Event)) : Prop := ∃ c, a ~ c ∧ EachPerm c b

theorem SetsEquiv.refl (a : List (List Event)) : SetsEquiv a a := by
  refine ⟨a, Perm.refl a, ?_⟩
  induction a with
  | nil => exact .nil
  | cons x xs ih => exact .cons (Perm.refl x) ih

theorem SetsEquiv.length_eq {a b : List (List Event)} (h : SetsEquiv a b) : a.length = b.length := by
  obtain ⟨c, hp, hf⟩ := h
  rw [hp.length_eq]
  clear hp
  induction hf with
  | nil => rfl
  | cons _ _ ih => rw [List.length_cons, List.length_cons, ih]

theorem SetsEquiv.flatten_perm {a b : List (List Event)} (h : SetsEquiv a b) : a.flatten ~ b.flatten := by
  obtain ⟨c, hp, hf⟩ := h
  refine hp.flatten.trans ?_
  clear hp
  induction hf with
  | nil => exact Perm.refl _
  | cons h1 _ ih => simp only [List.flatten_cons]; exact h1.append ih

theorem EachPerm.sim {c b : List (List Event)} (h : EachPerm c b) : SetsSim c b := by
  induction h with
  | nil => exact ⟨fun _ h => absurd h List.not_mem_nil, fun _ h => absurd h List.not_mem_nil⟩
  | cons h1 _ ih =>
    refine ⟨fun s hs => ?_, fun s hs => ?_⟩
    · rcases List.mem_cons.mp hs with rfl | hs
      · exact ⟨_, List.mem_cons_self, SameSet.of_perm h1⟩
      · obtain ⟨s', hs', h'⟩ := ih.1 s hs
        exact ⟨s', List.mem_cons_of_mem _ hs', h'⟩
    · rcases List.mem_cons.mp hs with rfl | hs
      · exact ⟨_, List.mem_cons_self, SameSet.of_perm h1⟩
      · obtain ⟨s', hs', h'⟩ := ih.2 s hs
        exact ⟨s', List.mem_cons_of_mem _ hs', h'⟩

theorem SetsEquiv.sim {a b : List (List Event)} (h : SetsEquiv a b) : SetsSim a b := by
  obtain ⟨c, hp, hf⟩ := h
  refine ⟨fun s hs => hf.sim.1 s (hp.mem_iff.mp hs), fun s' hs' => ?_⟩
  obtain ⟨s, hs, h'⟩ := hf.sim.2 s' hs'
  exact ⟨s, hp.mem_iff.mpr hs, h'⟩

theorem countID_eq (sets : List (List Event)) (id : ID) :
    countID sets id = (sets.flatten.filter (fun e => e.eventID == id)).length := by
  unfold countID
  suffices ∀ n, (sets.map (fun s => (s.filter (fun e => e.eventID == id)).length)).foldl (· + ·) n
      = n + (sets.flatten.filter (fun e => e.eventID == id)).length by simpa using this 0
  induction sets with
  | nil => intro n; simp
  | cons s ss ih =>
    intro n
    simp only [List.map_cons, List.foldl_cons, List.flatten_cons, List.filter_append, List.length_append]
    rw [ih]; omega

theorem SetsEquiv.countID_eq {a b : List (List Event)} (h : SetsEquiv a b) (id : ID) : countID a id = countID b id := by
  rw [V.StateRes.countID_eq, V.StateRes.countID_eq]
  exact (h.flatten_perm.filter _).length_eq

/-- the (type, state_key) slot of a state event -/
def keyOf (e : Event) : Bytes × Bytes := (e.type, e.stateKey.getD [])

/-- `e` is a state event occupying slot `key` -/
def hasKey (key : Bytes × Bytes) (e : Event) : Bool := e.stateKey.isSome && keyOf e == key

theorem hasKey_iff {key : Bytes × Bytes} {e : Event} : hasKey key e = true ↔ e.stateKey = some key.2 ∧ e.type = key.1 := by
  unfold hasKey keyOf
  cases h : e.stateKey with
  | none => simp
  | some k =>
    simp only [Option.isSome_some, Option.getD_some, Bool.true_and, beq_iff_eq]
    constructor
    · intro h'; subst h'; exact ⟨rfl, rfl⟩
    · rintro ⟨h1, h2⟩; cases h1; rw [h2]

theorem hasKey_keyOf {e : Event} (h : e.stateKey.isSome) : hasKey (keyOf e) e = true := by
  unfold hasKey; simp [h]

theorem hasKey_iff_keyOf {key : Bytes × Bytes} {e : Event} :
    hasKey key e = true ↔ e.stateKey.isSome ∧ keyOf e = key := by
  unfold hasKey; simp

theorem keyOf_some {e : Event} {k : Bytes} (h : e.stateKey = some k) : keyOf e = (e.type, k) := by
  unfold keyOf; rw [h]; rfl

end V.StateRes
