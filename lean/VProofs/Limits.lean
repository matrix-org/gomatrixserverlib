/- Helper definitions and lemmas about VModel.Limits (C17): the decision as a function of WHICH limits are exceeded. -/
import VModel.Limits
namespace V.Limits

structure Exceeds where
  json : Bool
  typeCP : Bool
  skCP : Bool
  typeB : Bool
  skB : Bool
  senderCP : Bool
  senderB : Bool
  roomCP : Bool
  roomB : Bool
  deriving DecidableEq, Repr

def exceeds (maxID maxEvent : Nat) (s : Sizes) : Exceeds :=
  { json := s.jsonLen > maxEvent, typeCP := s.typeCP > maxID, skCP := s.hasStateKey && s.skCP > maxID,
    typeB := s.typeBytes > maxID, skB := s.hasStateKey && s.skBytes > maxID,
    senderCP := s.sender.cp > maxID, senderB := s.sender.bytes > maxID,
    roomCP := s.room.cp > maxID, roomB := s.room.bytes > maxID }

/-- suffix `X`: `checkIDSize`, `checkRoomIDField`, `checkFields`, `roomCheckOutcome` and `verdict` of the model with the same guards,
    reading which limits are exceeded instead of comparing sizes -/
def checkIDX (colon sigil cp b : Bool) : Outcome :=
  if !colon then .other else if !sigil then .other else if cp then .tooLarge else if b then .tooLargePersistable else .ok

def checkRoomIDFieldX (colon sigil cp b rValid : Bool) : Outcome :=
  match checkIDX colon sigil cp b with
  | .ok => if rValid then .ok else .other
  | .tooLargePersistable => .tooLarge
  | e => e

def checkFieldsX (lenient exempt sColon sSigil : Bool) (x : Exceeds) : Outcome :=
  if x.json then .tooLarge else if x.typeCP then .tooLarge else if x.skCP then .tooLarge
  else if x.senderCP then .tooLarge
  else if !exempt && !sColon then .other
  else if !exempt && !sSigil then .other
  else if x.typeB then soft lenient else if x.skB then soft lenient
  else if x.senderB then .tooLargePersistable else .ok

def roomX (rc : RoomCheck) (create rColon rSigil rValid roomCP roomB : Bool) : Outcome :=
  match rc with
  | .checkID => checkRoomIDFieldX rColon rSigil roomCP roomB rValid
  | .prefixOnly =>
    if create then (if roomCP then Outcome.tooLarge else if roomB then Outcome.tooLarge else Outcome.ok)
    else if !rSigil then Outcome.other else if rValid then Outcome.ok else Outcome.other

/-- `verdict` as a function of the exceeded limits only -/
def verdictX (lenient exempt : Bool) (rc : RoomCheck) (create sColon sSigil rColon rSigil rValid : Bool) (x : Exceeds) : Outcome :=
  (roomX rc create rColon rSigil rValid x.roomCP x.roomB).andThen (checkFieldsX lenient exempt sColon sSigil x)

/-- `verdictUntrusted`: `x` describes the event as received, `checkedJson` says whether the JSON that
    CheckFields sees (the redacted one if the hash does not match) is over the limit -/
def verdictUntrustedX (lenient exempt : Bool) (rc : RoomCheck) (create sColon sSigil rColon rSigil rValid : Bool) (x : Exceeds)
    (checkedJson : Bool) : Outcome :=
  (roomX rc create rColon rSigil rValid x.roomCP x.roomB).andThen
    (if x.json then .tooLarge else checkFieldsX lenient exempt sColon sSigil { x with json := checkedJson })

theorem checkFields_eq_X (p : Params) (s : Sizes) :
    checkFields p s = checkFieldsX p.lenient p.senderExempt s.sender.hasColon s.sender.sigilOk (exceeds p.maxID p.maxEvent s) := by
  obtain ⟨jl, tcp, tb, hsk, scp, sb, ⟨sc, ss, secp, seb⟩, ⟨rc, rs, rcp, rb⟩, rv, cr⟩ := s
  obtain ⟨mi, me, le, ex, rck⟩ := p
  simp only [checkFields, checkFieldsX, exceeds, decide_eq_true_eq, Bool.and_eq_true]

theorem room_eq_X (p : Params) (s : Sizes) :
    roomCheckOutcome p s = roomX p.roomCheck s.create s.room.hasColon s.room.sigilOk s.roomValid
      (exceeds p.maxID p.maxEvent s).roomCP (exceeds p.maxID p.maxEvent s).roomB := by
  obtain ⟨jl, tcp, tb, hsk, scp, sb, ⟨sc, ss, secp, seb⟩, ⟨rc, rs, rcp, rb⟩, rv, cr⟩ := s
  obtain ⟨mi, me, le, ex, rck⟩ := p
  cases rck
  · simp only [roomCheckOutcome, roomX, checkRoomIDField, checkRoomIDFieldX, checkIDSize, checkIDX, exceeds, decide_eq_true_eq]
    cases rc <;> cases rs <;> by_cases h1 : rcp > mi <;> by_cases h2 : rb > mi <;> simp [h1, h2]
  · simp only [roomCheckOutcome, roomX, exceeds, decide_eq_true_eq]

theorem verdict_eq_verdictX (p : Params) (s : Sizes) :
    verdict p s = verdictX p.lenient p.senderExempt p.roomCheck s.create s.sender.hasColon s.sender.sigilOk
      s.room.hasColon s.room.sigilOk s.roomValid (exceeds p.maxID p.maxEvent s) := by
  unfold verdict verdictX
  rw [room_eq_X, checkFields_eq_X]

theorem verdictUntrusted_eq_X (p : Params) (s : Sizes) (n : Nat) :
    verdictUntrusted p s n = verdictUntrustedX p.lenient p.senderExempt p.roomCheck s.create s.sender.hasColon s.sender.sigilOk
      s.room.hasColon s.room.sigilOk s.roomValid (exceeds p.maxID p.maxEvent s) (decide (n > p.maxEvent)) := by
  unfold verdictUntrusted verdictUntrustedX
  rw [room_eq_X, checkFields_eq_X]
  simp only [exceeds, decide_eq_true_eq]

def Exceeds.hard (x : Exceeds) : Bool := x.json || x.typeCP || x.skCP || x.senderCP || x.roomCP
def Exceeds.softAny (x : Exceeds) : Bool := x.typeB || x.skB || x.senderB || x.roomB

def specX (wf : Bool) (x : Exceeds) : Option Outcome :=
  if !wf then none else if x.hard then some .tooLarge else if x.softAny then some .tooLargePersistable else some .ok

theorem spec_eq_specX (dl ps : Bool) (s : Sizes) :
    Spec.verdict dl ps s = specX (Spec.wellFormedIDs dl ps s) (exceeds 255 65536 s) := by
  rfl

/-- the one remaining gap (KNOWN FINDING): the room ID is over the byte limit only and no hard limit is
    exceeded; the property says "too large but persistable", the code refuses (a room ID over 255 bytes is
    not a valid room ID, and the constructors return no event that could be persisted) -/
def Exceeds.roomBytesOnly (x : Exceeds) : Bool := !x.roomCP && x.roomB && !x.hard

variable {lenient exempt create sColon sSigil rColon rSigil rValid checked : Bool} {rc : RoomCheck} {x : Exceeds}

/-- for `lenient = true` only: the property has no other case, and every registered version is lenient
    (`V.C17.limits_params_eq_spec`) -/
theorem checkFieldsX_eq_specX
    (hs : (exempt || (sColon && sSigil)) = true) (hcp : x.roomCP = false) (hb : x.roomB = false) :
    some (checkFieldsX true exempt sColon sSigil x) = specX true x := by
  obtain ⟨json, typeCP, skCP, typeB, skB, senderCP, senderB, roomCP, roomB⟩ := x
  cases hcp; cases hb
  have hshape : checkFieldsX true exempt sColon sSigil = checkFieldsX true true true true := by
    cases exempt
    · obtain ⟨rfl, rfl⟩ : sColon = true ∧ sSigil = true := by simpa using hs
      rfl
    · rfl
  rw [hshape]
  -- both sides test the same limits in the same order: one case per guard
  cases json; case true => rfl
  cases typeCP; case true => rfl
  cases skCP; case true => rfl
  cases senderCP; case true => rfl
  cases typeB; case true => rfl
  cases skB; case true => rfl
  cases senderB <;> rfl

theorem verdictX_room_over
    (hover : (x.roomCP || x.roomB) = true) (hrv : rValid = true → x.roomB = false ∧ x.roomCP = false) :
    (verdictX lenient exempt rc create sColon sSigil rColon rSigil rValid x).cls = .refused := by
  -- such an ID is not valid (`hv`), and then either room-ID check refuses it: a table of 64 rows
  have hroom : ∀ (rc : RoomCheck) (create rColon rSigil roomCP roomB : Bool), (roomCP || roomB) = true →
      (roomX rc create rColon rSigil false roomCP roomB).cls = .refused := by
    intro rc; cases rc <;> decide
  have hv : rValid = false := by
    cases rValid
    · rfl
    · rw [(hrv rfl).1, (hrv rfl).2] at hover; cases hover
  subst hv
  have h := hroom rc create rColon rSigil _ _ hover
  unfold verdictX
  cases hr : roomX rc create rColon rSigil false x.roomCP x.roomB <;> first | rfl | (rw [hr] at h; cases h)

/-- the JSON CheckFields sees on receipt is over the limit only if the received one is: the second test adds nothing -/
theorem verdictUntrustedX_eq_verdictX (h : checked = true → x.json = true) :
    verdictUntrustedX lenient exempt rc create sColon sSigil rColon rSigil rValid x checked =
      verdictX lenient exempt rc create sColon sSigil rColon rSigil rValid x := by
  obtain ⟨json, typeCP, skCP, typeB, skB, senderCP, senderB, roomCP, roomB⟩ := x
  cases json
  · cases checked
    · rfl
    · cases h rfl
  · rfl

theorem Exceeds.hard_of_room_over (hover : (x.roomCP || x.roomB) = true) (hgap : x.roomBytesOnly = false) :
    x.hard = true := by
  cases hcp : x.roomCP
  · cases hh : x.hard
    · rw [hcp] at hover
      rw [roomBytesOnly, hcp, hh, show x.roomB = true from hover] at hgap
      cases hgap
    · rfl
  · rw [hard, hcp]; exact Bool.or_true _

end V.Limits
