/-
  The set-valued stages of the EXECUTABLE rendering `VModel/StateResSpecExec.lean` compute the Prop-level
  definitions of `VModel/StateResSpec.lean`, for well-formed input (event IDs identify events).
  Part 2: auth difference, conflicted subgraph, full conflicted set, control set, other set.
  IDs identify events inside `sets.flatten ++ m` (the state sets and the auth map, as in `Resolves.unique`); for the
  control closure inside `full ++ conf`.
-/
import VProofs.StateResSpecExecSets
namespace V.StateResSpec.Exec
open V.StateRes (IdNodup EvId)

section AuthDiff
variable {m : List Event} {sets : List (List Event)}

theorem idsIdentify_flatten (hU : IDsIdentify (· ∈ sets.flatten ++ m)) : IDsIdentify (· ∈ sets.flatten) :=
  fun a b ha hb => hU a b (List.mem_append_left _ ha) (List.mem_append_left _ hb)

theorem mem_univ_iff (hU : IDsIdentify (· ∈ sets.flatten ++ m)) {x : Event} :
    x ∈ distinct (sets.flatten ++ m) ↔ x ∈ sets.flatten ++ m := mem_distinct hU (fun _ h => h)

theorem mem_univ_of_set (hU : IDsIdentify (· ∈ sets.flatten ++ m)) {S : List Event}
    (hS : S ∈ sets) {x : Event} (hx : x ∈ S) : x ∈ distinct (sets.flatten ++ m) :=
  (mem_univ_iff hU).mpr (List.mem_append_left _ (List.mem_flatten_of_mem hS hx))

theorem mem_univ_of_reach (hU : IDsIdentify (· ∈ sets.flatten ++ m)) {a b : Event}
    (ha : a ∈ distinct (sets.flatten ++ m)) (h : Reach (· ∈ m) a b) : b ∈ distinct (sets.flatten ++ m) :=
  h.source_or_mem.elim (fun e => e ▸ ha) fun hb => (mem_univ_iff hU).mpr (List.mem_append_right _ hb)

/-- the reach table of `resolve`, read inside the universe `sets.flatten ++ m` -/
theorem plus_univ_iff (hU : IDsIdentify (· ∈ sets.flatten ++ m)) (hm : IdNodup m) {a b : Event}
    (ha : a ∈ distinct (sets.flatten ++ m)) (hb : b ∈ sets.flatten ++ m) :
    (reachTable m (distinct (sets.flatten ++ m))).plus a b = true ↔ ReachPlus (· ∈ m) a b :=
  plus_iff_in hU hm (fun _ => List.mem_append_right _) (fun _ => mem_of_mem_distinct) ha hb

theorem star_univ_iff (hU : IDsIdentify (· ∈ sets.flatten ++ m)) (hm : IdNodup m) {a b : Event}
    (ha : a ∈ distinct (sets.flatten ++ m)) (hb : b ∈ sets.flatten ++ m) :
    (reachTable m (distinct (sets.flatten ++ m))).star a b = true ↔ Reach (· ∈ m) a b :=
  star_iff_in hU hm (fun _ => List.mem_append_right _) (fun _ => mem_of_mem_distinct) ha hb

theorem inAuthChain_iff (hU : IDsIdentify (· ∈ sets.flatten ++ m)) (hm : IdNodup m)
    {S : List Event} (hS : S ∈ sets) {y : Event} (hy : y ∈ m) :
    inAuthChain (reachTable m (distinct (sets.flatten ++ m))) S y = true ↔ InAuthChain (· ∈ m) S y := by
  unfold inAuthChain InAuthChain
  rw [List.any_eq_true]
  exact exists_congr fun s => and_congr_right fun hs =>
    plus_univ_iff hU hm (mem_univ_of_set hU hS hs) (List.mem_append_right _ hy)

theorem mem_authDifference_iff (hU : IDsIdentify (· ∈ sets.flatten ++ m)) (hm : IdNodup m) {y : Event} :
    y ∈ authDifference (reachTable m (distinct (sets.flatten ++ m))) m sets ↔ AuthDifference (· ∈ m) sets y := by
  unfold authDifference AuthDifference
  rw [List.mem_filter, Bool.and_eq_true, Bool.not_eq_true', List.any_eq_true, List.all_eq_false]
  constructor
  · rintro ⟨hy, ⟨S, hS, h⟩, S', hS', h'⟩
    exact ⟨⟨S, hS, (inAuthChain_iff hU hm hS hy).mp h⟩,
      S', hS', fun hc => h' ((inAuthChain_iff hU hm hS' hy).mpr hc)⟩
  · rintro ⟨⟨S, hS, h⟩, S', hS', h'⟩
    have hy : y ∈ m := by
      obtain ⟨s, _, hr⟩ := h
      exact hr.target
    exact ⟨hy, ⟨S, hS, (inAuthChain_iff hU hm hS hy).mpr h⟩,
      S', hS', fun hc => h' ((inAuthChain_iff hU hm hS' hy).mp hc)⟩

theorem authDifference_sub {t : ReachTable} : ∀ x ∈ authDifference t m sets, x ∈ m :=
  fun _ hx => (List.mem_filter.mp hx).1

/-- `conf` enters by ID only, on both sides: its events need not lie in the universe. -/
theorem mem_subgraph_iff (hU : IDsIdentify (· ∈ sets.flatten ++ m)) (hm : IdNodup m) (conf : List Event) {x : Event} :
    x ∈ subgraph (reachTable m (distinct (sets.flatten ++ m))) m conf sets ↔
      ConflictedSubgraph (· ∈ m) (· ∈ conf) sets x := by
  unfold subgraph ConflictedSubgraph
  simp only []
  rw [List.mem_filter, Bool.and_eq_true, List.any_eq_true, List.any_eq_true]
  have hstar := fun a ha b hb => star_univ_iff hU hm (a := a) (b := b) ha (mem_of_mem_distinct hb)
  constructor
  · rintro ⟨hx, ⟨S, hS, hany⟩, c, hc, hxc⟩
    obtain ⟨o, hoS, ho⟩ := List.any_eq_true.mp hany
    rw [Bool.and_eq_true] at ho
    obtain ⟨hcUl, hcc⟩ := List.mem_filter.mp hc
    exact ⟨S, hS, o, hoS, memID_iff.mp ho.1, (hstar o (mem_univ_of_set hU hS hoS) x hx).mp ho.2,
      c, memID_iff.mp hcc, (hstar x hx c hcUl).mp hxc⟩
  · rintro ⟨S, hS, o, hoS, hoc, hox, c, hcc, hxc⟩
    have hoUl := mem_univ_of_set hU hS hoS
    have hx := mem_univ_of_reach hU hoUl hox
    have hcUl := mem_univ_of_reach hU hx hxc
    refine ⟨hx, ⟨S, hS, List.any_eq_true.mpr ⟨o, hoS, ?_⟩⟩, c, List.mem_filter.mpr ⟨hcUl, memID_iff.mpr hcc⟩,
      (hstar x hx c hcUl).mpr hxc⟩
    rw [Bool.and_eq_true]
    exact ⟨memID_iff.mpr hoc, (hstar o hoUl x hx).mpr hox⟩

theorem subgraph_sub {t : ReachTable} {conf : List Event} :
    ∀ x ∈ subgraph t m conf sets, x ∈ distinct (sets.flatten ++ m) :=
  fun _ hx => (List.mem_filter.mp hx).1

theorem stateEvents_sub : ∀ x ∈ stateEvents sets, x ∈ sets.flatten := by
  intro x hx
  unfold stateEvents at hx
  exact mem_of_mem_distinct (List.mem_filter.mp hx).1

theorem conflicted_sub : ∀ x ∈ conflicted sets, x ∈ sets.flatten :=
  fun x hx => stateEvents_sub x (List.mem_filter.mp hx).1

theorem unconflicted_sub : ∀ x ∈ unconflicted sets, x ∈ sets.flatten :=
  fun x hx => stateEvents_sub x (List.mem_filter.mp hx).1

theorem mem_fullConflicted_iff (hU : IDsIdentify (· ∈ sets.flatten ++ m)) (hm : IdNodup m) (algo : Nat) {x : Event} :
    x ∈ fullConflicted algo (reachTable m (distinct (sets.flatten ++ m))) m sets ↔
      FullConflicted algo (· ∈ m) sets x := by
  unfold fullConflicted FullConflicted
  have hids := idsIdentify_flatten hU
  have hcdU : ∀ t : ReachTable, ∀ z ∈ conflicted sets ++ authDifference t m sets, z ∈ sets.flatten ++ m := fun t =>
    List.forall_mem_append.mpr ⟨fun z h => List.mem_append_left _ (conflicted_sub z h),
      fun z h => List.mem_append_right _ (authDifference_sub z h)⟩
  by_cases ha : algo = 3
  · subst ha
    rw [if_pos (beq_self_eq_true 3), mem_distinct hU (List.forall_mem_append.mpr ⟨hcdU _, fun z hz =>
        mem_of_mem_distinct (subgraph_sub z hz)⟩), List.mem_append, List.mem_append, or_assoc,
      mem_conflicted_iff hids, mem_authDifference_iff hU hm, mem_subgraph_iff hU hm,
      ConflictedSubgraph.congr (fun z => mem_conflicted_iff hids)]
    simp only [true_and]
  · rw [if_neg (by simpa using ha), List.append_nil, mem_distinct hU (hcdU _), List.mem_append,
      mem_conflicted_iff hids, mem_authDifference_iff hU hm]
    simp only [ha, false_and, or_false]

end AuthDiff

section Control
variable {conf full unconf : List Event}

theorem mem_controlRoots_iff {r : Event} :
    r ∈ controlRoots full unconf ↔ ControlRoot (· ∈ full) (· ∈ unconf) r := by
  unfold controlRoots ControlRoot
  rw [List.mem_filter, Bool.and_eq_true, Lists.not_eq_true_iff memID_iff]

theorem controlRoots_sub : ∀ r ∈ controlRoots full unconf, r ∈ full :=
  fun _ hr => (List.mem_filter.mp hr).1

/-- `unconf` enters by ID only. -/
theorem mem_controlSet_iff (hU : IDsIdentify (· ∈ full ++ conf)) (hconfN : IdNodup conf) {x : Event} :
    x ∈ controlSet conf full unconf ↔ ControlSet (· ∈ conf) (· ∈ full) (· ∈ unconf) x := by
  unfold controlSet ControlSet
  simp only []
  rw [List.mem_filter, List.any_eq_true, mem_distinct hU (fun _ h => h)]
  have hstar := fun r (hr : r ∈ controlRoots full unconf) y hy => star_iff_in hU hconfN (fun _ => List.mem_append_right _)
    (fun r hr => List.mem_append_left _ (controlRoots_sub r hr)) hr (y := y) hy
  constructor
  · rintro ⟨hx, r, hr, h⟩
    exact ⟨r, mem_controlRoots_iff.mp hr, (hstar r hr x hx).mp h⟩
  · rintro ⟨r, hroot, hreach⟩
    have hr := mem_controlRoots_iff.mpr hroot
    have hx : x ∈ full ++ conf := by
      rcases hreach.source_or_mem with h | h
      · exact List.mem_append_left _ (h ▸ controlRoots_sub r hr)
      · exact List.mem_append_right _ h
    exact ⟨hx, r, hr, (hstar r hr x hx).mpr hreach⟩

theorem controlSet_sub : ∀ x ∈ controlSet conf full unconf, x ∈ full ++ conf := by
  intro x hx
  unfold controlSet at hx
  exact mem_of_mem_distinct (List.mem_filter.mp hx).1

theorem mem_otherSet_iff (hU : IDsIdentify (· ∈ full ++ conf)) (hconfN : IdNodup conf) {x : Event} :
    x ∈ otherSet conf full unconf ↔ OtherSet (· ∈ conf) (· ∈ full) (· ∈ unconf) x := by
  unfold otherSet OtherSet
  simp only []
  rw [List.mem_filter, Bool.and_eq_true, Lists.not_eq_true_iff memID_iff]
  exact and_congr_right fun hf => and_congr_right fun _ => Lists.not_eq_true_iff
    ((memID_iff_mem hU controlSet_sub (List.mem_append_left _ hf)).trans (mem_controlSet_iff hU hconfN))

end Control

theorem authMap_sub {auth : List Event} : ∀ x ∈ authMap auth, x ∈ auth := fun _ h => mem_of_mem_distinct h

theorem resolve_sets_spec (algo : Nat) {sets : List (List Event)} {auth : List Event} (hwf : WF sets auth) :
    let m := authMap auth
    let t := reachTable m (distinct (sets.flatten ++ m))
    let full := fullConflicted algo t m sets
    (∀ x, x ∈ conflicted sets ↔ Conflicted sets x) ∧
    (∀ x, x ∈ unconflicted sets ↔ Unconflicted sets x) ∧
    (∀ x, x ∈ full ↔ FullConflicted algo (· ∈ m) sets x) ∧
    (∀ x, x ∈ controlSet (conflicted sets) full (unconflicted sets) ↔
      ControlSet (Conflicted sets) (FullConflicted algo (· ∈ m) sets) (Unconflicted sets) x) ∧
    (∀ x, x ∈ otherSet (conflicted sets) full (unconflicted sets) ↔
      OtherSet (Conflicted sets) (FullConflicted algo (· ∈ m) sets) (Unconflicted sets) x) ∧
    (otherSet (conflicted sets) full (unconflicted sets)).Nodup := by
  intro m t full
  have hU : IDsIdentify (· ∈ sets.flatten ++ m) := EvId.mono hwf.ids fun x hx =>
    List.mem_append.mpr ((List.mem_append.mp hx).imp_right (authMap_sub x))
  have hm : IdNodup m := distinct_idNodup auth
  have hids : IDsIdentify (· ∈ sets.flatten) := idsIdentify_flatten hU
  have hconf : ∀ x, x ∈ conflicted sets ↔ Conflicted sets x := fun x => mem_conflicted_iff hids
  have hunconf : ∀ x, x ∈ unconflicted sets ↔ Unconflicted sets x := fun x => mem_unconflicted_iff hids
  have hfull : ∀ x, x ∈ full ↔ FullConflicted algo (· ∈ m) sets x := fun x => mem_fullConflicted_iff hU hm algo
  have hU' : IDsIdentify (· ∈ full ++ conflicted sets) := EvId.mono hU fun x hx => (List.mem_append.mp hx).elim
    (fun h => ((hfull x).mp h).inU (fun _ => List.mem_append_right _)
      (fun S hS y hy => List.mem_append_left _ (List.mem_flatten_of_mem hS hy)))
    (fun h => List.mem_append_left _ (conflicted_sub x h))
  refine ⟨hconf, hunconf, hfull, ?_, ?_, ?_⟩
  · intro x
    rw [mem_controlSet_iff hU' (conflicted_idNodup sets)]
    exact ControlSet.congr hconf hfull hunconf
  · intro x
    rw [mem_otherSet_iff hU' (conflicted_idNodup sets)]
    exact OtherSet.congr hconf hfull hunconf
  · exact ((distinct_idNodup _).filter _).nodup

end V.StateResSpec.Exec
