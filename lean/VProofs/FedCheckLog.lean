/-
  The provider-call log is write-only: the functions of VModel.FedCheck on the way to `verifyEventAuthChain` (`retryAE`,
  `loopAE`, `checkAllowed`, `fetchNeeded`, `chainStep`, `chainLoop`) return the log they were given followed by the calls
  they made; verdicts and maps do not depend on it.
-/
import VModel.FedCheck
namespace V.FedCheck
open V

def Step.pre {P} (l : Log) : Step P → Step P
  | .next m a lg => .next m a (l ++ lg)
  | .fail m lg => .fail m (l ++ lg)
  | .outOfFuel m lg => .outOfFuel m (l ++ lg)

theorem Step.pre_nil {P} (s : Step P) : s.pre [] = s := by
  cases s <;> simp [Step.pre]

theorem retryAE_log {P} (O : Oracles P) (prov : Option EventProvider) (ae : Bytes) (fuel : Nat) (m : IdMap) (acc : P) (l log : Log) :
    retryAE O prov ae fuel m acc (l ++ log) = (retryAE O prov ae fuel m acc log).pre l := by
  induction fuel generalizing m acc log with
  | zero => rfl
  | succ k ih =>
    unfold retryAE
    cases hl : m.lookup ae with
    | some v =>
      cases v with
      | none => rfl
      | some a => by_cases hs : a.stateKey.isSome = true <;> simp [Step.pre, hs]
    | none =>
      cases prov with
      | none => rfl
      | some p =>
        dsimp only
        rw [List.append_assoc]
        -- whatever the provider answers, the loop goes round again with the call appended to the log
        cases hp : p [ae] with
        | error => exact ih _ _ _
        | events es => cases es <;> exact ih _ _ _

theorem loopAE_log {P} (O : Oracles P) (prov : Option EventProvider) (fuel : Nat) (ids : List Bytes) (m : IdMap) (acc : P) (l log : Log) :
    loopAE O prov fuel ids m acc (l ++ log) = (loopAE O prov fuel ids m acc log).pre l := by
  induction ids generalizing m acc log with
  | nil => rfl
  | cons ae rest ih =>
    unfold loopAE
    rw [retryAE_log]
    cases retryAE O prov ae fuel m acc log with
    | next m' acc' log' => exact ih m' acc' log'
    | fail m' log' => rfl
    | outOfFuel m' log' => rfl

theorem checkAllowed_log {P} (O : Oracles P) (prov : Option EventProvider) (fuel : Nat) (e : Event) (m : IdMap) (log : Log) :
    checkAllowed O prov fuel e m log =
      ((checkAllowed O prov fuel e m []).1, (checkAllowed O prov fuel e m []).2.1, log ++ (checkAllowed O prov fuel e m []).2.2) := by
  unfold checkAllowed
  have h := loopAE_log O prov fuel e.authEventIDs m O.empty log []
  rw [List.append_nil] at h
  rw [h]
  cases loopAE O prov fuel e.authEventIDs m O.empty [] <;> rfl

def ChainStep.pre (l : Log) : ChainStep → ChainStep
  | .done r lg => .done r (l ++ lg)
  | .cont st lg => .cont st (l ++ lg)

theorem fetchNeeded_log (prov : EventProvider) (need : List Bytes) (l log : Log) :
    fetchNeeded prov need (l ++ log) = (fetchNeeded prov need log).map (fun p => (p.1, l ++ p.2)) := by
  unfold fetchNeeded
  split
  · rfl
  · cases prov need <;> simp

theorem chainStep_log {P} (O : Oracles P) (prov : EventProvider) (caFuel : Nat) (st : ChainSt) (l log : Log) :
    chainStep O prov caFuel st (l ++ log) = (chainStep O prov caFuel st log).pre l := by
  unfold chainStep
  cases st.stack with
  | nil => rfl
  | cons curr rest =>
    simp only
    by_cases hv : st.verified.contains curr.eventID = true
    · simp only [hv, if_true, ChainStep.pre]
    · simp only [hv, Bool.false_eq_true, if_false]
      rw [fetchNeeded_log]
      cases fetchNeeded prov (needOf st.m curr) log with
      | none => simp [ChainStep.pre]
      | some p =>
        obtain ⟨es, l1⟩ := p
        simp only [Option.map_some]
        cases checkAllowed O (some prov) caFuel curr (putAll es st.m) [] with
        | mk v rest2 =>
          obtain ⟨m2, lg2⟩ := rest2
          cases v <;> simp [ChainStep.pre]

theorem chainLoop_log {P} (O : Oracles P) (prov : EventProvider) (caFuel fuel : Nat) (st : ChainSt) (l log : Log) :
    chainLoop O prov caFuel fuel st (l ++ log) =
      ((chainLoop O prov caFuel fuel st log).1, l ++ (chainLoop O prov caFuel fuel st log).2) := by
  induction fuel generalizing st log with
  | zero => rfl
  | succ k ih =>
    unfold chainLoop
    rw [chainStep_log]
    cases chainStep O prov caFuel st log with
    | done r lg => rfl
    | cont st' lg => exact ih st' lg

theorem verifyEventAuthChain_log {P} (O : Oracles P) (prov : EventProvider) (caFuel fuel : Nat) (e : Event) (log : Log) :
    (verifyEventAuthChain O prov caFuel fuel e log).1 = (verifyEventAuthChain O prov caFuel fuel e []).1 := by
  unfold verifyEventAuthChain
  have h := chainLoop_log O prov caFuel fuel { stack := [e], m := [(e.eventID, some e)], verified := [] } log []
  rw [List.append_nil] at h
  rw [h]

end V.FedCheck
