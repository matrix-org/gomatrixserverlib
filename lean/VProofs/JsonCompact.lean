/- `compact_of_parse`: on a text the parser accepts, `CompactJSON` produces the compact rendering of the parsed
   value in the text's own member order — `encode p.toJVal` — provided no string has a lone
   surrogate escape.  A number literal is copied byte for byte, except the sign of `-0`. -/
import VProofs.JsonParsed
import VProofs.JsonParse
namespace V.Json

/-! ### compacting a stretch of input

The compactor looks back one byte (`prev`) to tell the `-` of `-0` from the `-` of an exponent, hence two notions: `CTok`
after any byte, `CVal` where the byte before is no exponent marker (a number may start there); `CRun` is `CTok` for a
token with any suffix. -/

/-- The input byte before the current position is not an exponent marker. -/
def prevOk (prev : Option UInt8) : Prop := ∀ p, prev = some p → (p == 0x65 || p == 0x45) = false

theorem prevOk_none : prevOk none := fun _ h => by cases h
theorem prevOk_some {c : UInt8} (h : (c == 0x65 || c == 0x45) = false) : prevOk (some c) :=
  fun _ hp => by cases hp; exact h

def CTok (s rest out : Bytes) : Prop :=
  ∀ (prev : Option UInt8) (acc : Bytes), ∃ prev', compactAll prev s acc = compactAll prev' rest (acc ++ out)

def CVal (s rest out : Bytes) : Prop :=
  ∀ (prev : Option UInt8) (acc : Bytes), prevOk prev →
    ∃ prev', compactAll prev s acc = compactAll prev' rest (acc ++ out)

theorem CTok.toCVal {s rest out : Bytes} (h : CTok s rest out) : CVal s rest out :=
  fun prev acc _ => h prev acc

theorem CTok.nil (s : Bytes) : CTok s s [] := fun prev acc => ⟨prev, by rw [List.append_nil]⟩

theorem CVal.append {s r rest o1 o2 : Bytes} (h1 : CVal s r o1) (h2 : CTok r rest o2) :
    CVal s rest (o1 ++ o2) := fun prev acc ok =>
  let ⟨p1, e1⟩ := h1 prev acc ok
  let ⟨p2, e2⟩ := h2 p1 (acc ++ o1)
  ⟨p2, by rw [e1, e2, List.append_assoc]⟩

theorem CTok.append {s r rest o1 o2 : Bytes} (h1 : CTok s r o1) (h2 : CTok r rest o2) :
    CTok s rest (o1 ++ o2) := fun prev acc =>
  let ⟨p1, e1⟩ := h1 prev acc
  let ⟨p2, e2⟩ := h2 p1 (acc ++ o1)
  ⟨p2, by rw [e1, e2, List.append_assoc]⟩

def CRun (tok out : Bytes) : Prop := ∀ X : Bytes, CTok (tok ++ X) X out

theorem CRun_nil : CRun [] [] := fun X => CTok.nil X

theorem CRun_append {t1 o1 t2 o2 : Bytes} (h1 : CRun t1 o1) (h2 : CRun t2 o2) : CRun (t1 ++ t2) (o1 ++ o2) :=
  fun X => List.append_assoc t1 t2 X ▸ (h1 (t2 ++ X)).append (h2 X)

theorem CRun_copy (c : UInt8) (h1 : ¬ c ≤ 0x20) (h2 : (c == 0x2D) = false) (h3 : (c == 0x22) = false) :
    CRun [c] [c] := fun X prev acc => ⟨some c, compactAll_copy prev c X acc h1 h2 h3⟩

theorem CRun_cons {c : UInt8} {t o : Bytes} (h : CRun [c] [c]) (ht : CRun t o) : CRun (c :: t) (c :: o) :=
  CRun_append h ht

theorem CRun_copies : ∀ tok : Bytes,
    (∀ c ∈ tok, ¬ c ≤ 0x20 ∧ (c == 0x2D) = false ∧ (c == 0x22) = false) → CRun tok tok
  | [], _ => CRun_nil
  | c :: t, h =>
    have ⟨h1, h2, h3⟩ := h c List.mem_cons_self
    CRun_cons (CRun_copy c h1 h2 h3) (CRun_copies t fun x hx => h x (List.mem_cons_of_mem _ hx))

/-! ### number literals -/

theorem CRun_digits (ds : Bytes) (h : allDigits ds) : CRun ds ds :=
  CRun_copies ds fun c hc => let ⟨h1, _, _, _, _, h6, h7⟩ := digit_facts (h c hc); ⟨h7, h1, h6⟩

theorem CRun_int {ip : Bytes} (h : IntPart ip) : CRun ip ip := by
  rcases h with rfl | ⟨c, ds, rfl, hc, _, hds⟩
  · exact CRun_copy _ (by decide) (by decide) (by decide)
  · exact CRun_digits (c :: ds) (List.forall_mem_cons.mpr ⟨hc, hds⟩)

theorem CRun_frac {fp : Bytes} (h : FracPart fp) : CRun fp fp := by
  rcases h with rfl | ⟨c, ds, rfl, hds⟩
  · exact CRun_nil
  · exact CRun_cons (CRun_copy _ (by decide) (by decide) (by decide)) (CRun_digits _ hds)

theorem isNegZero_afterE (e : UInt8) (rest : Bytes) (he : e = 0x65 ∨ e = 0x45) :
    isNegZero (some e) rest = false := by
  unfold isNegZero
  cases rest with
  | nil => rfl
  | cons z r =>
    simp only
    split
    · rfl
    · rcases he with rfl | rfl <;> simp

/-- the `-` of an exponent is copied: the byte before it is `e`/`E` -/
theorem CRun_expMinus (e : UInt8) (he : e = 0x65 ∨ e = 0x45) : CRun [e, 0x2D] [e, 0x2D] := by
  intro X prev acc
  have h1 : ¬ e ≤ 0x20 := by rcases he with rfl | rfl <;> decide
  have h2 : (e == 0x2D) = false := by rcases he with rfl | rfl <;> decide
  have h3 : (e == 0x22) = false := by rcases he with rfl | rfl <;> decide
  refine ⟨some 0x2D, ?_⟩
  simp only [List.cons_append, List.nil_append]
  rw [compactAll_copy prev e _ acc h1 h2 h3, compactAll_minus _ _ _ (isNegZero_afterE e X he)]
  simp

theorem CRun_exp {ep : Bytes} (h : ExpPart ep) : CRun ep ep := by
  rcases h with rfl | ⟨e, sg, c, ds, rfl, he, hsg, hds⟩
  · exact CRun_nil
  · have h1 : ¬ e ≤ 0x20 := by rcases he with rfl | rfl <;> decide
    have h2 : (e == 0x2D) = false := by rcases he with rfl | rfl <;> decide
    have h3 : (e == 0x22) = false := by rcases he with rfl | rfl <;> decide
    rcases hsg with rfl | rfl | rfl
    · exact CRun_cons (CRun_copy e h1 h2 h3) (CRun_digits _ hds)
    · exact CRun_cons (CRun_copy e h1 h2 h3)
        (CRun_cons (CRun_copy _ (by decide) (by decide) (by decide)) (CRun_digits _ hds))
    · exact CRun_append (t1 := [e, 0x2D]) (o1 := [e, 0x2D]) (CRun_expMinus e he) (CRun_digits _ hds)

theorem CRun_body {sign ip fp ep : Bytes} (h : NumParts sign ip fp ep) : CRun (ip ++ fp ++ ep) (ip ++ fp ++ ep) :=
  CRun_append (CRun_append (CRun_int h.ip) (CRun_frac h.fp)) (CRun_exp h.ep)

/-! ### The sign -/

theorem isNegZero_prevOk {prev : Option UInt8} (h : prevOk prev) (rest : Bytes) :
    isNegZero prev rest = isNegZero none rest := by
  unfold isNegZero
  cases rest with
  | nil => rfl
  | cons z r =>
    simp only
    split
    · rfl
    · cases prev with
      | none => rfl
      | some p => simp [h p rfl]

theorem isNegZero_zero (r : Bytes) :
    isNegZero none (0x30 :: r) = (headOk notDot r && headOk notE r) := by
  cases r with
  | nil => rfl
  | cons n r =>
    simp only [isNegZero, headOk_cons, notDot, notE]
    cases (n == 0x2E) <;> cases (n == 0x65) <;> cases (n == 0x45) <;> simp

theorem isNegZero_nonzero (c : UInt8) (r : Bytes) (h : (c == 0x30) = false) : isNegZero none (c :: r) = false := by
  have : c ≠ 0x30 := by simpa using h
  simp [isNegZero, this]

/-- **Number token.** A literal the parser accepts is compacted to its canonical spelling:
    unchanged, except that `-0` becomes `0`. -/
theorem parseNumber_compact {s lit s4 : Bytes} (h : parseNumber s = some (lit, s4))
    {prev : Option UInt8} (hp : prevOk prev) (acc : Bytes) :
    ∃ prev', compactAll prev s acc = compactAll prev' s4 (acc ++ encodeNum lit) := by
  obtain ⟨sign, ip, fp, ep, hparts, rfl, rfl, hcont⟩ := parseNumber_parts h
  have hbody := CRun_body hparts
  rcases hparts.sign with rfl | rfl
  · -- no sign: the literal starts with a digit, so it is not `-0`
    have hne : encodeNum ([] ++ ip ++ fp ++ ep) = [] ++ ip ++ fp ++ ep := by
      unfold encodeNum
      rcases hparts.ip with rfl | ⟨c, ds, rfl, hc, _, _⟩
      · simp
      · have := (digit_facts hc).1
        simp only [beq_eq_false_iff_ne, ne_eq] at this
        simp [this]
    rw [hne]
    simpa using hbody s4 prev acc
  · -- leading `-`
    simp only [List.cons_append, List.nil_append, List.append_assoc]
    by_cases hz : ip = [0x30] ∧ fp = [] ∧ ep = []
    · obtain ⟨rfl, rfl, rfl⟩ := hz
      obtain ⟨c1, c2⟩ := hcont rfl rfl
      have hnz : isNegZero prev (0x30 :: s4) = true := by
        rw [isNegZero_prevOk hp, isNegZero_zero, c1, c2]; rfl
      refine ⟨some 0x30, ?_⟩
      simp only [List.nil_append, List.cons_append]
      rw [compactAll_negzero _ _ _ hnz, compactAll_copy _ 0x30 _ _ (by decide) (by decide) (by decide)]
      rfl
    · -- any other literal: the byte after `-` is not a lone `0`, so the sign is copied and the literal kept
      have key : isNegZero none (ip ++ (fp ++ (ep ++ s4))) = false ∧ 0x2D :: (ip ++ (fp ++ ep)) ≠ [0x2D, 0x30] := by
        rcases hparts.ip with rfl | ⟨c, ds, rfl, _, hc0, _⟩
        · rcases hparts.fp with rfl | ⟨c, ds, rfl, _⟩
          · rcases hparts.ep with rfl | ⟨e, sg, c, ds, rfl, he, _, _⟩
            · exact absurd ⟨rfl, rfl, rfl⟩ hz
            · exact ⟨by rw [List.cons_append, isNegZero_zero]; rcases he with rfl | rfl <;> rfl, by simp⟩
          · exact ⟨by rw [List.cons_append, isNegZero_zero]; rfl, by simp⟩
        · exact ⟨isNegZero_nonzero c _ hc0, fun he => by
            rw [List.cons_append, List.cons.injEq, List.cons.injEq] at he
            rw [he.2.1] at hc0; cases hc0⟩
      have hnz : isNegZero prev (ip ++ (fp ++ (ep ++ s4))) = false := (isNegZero_prevOk hp _).trans key.1
      have hne : encodeNum (0x2D :: (ip ++ (fp ++ ep))) = 0x2D :: (ip ++ (fp ++ ep)) :=
        if_neg (by simpa using key.2)
      rw [hne, compactAll_minus _ _ _ hnz]
      obtain ⟨p', e'⟩ := hbody s4 (some 0x2D) (acc ++ [0x2D])
      refine ⟨p', ?_⟩
      simpa using e'

/-! ### the tokens of a parse: whitespace, punctuation, strings, keywords -/

theorem isWs_facts {c : UInt8} (h : isWs c = true) : c ≤ 0x20 ∧ (c == 0x65 || c == 0x45) = false := by
  simp only [isWs, Bool.or_eq_true, beq_iff_eq] at h
  rcases h with ((rfl | rfl) | rfl) | rfl <;> exact ⟨by decide, by decide⟩

theorem compact_skipWs : ∀ (s : Bytes) (prev : Option UInt8) (acc : Bytes),
    ∃ prev', (prevOk prev → prevOk prev') ∧ compactAll prev s acc = compactAll prev' (skipWs s) acc
  | [], prev, acc => ⟨prev, id, rfl⟩
  | c :: s, prev, acc => by
    unfold skipWs
    split
    · rename_i hc
      obtain ⟨h1, h2⟩ := isWs_facts hc
      obtain ⟨p', hp', e⟩ := compact_skipWs s (some c) acc
      exact ⟨p', fun _ => hp' (prevOk_some h2), by rw [compactAll_ws _ _ _ _ h1, e]⟩
    · exact ⟨prev, id, rfl⟩

/-- Bytes that are copied outside strings and are not exponent markers. -/
def punct (c : UInt8) : Bool :=
  c == 0x7B || c == 0x7D || c == 0x5B || c == 0x5D || c == 0x2C || c == 0x3A

theorem punct_facts {c : UInt8} (h : punct c = true) :
    ¬ c ≤ 0x20 ∧ (c == 0x2D) = false ∧ (c == 0x22) = false ∧ (c == 0x65 || c == 0x45) = false := by
  simp only [punct, Bool.or_eq_true, beq_iff_eq] at h
  rcases h with ((((rfl | rfl) | rfl) | rfl) | rfl) | rfl <;> exact ⟨by decide, by decide, by decide, by decide⟩

theorem CVal.afterWs {s rest out : Bytes} (h : CVal (skipWs s) rest out) : CVal s rest out :=
  fun prev acc ok =>
  let ⟨p0, ok0, e0⟩ := compact_skipWs s prev acc
  let ⟨p1, e1⟩ := h p0 acc (ok0 ok)
  ⟨p1, e0.trans e1⟩

/-- Whitespace, one punctuation byte, then whatever may follow punctuation. -/
theorem CTok.punct {s r rest out : Bytes} {c : UInt8} (hs : skipWs s = c :: r) (hc : punct c = true)
    (h : CVal r rest out) : CTok s rest (c :: out) := fun prev acc =>
  let ⟨p0, _, e0⟩ := compact_skipWs s prev acc
  let ⟨h1, h2, h3, h4⟩ := punct_facts hc
  let ⟨p2, e2⟩ := h (some c) (acc ++ [c]) (prevOk_some h4)
  ⟨p2, by rw [e0, hs, compactAll_copy p0 c r acc h1 h2 h3, e2, List.append_assoc]; rfl⟩

/-- Whitespace, then a string without lone surrogate escapes. -/
theorem CTok.string {s r raw dec rest : Bytes} (hs : skipWs s = 0x22 :: r) (hp : StrBody r raw dec rest)
    (hn : noLoneSurr raw = true) : CTok s rest (0x22 :: encodeStringBody dec ++ [0x22]) := fun prev acc =>
  let ⟨p0, _, e0⟩ := compact_skipWs s prev acc
  ⟨some 0x22, by
    rw [e0, hs, compactAll_string p0 r acc _ _ (hp.compact hn (acc ++ [0x22]))]
    simp only [List.append_assoc, List.cons_append, List.nil_append]⟩

/-- Whitespace, then a token that is copied byte for byte. -/
theorem CVal.copied {s rest : Bytes} (tok : Bytes) (hs : skipWs s = tok ++ rest)
    (h : ∀ c ∈ tok, ¬ c ≤ 0x20 ∧ (c == 0x2D) = false ∧ (c == 0x22) = false) : CVal s rest tok :=
  .afterWs (hs ▸ (CRun_copies tok h rest).toCVal)

theorem ParsedElems.ne_nil {s xs rest} (h : ParsedElems s xs rest) : encodeList (toJVals xs) ≠ [] := by
  cases h <;> simp [toJVals, encodeList]

theorem ParsedMembers.ne_nil {s kvs rest} (h : ParsedMembers s kvs rest) :
    encodeMembers (toJMembers kvs) ≠ [] := by
  cases h <;> simp [toJMembers, encodeMembers]

theorem Parsed.compact {s p rest} (h : Parsed s p rest) :
    p.surrogatesOk = true → CVal s rest (encode p.toJVal) := by
  apply Parsed.rec (t := h)
    (motive_1 := fun s p rest _ => p.surrogatesOk = true → CVal s rest (encode p.toJVal))
    (motive_2 := fun s xs rest _ => surrogatesOkList xs = true →
      CVal s rest (joinWith 0x2C (encodeList (toJVals xs)) ++ [0x5D]))
    (motive_3 := fun s kvs rest _ => surrogatesOkMembers kvs = true →
      CVal s rest (joinWith 0x2C (encodeMembers (toJMembers kvs)) ++ [0x7D]))
  case null => exact fun hs _ => .copied [0x6E, 0x75, 0x6C, 0x6C] hs (by decide)
  case btrue => exact fun hs _ => .copied [0x74, 0x72, 0x75, 0x65] hs (by decide)
  case bfalse => exact fun hs _ => .copied [0x66, 0x61, 0x6C, 0x73, 0x65] hs (by decide)
  case num => exact fun hs hp _ => .afterWs (hs ▸ fun _ acc ok => parseNumber_compact hp ok acc)
  case str => exact fun hs hp hn => (CTok.string hs hp hn).toCVal
  case arrNil | objNil =>
    exact fun hs hs2 _ => (CTok.punct hs (by decide) (CTok.punct hs2 (by decide) (CTok.nil _).toCVal).toCVal).toCVal
  case arr | obj => exact fun hs _ ih hn => (CTok.punct hs (by decide) (.afterWs (ih hn))).toCVal
  case last =>
    intro _ _ _ _ _ hs ih hn
    simp only [surrogatesOkList, Bool.and_true] at hn
    exact (ih hn).append (CTok.punct hs (by decide) (CTok.nil _).toCVal)
  case more =>
    intro _ _ _ _ _ _ _ hs ht ih iht hn
    simp only [surrogatesOkList, Bool.and_eq_true] at hn
    have := (ih hn.1).append (CTok.punct hs (by decide) (iht hn.2))
    rwa [toJVals, encodeList, joinWith_cons_ne _ _ ht.ne_nil, List.append_assoc]
  case lastM =>
    intro _ _ _ _ _ _ _ _ _ hs hp hs1 _ hs3 ih hn
    simp only [surrogatesOkMembers, Bool.and_true, Bool.and_eq_true] at hn
    have := ((CTok.string hs hp hn.1).append (CTok.punct hs1 (by decide)
      ((ih hn.2).append (CTok.punct hs3 (by decide) (CTok.nil _).toCVal)))).toCVal
    simpa [toJMembers, encodeMembers, joinWith] using this
  case moreM =>
    intro _ _ _ _ _ _ _ _ _ _ _ hs hp hs1 _ hs3 ht ih iht hn
    simp only [surrogatesOkMembers, Bool.and_eq_true] at hn
    have := ((CTok.string hs hp hn.1.1).append (CTok.punct hs1 (by decide)
      ((ih hn.1.2).append (CTok.punct hs3 (by decide) (iht hn.2))))).toCVal
    rw [toJMembers, encodeMembers, joinWith_cons_ne _ _ ht.ne_nil]
    simpa using this

theorem compact_of_parse {t : Bytes} {p : PVal} (hp : parse t = some p) (hs : p.surrogatesOk = true) :
    compact t = .ok (encode p.toJVal) := by
  obtain ⟨rest, h, hr⟩ := Parsed.of_parse hp
  obtain ⟨p1, e1⟩ := h.compact hs none [] prevOk_none
  obtain ⟨p2, _, e2⟩ := compact_skipWs rest p1 ([] ++ encode p.toJVal)
  rw [compact_eq_compactAll, e1, e2, hr, compactAll_nil, List.nil_append]

end V.Json
