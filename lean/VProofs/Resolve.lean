/-
  VProofs.Resolve — lemmas relating the model of resolve.go / servername.go to the specification
  (Server-Server API "Resolving server names").
-/
import VModel.Resolve
import VProofs.Cidr
import VProofs.Lists
namespace V.Resolve
open V.Cidr (Str parseIP parseAddr parseAddrGo ParsedAddr isMapped mapped)

theorem colon_not_dns (s : Str) (h : s.contains ':' = true) : s.all isDNSNameChar = false :=
  Bool.eq_false_iff.mpr fun hall => Lists.not_mem_of_all (c := ':') hall (by decide) (by simpa using h)

theorem isPort_eq_isSome (p : Str) : Spec.isPort p = (parsePort p).isSome := by
  unfold Spec.isPort parsePort
  by_cases h1 : p.isEmpty <;> by_cases h2 : p.all isDigit <;> by_cases h3 : natOfDigits p > 65535 <;>
    simp [h1, h2, h3] <;> omega

theorem split_agree (name : Str) :
    (splitServerName name).1 = (Spec.hostPort name).1 ∧
    ((splitServerName name).2.isSome = (Spec.hostPort name).2.isSome) := by
  unfold splitServerName Spec.hostPort
  cases hs : splitLastColon name with
  | none => simp
  | some hp =>
    obtain ⟨h, p⟩ := hp
    simp only []
    rw [isPort_eq_isSome]
    cases hpp : parsePort p <;> simp

/-- what the specification assigns to a name by steps 1 and 2 (or refusal) -/
def Spec.directResult (name : Str) : Except Err (Option (List Target)) :=
  match Spec.classify name with
  | none => .error (.other "invalid-server-name")
  | some k => .ok (Spec.direct name k)

theorem classifyHost_nobracket (c0 : Char) (t : Str) (sp : Option Str) (h : c0 ≠ '[') :
    Spec.classifyHost (c0 :: t) sp =
      (if Spec.isIPv4Literal (c0 :: t) then some (.literal (c0 :: t) sp)
       else if (c0 :: t).all isDNSNameChar then some (.named (c0 :: t) sp) else none) := by
  unfold Spec.classifyHost
  split
  · simp_all
  · simp_all
  · rfl

/-- steps 1 and 2 of the code are the specification's on the host `h` with its brackets removed -/
theorem directOf_eq (name : Str) (c0 : Char) (t : Str) (port : Option Nat) (sp : Option Str) (h : Str)
    (hps : port.isSome = sp.isSome)
    (hh : (if c0 == '[' && (c0 :: t).getLast? == some ']' then ((c0 :: t).drop 1).dropLast else c0 :: t) = h) :
    directOf name (c0 :: t) port = .ok (Spec.direct name (if (parseIP h).isSome then .literal h sp else .named h sp)) := by
  unfold directOf
  simp only [hh]
  cases port <;> cases sp <;> first | cases hps | skip
  all_goals cases parseIP h <;> rfl

/-- `resolveDirect_eq` once the name is split: `splitServerName` and `Spec.hostPort` give the same host, and ports `port`, `sp`
    related by `hps` -/
theorem direct_core (name host : Str) (port : Option Nat) (sp : Option Str) (hps : port.isSome = sp.isSome) :
    (match validateHost host port with
      | none => (.error (.other "invalid-server-name") : Except Err (Option (List Target)))
      | some (host, port) => directOf name host port)
    =
    (match Spec.classifyHost host sp with
      | none => .error (.other "invalid-server-name")
      | some k => .ok (Spec.direct name k)) := by
  cases host with
  | nil => rfl
  | cons c0 t =>
    -- wherever the host is valid, `directOf_eq` gives the specification's steps 1 and 2 on the host without its brackets
    by_cases hc0 : c0 = '['
    · subst hc0
      cases t with
      | nil => rfl
      | cons x xs =>
        have hgl : ('[' :: x :: xs).getLast? = (x :: xs).getLast? := List.getLast?_cons_cons
        have hd := directOf_eq name '[' (x :: xs) port sp
        simp only [validateHost, Spec.classifyHost, beq_self_eq_true, ↓reduceIte, hgl, List.drop_one, List.tail_cons,
          Bool.true_and] at hd ⊢
        by_cases hl : (x :: xs).getLast? = some ']'
        · simp only [hl, bne_self_eq_false, Bool.false_eq_true, ↓reduceIte, beq_self_eq_true] at hd ⊢
          cases hip : parseIP (x :: xs).dropLast with
          | none => rfl
          | some a => simp only [Option.isNone_some, Bool.false_eq_true, ↓reduceIte, hd _ hps rfl, hip, Option.isSome_some]
        · have hl' : ((x :: xs).getLast? != some ']') = true := by simpa using hl
          simp only [hl', ↓reduceIte]
    · have hc0' : (c0 == '[') = false := by simpa using hc0
      have hd := directOf_eq name c0 t port sp (c0 :: t) hps (by rw [hc0']; rfl)
      rw [classifyHost_nobracket c0 t sp hc0]
      simp only [validateHost, hc0', Bool.false_eq_true, ↓reduceIte, Spec.isIPv4Literal]
      rcases Option.eq_none_or_eq_some (parseIP (c0 :: t)) with hip | ⟨a, hip⟩
      · -- not an IP literal: a DNS name or nothing
        simp only [hip] at hd ⊢
        cases hdns : (c0 :: t).all isDNSNameChar with
        | true => simp only [Option.isSome_none, Bool.and_false, Bool.false_eq_true, ↓reduceIte, hd]
        | false => simp only [Option.isSome_none, Bool.and_false, Bool.false_eq_true, ↓reduceIte]
      · -- an IP literal: with a colon it is neither IPv4 nor a DNS name; without one it is IPv4 (mapped form)
        simp only [hip] at hd ⊢
        cases hcol : (c0 :: t).contains ':' with
        | true =>
          simp only [colon_not_dns _ hcol, Bool.not_true, Bool.and_false, Bool.false_and, Bool.false_eq_true, ↓reduceIte]
        | false =>
          simp only [Cidr.parseIP_noColon_mapped _ hcol a hip, Bool.not_false, Bool.and_self, Option.isSome_some, ↓reduceIte, hd]

/-- validity and steps 1, 2: the code decides what the specification decides -/
theorem resolveDirect_eq (name : Str) : resolveDirect name = Spec.directResult name := by
  unfold resolveDirect parseAndValidate Spec.directResult Spec.classify
  cases name with
  | nil => rfl
  | cons c cs =>
    obtain ⟨h1, h2⟩ := split_agree (c :: cs)
    generalize splitServerName (c :: cs) = sn at h1 h2
    generalize Spec.hostPort (c :: cs) = hp at h1 h2
    obtain ⟨host, port⟩ := sn
    obtain ⟨host', sp⟩ := hp
    simp only at h1 h2
    subst h1
    simp only [List.isEmpty_cons, Bool.false_eq_true, ↓reduceIte]
    exact direct_core (c :: cs) host port sp h2

theorem srvTarget_eq (name : Str) (r : Str × Nat) :
    srvTarget name r = if Spec.rootTarget r then none else some ⟨Spec.stripDot r.1 ++ ':' :: natStr r.2, name, name⟩ := by
  unfold srvTarget Spec.rootTarget Spec.stripDot
  by_cases hd : r.1.getLast? = some '.'
  · simp [hd]
  · simp [hd]

theorem srvTargetsGo_eq (name : Str) (rs : List (Str × Nat)) :
    srvTargetsGo name rs = Spec.srvTargets name rs := by
  unfold srvTargetsGo Spec.srvTargets
  induction rs with
  | nil => rfl
  | cons r rest ih =>
    rw [List.filterMap_cons, srvTarget_eq, List.filter_cons]
    cases hr : Spec.rootTarget r
    · simp [ih]
    · simp [ih]

/-- steps 4-6 (3.3-3.5): the SRV part of the code is the specification's, whatever the targets of the records -/
theorem handleNoWellKnown_eq (srv : Str → Str → SrvAnswer) (n : Str) (hs : Spec.SrvSane srv) :
    handleNoWellKnown srv n = .ok (Spec.srvSteps srv n) := by
  unfold handleNoWellKnown lookupSRV Spec.srvSteps
  cases h1 : srv "matrix-fed".toList n with
  | records rs =>
    cases rs with
    | nil => exact absurd rfl (hs _ _ _ h1)
    | cons r rest =>
      simp only [Spec.found, Bool.not_false, List.length_cons, gt_iff_lt, Nat.zero_lt_succ, decide_true, Bool.and_self, ↓reduceIte]
      rw [srvTargetsGo_eq]
  | notFound =>
    simp only [Spec.found]
    cases h2 : srv "matrix".toList n with
    | records rs =>
      cases rs with
      | nil => exact absurd rfl (hs _ _ _ h2)
      | cons r rest =>
        simp only [Bool.not_false, List.length_cons, gt_iff_lt, Nat.zero_lt_succ, decide_true, Bool.and_self, ↓reduceIte]
        rw [srvTargetsGo_eq]
    | _ => simp [port8448]
  | _ => simp [Spec.found, port8448]

/-- a successful resolution ends in step 1 / 2 (of the name or of the delegated name) or in the SRV steps -/
theorem Spec.resolve_ok {o : Oracles} {name : Str} {ts : List Target} (h : Spec.resolve o name = .ok ts) :
    (∃ hdr k, Spec.direct hdr k = some ts) ∨ ∃ n, ts = Spec.srvSteps o.srv n := by
  unfold Spec.resolve at h
  split at h
  · cases h
  · split at h
    · rename_i hd; cases h; exact Or.inl ⟨_, _, hd⟩
    · split at h
      · split at h
        · cases h
        · split at h
          · rename_i hd; cases h; exact Or.inl ⟨_, _, hd⟩
          · cases h; exact Or.inr ⟨_, rfl⟩
      · cases h; exact Or.inr ⟨_, rfl⟩

theorem Spec.direct_ne_nil (hdr : Str) (k : Spec.Kind) : Spec.direct hdr k ≠ some [] := by
  cases k with
  | literal ip p => cases p <;> simp [Spec.direct]
  | named h p => cases p <;> simp [Spec.direct]

/-- the SRV steps yield no target only when a lookup found records that all name the root -/
theorem Spec.srvSteps_eq_nil {srv : Str → Str → SrvAnswer} {n : Str} (h : Spec.srvSteps srv n = []) :
    ∃ svc rs, srv svc n = .records rs ∧ rs ≠ [] ∧ ∀ r ∈ rs, Spec.rootTarget r = true := by
  have hfound : ∀ svc rs, Spec.found (srv svc n) = some rs → Spec.srvTargets n rs = [] →
      ∃ svc rs, srv svc n = .records rs ∧ rs ≠ [] ∧ ∀ r ∈ rs, Spec.rootTarget r = true := by
    intro svc rs hf ht
    have hrec : srv svc n = .records rs ∧ rs ≠ [] := by
      unfold Spec.found at hf
      split at hf
      · rename_i heq; cases hf; exact ⟨heq, by simp⟩
      · cases hf
    exact ⟨svc, rs, hrec.1, hrec.2, fun r hr => by
      simpa using List.filter_eq_nil_iff.mp (List.map_eq_nil_iff.mp ht) r hr⟩
  unfold Spec.srvSteps at h
  split at h
  · exact hfound _ _ ‹_› h
  · split at h
    · cases h
    · cases h
    · split at h
      · exact hfound _ _ ‹_› h
      · cases h

end V.Resolve
