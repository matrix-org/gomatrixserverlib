/-
  The deprecated entry points `ResolveStateConflictsV2` (`resolveV2Old`) and `ResolveConflicts` (`resolveConflictsOld`):
  well-formedness of the result and order independence, by the same route as for `resolveV2New` (StateResOrderIndep.lean).
-/
import VProofs.StateResOrderIndep
namespace V.StateRes
open List

/-! ## the old auth difference depends on the maps only as sets / through lookups -/

/-- `authSets[id]` of the old routine -/
def oldAuthSet (authMap confMap : List Event) (id : ID) : Option (List ID) :=
  match findByID confMap id with
  | none => none
  | some c =>
    let ch := authClosure authMap (authMap.length + 1) [c] []
    if ch.isEmpty then none else some ch

def oldInDiff (authMap confMap : List Event) (a : Event) : Bool :=
  match oldAuthSet authMap confMap a.eventID with
  | none => false
  | some ch => !(ch.all (fun k => match oldAuthSet authMap confMap k with
      | none => false
      | some chk => chk.contains k))

theorem authDifferenceOld_eq (authMap confMap : List Event) :
    authDifferenceOld authMap confMap = authMap.filter (oldInDiff authMap confMap) := rfl

theorem oldAuthSet_mapEq {am am' cm cm' : List Event} (ha : MapEq am am') (hc : MapEq cm cm') (id : ID) :
    oldAuthSet am cm id = oldAuthSet am' cm' id := by
  unfold oldAuthSet
  rw [hc.2 id, ha.1]
  cases findByID cm' id with
  | none => rfl
  | some c => simp only [authClosure_mapEq ha]

theorem oldInDiff_mapEq {am am' cm cm' : List Event} (ha : MapEq am am') (hc : MapEq cm cm') (a : Event) :
    oldInDiff am cm a = oldInDiff am' cm' a := by
  have h : oldAuthSet am cm = oldAuthSet am' cm' := funext (oldAuthSet_mapEq ha hc)
  unfold oldInDiff; rw [h]

theorem authDifferenceOld_congr {am am' cm cm' : List Event} (hs : SameSet am am') (ha : MapEq am am') (hc : MapEq cm cm') :
    SameSet (authDifferenceOld am cm) (authDifferenceOld am' cm') := by
  intro x
  rw [authDifferenceOld_eq, authDifferenceOld_eq, List.mem_filter, List.mem_filter, hs x, oldInDiff_mapEq ha hc]

theorem mem_authDifferenceOld_sub {am cm : List Event} {e : Event} (h : e ∈ authDifferenceOld am cm) : e ∈ am := by
  rw [authDifferenceOld_eq] at h; exact (List.mem_filter.mp h).1

def prepOld (c u auth : List Event) : Prep :=
  mkPrep c u (eventMapFromEvents auth) none (authDifferenceOld (eventMapFromEvents auth) (eventMapFromEvents c))

/-- the resolved state of the deprecated resolver (`[]` when the auth events lack a create event) -/
def finalStateOld (c u auth : List Event) (rej : List ID) : State :=
  match getCreateEvent auth with
  | none => []
  | some _ => flowFrom (prepOld c u auth) rej (applyEvents [] u)

theorem finalStateOld_eq (c u auth : List Event) (rej : List ID) : finalStateOld c u auth rej =
    if (getCreateEvent auth).isSome then flowFrom (prepOld c u auth) rej (applyEvents [] u) else [] := by
  unfold finalStateOld; cases getCreateEvent auth <;> rfl

theorem createFor_none (s : State) : createFor none s = s.get b!"m.room.create" [] := by
  unfold createFor; cases s.get b!"m.room.create" [] <;> rfl

theorem resolveV2Old_result (c u auth : List Event) (rej : List ID) :
    resolveV2Old c u auth rej = (finalStateOld c u auth rej).map (·.2.eventID) := by
  unfold resolveV2Old finalStateOld
  cases getCreateEvent auth with
  | none => rfl
  | some ce =>
    simp only [flowFrom, stateS3From, othersOrderFrom, stateS2From, controlOrderFrom, prepOld, mkPrep, createFor_none]
    rfl

theorem finalStateOld_wf (c u auth : List Event) (rej : List ID) : StateWF (finalStateOld c u auth rej) := by
  unfold finalStateOld
  split
  · exact stateWF_nil
  · exact flowFrom_wf _ _ (stateWF_nil.applyEvents _)

theorem mem_finalStateOld {c u auth : List Event} {rej : List ID} {x} (h : x ∈ finalStateOld c u auth rej) :
    x.2 ∈ c ∨ x.2 ∈ u ∨ x.2 ∈ auth := by
  unfold finalStateOld at h
  split at h
  · cases h
  · have hd : ∀ e, e ∈ c ∨ e ∈ authDifferenceOld (eventMapFromEvents auth) (eventMapFromEvents c) → e ∈ c ∨ e ∈ u ∨ e ∈ auth := by
      rintro e (he | he)
      · exact Or.inl he
      · exact Or.inr (Or.inr (mem_eventMap (mem_authDifferenceOld_sub he)))
    rcases mem_flowFrom h with h' | h' | h' | h'
    · rcases mem_applyEvents h' with h'' | h''
      · cases h''
      · exact Or.inr (Or.inl h'')
    · exact Or.inr (Or.inl h')
    · exact hd _ (mkPrep_control_sub h')
    · exact hd _ (mkPrep_others_sub h')

theorem finalStateOld_keeps_unconflicted (c : List Event) {u auth : List Event} (rej : List ID) (hd : DistinctSlots u)
    (hcr : (getCreateEvent auth).isSome) {e : Event} (he : e ∈ u) (hk : e.stateKey.isSome) :
    (keyOf e, e) ∈ finalStateOld c u auth rej := by
  rw [finalStateOld_eq, if_pos hcr]
  exact flowFrom_keeps_unconflicted (prepOld c u auth) rej _ hd he hk

theorem getCreateEvent_isSome_congr {l l' : List Event} (h : SameSet l l') :
    (getCreateEvent l).isSome = (getCreateEvent l').isSome := by
  unfold getCreateEvent
  rw [Bool.eq_iff_iff]
  simp only [List.find?_isSome, h _]

/-- **`ResolveStateConflictsV2` is order independent**: conflicted events as a set, unconflicted events (distinct slots) in
    any order, auth events as a set. -/
theorem finalStateOld_perm_invariant {U : Event → Prop} (hU : EvId U) {c c' u u' auth auth' : List Event}
    (hcU : ∀ x ∈ c, U x) (huU : ∀ x ∈ u, U x) (haU : ∀ x ∈ auth, U x)
    (hc : SameSet c c') (hu : u ~ u') (hd : DistinctSlots u) (ha : SameSet auth auth') (rej : List ID) :
    finalStateOld c u auth rej ~ finalStateOld c' u' auth' rej := by
  have ham : MapEq (eventMapFromEvents auth) (eventMapFromEvents auth') := eventMap_mapEq hU haU ha
  have hdiff := authDifferenceOld_congr (SameSet.of_perm (eventMap_perm hU haU ha)) ham (eventMap_mapEq hU hcU hc)
  have hp : PrepSim U (prepOld c u auth) (prepOld c' u' auth') :=
    mkPrep_sim hU none hcU huU (fun x hx => haU x (mem_eventMap (mem_authDifferenceOld_sub hx))) hc hu hd ham hdiff
  have hs1 : StateEq (applyEvents [] u) (applyEvents [] u') := (StateEq.refl stateWF_nil).applyEvents_perm hu hd
  rw [finalStateOld_eq, finalStateOld_eq, getCreateEvent_isSome_congr ha]
  split
  · exact (flowFrom_sim hU hp rej hs1).perm
  · exact Perm.refl _

theorem resolveConflictsOld_v1 (sha : ID → Bytes) (ver : Bytes) (events auth : List Event) (rej : List ID)
    {row : VGen.VersionRow} (hv : versionRow? ver = some row) (ha : row.stateResAlgorithm = 1) :
    resolveConflictsOld sha ver events auth rej = resolveConflictsNew sha ver [events] auth rej := by
  unfold resolveConflictsOld resolveConflictsNew
  rw [hv]
  simp only [ha, beq_self_eq_true, if_true]

theorem resolveConflictsOld_v2 (sha : ID → Bytes) (ver : Bytes) (events auth : List Event) (rej : List ID)
    {row : VGen.VersionRow} (hv : versionRow? ver = some row)
    (ha : row.stateResAlgorithm = 2 ∨ row.stateResAlgorithm = 3) :
    resolveConflictsOld sha ver events auth rej =
      some ((finalStateOld (splitConflictedUnconflicted true [events]).1 (splitConflictedUnconflicted true [events]).2 auth rej).map
        (·.2.eventID)) := by
  unfold resolveConflictsOld
  rw [hv]
  have h1 : (row.stateResAlgorithm == 1) = false := by
    rcases ha with h | h <;> simp [h]
  have h2 : (row.stateResAlgorithm == 2 || row.stateResAlgorithm == 3) = true := by
    rcases ha with h | h <;> simp [h]
  simp only [h1, h2, Bool.false_eq_true, if_false, if_true, resolveV2Old_result]

theorem resolveConflictsOld_other (sha : ID → Bytes) (ver : Bytes) (events auth : List Event) (rej : List ID)
    {row : VGen.VersionRow} (hv : versionRow? ver = some row) (h1 : row.stateResAlgorithm ≠ 1)
    (h23 : ¬ (row.stateResAlgorithm = 2 ∨ row.stateResAlgorithm = 3)) :
    resolveConflictsOld sha ver events auth rej = none := by
  unfold resolveConflictsOld
  rw [hv]
  have e1 : (row.stateResAlgorithm == 1) = false := by simpa using h1
  have e2 : (row.stateResAlgorithm == 2 || row.stateResAlgorithm == 3) = false := by simpa using h23
  simp [e1, e2]

theorem setsEquiv_singleton {a b : List Event} (h : a ~ b) : SetsEquiv [a] [b] :=
  ⟨[a], Perm.refl _, .cons h .nil⟩

theorem finalStateOld_entry_perm_invariant {U : Event → Prop} (hU : EvId U) {events events' auth auth' : List Event}
    (heU : ∀ x ∈ events, U x) (haU : ∀ x ∈ auth, U x) (he : events ~ events') (ha : SameSet auth auth') (rej : List ID) :
    finalStateOld (splitConflictedUnconflicted true [events]).1 (splitConflictedUnconflicted true [events]).2 auth rej ~
      finalStateOld (splitConflictedUnconflicted true [events']).1 (splitConflictedUnconflicted true [events']).2 auth' rej := by
  have hsU : ∀ s ∈ [events], ∀ x ∈ s, U x := List.forall_mem_singleton.mpr heU
  obtain ⟨hcp, hup⟩ := split_perm_of_setsEquiv hU true hsU (setsEquiv_singleton he)
  have sub : ∀ {ev : List Event} (_ : ∀ s ∈ [ev], ∀ x ∈ s, U x) {x : Event},
      x ∈ (splitConflictedUnconflicted true [ev]).1 ∨ x ∈ (splitConflictedUnconflicted true [ev]).2 → U x := by
    intro ev hev x hx
    have := (split_sub true [ev] hx).1
    simp only [List.flatten_cons, List.flatten_nil, List.append_nil] at this
    exact hev ev (List.mem_singleton.mpr rfl) x this
  exact finalStateOld_perm_invariant hU (fun x hx => sub hsU (Or.inl hx)) (fun x hx => sub hsU (Or.inr hx)) haU (SameSet.of_perm hcp) hup (distinctSlots_of_keys (split_unconflicted_keys true [events])) ha rej

end V.StateRes
