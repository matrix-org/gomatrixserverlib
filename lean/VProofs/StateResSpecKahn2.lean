/-
  C10, Kahn's algorithm: the loop, followed with the invariant `KLoopInv` of `VProofs.StateResKahnTopo`
  (the ready list is exactly the free unplaced nodes), places a power order of the unplaced nodes (`kahnLoop_run`);
  corollaries:
  `kahnNodes_perm` (no hypothesis), no strays / `kahnNodes_topological` (acyclic input),
  `kahnNodes_is_power_order` (strict total order on keys identifying the nodes, acyclic input) and the
  event-level `reverseTopoAuth_is_power_order`.  `KInv` describes the same loop state by exact child counts; it is not
  proved of the loop and no proof uses it.
-/
import VProofs.StateResSpecKahn
import VProofs.StateResKahnTopo2
namespace V.StateRes
open List
open V.StateResSpec (Free IsPowerOrder)

variable {κ : Type}

/-- The state of `kahnLoop` (remaining `R`, table `D`, noIncoming `N`; `U = R ++ N` are the unplaced nodes) in
    exact-count form: the table has an entry for every unplaced node and each of its parents and holds the number
    of unplaced children; `N` are the nodes that have none. -/
structure KInv (parents : Event → List ID) (R : List (KNode κ)) (D : List (ID × Nat)) (N : List (KNode κ)) : Prop where
  keysNodup : (keysOf D).Nodup
  keysN : ∀ n ∈ R ++ N, n.ev.eventID ∈ keysOf D
  keysP : ∀ n ∈ R ++ N, ∀ p ∈ parents n.ev, p ∈ keysOf D
  val : ∀ id, degVal D id = childCount parents (R ++ N) id
  zeroN : ∀ n ∈ N, childCount parents (R ++ N) n.ev.eventID = 0
  posR : ∀ n ∈ R, 0 < childCount parents (R ++ N) n.ev.eventID
  idNodup : NodeIdNodup (R ++ N)

theorem KInv.lookup {parents : Event → List ID} {R N : List (KNode κ)} {D : List (ID × Nat)} (h : KInv parents R D N)
    {id : ID} (hk : id ∈ keysOf D) :
    (D.find? (fun d => d.1 == id)).map (·.2) = some (childCount parents (R ++ N) id) := by
  have := degOf_eq_some (D := D) (id := id) (v := childCount parents (R ++ N) id)
  unfold degOf at this
  exact this.mpr ⟨hk, h.val id⟩

/-! ## The ready list is exactly the free nodes

  The loop itself is followed with `KLoopInv` of `VProofs.StateResKahnTopo` (`kahn_step`, `kahn_init`). -/

theorem KLoopInv.ready_free {parents : Event → List ID} {nodes rem ni graph : List (KNode κ)} {d : List (ID × Nat)}
    (h : KLoopInv parents nodes rem d ni graph) {n : KNode κ} (hn : n ∈ ni) :
    Free (fun a x => x.ev.eventID ∈ parents a.ev) (rem ++ ni) n :=
  cnt_eq_zero.mp (h.mem_ready_iff.mp hn).2

theorem KLoopInv.waiting_not_free {parents : Event → List ID} {nodes rem ni graph : List (KNode κ)} {d : List (ID × Nat)}
    (h : KLoopInv parents nodes rem d ni graph) {n : KNode κ} (hn : n ∈ rem) :
    ¬ Free (fun a x => x.ev.eventID ∈ parents a.ev) (rem ++ ni) n :=
  fun hfree => h.pos n hn (h.ready n (h.mem_ready_iff.mpr ⟨List.mem_append_left _ hn, cnt_eq_zero.mpr hfree⟩))

/-- What `kahnLoop` returns from a state satisfying the invariant: no strays, and the graph grows by the power order
    `placed` of the unplaced nodes (each iteration pops the greatest free node). -/
theorem kahnLoop_run (lt : κ → κ → Bool) (hlt : StrictTotal lt) (parents : Event → List ID) {nodes : List (KNode κ)}
    (hnd : KIdNodup nodes) (hkey : KeyInj KNode.key nodes) (hac : KAcyclic parents nodes) :
    ∀ (fuel : Nat) (rem : List (KNode κ)) (d : List (ID × Nat)) (ni graph : List (KNode κ)),
      KLoopInv parents nodes rem d ni graph → nodes.length < fuel + graph.length → SortedBy lt KNode.key ni →
      ∃ placed, kahnLoop lt parents fuel rem d ni graph = ([], placed ++ graph) ∧
        IsPowerOrder (fun a b => lt a.key b.key = true) (fun a x => x.ev.eventID ∈ parents a.ev) (rem ++ ni) placed := by
  intro fuel
  induction fuel with
  | zero =>
    intro rem d ni graph h hf
    have := h.perm.length_eq
    simp only [List.length_append] at this
    omega
  | succ fuel ih =>
    intro rem d ni graph h hf hsorted
    rcases List.eq_nil_or_concat ni with rfl | ⟨ni₀, node, rfl⟩
    · rw [kahnLoop_nil, h.no_strays hac]
      exact ⟨[], rfl, IsPowerOrder.nil _ _⟩
    · rw [List.concat_eq_append] at h hsorted ⊢
      rw [kahnLoop_snoc]
      have h' := kahn_step (fun a b => lt a.key b.key) hnd h
      generalize (parents node.ev).foldl kDecStep (d, rem, ni₀) = s at h' ⊢
      obtain ⟨d', rem', ni'⟩ := s
      simp only [] at h' ⊢
      obtain ⟨placed', hrun, hpo⟩ := ih rem' d' _ (node :: graph) h'
        (by rw [List.length_cons]; omega) (sortBy_sorted KNode.key hlt ni')
      -- the unplaced nodes of the new state are those of the old one without the popped node
      have hp : rem' ++ sortBy (fun a b => lt a.key b.key) ni' ~ rem ++ ni₀ :=
        (List.perm_append_right_iff (node :: graph)).mp (h'.perm.trans (by simpa using h.perm.symm))
      have hnode : node ∈ ni₀ ++ [node] := List.mem_append_right _ (List.mem_singleton_self node)
      have hne : ∀ a ∈ rem ++ ni₀, a ≠ node := by
        have hndU := (List.nodup_append.mp (h.perm.nodup_iff.mpr hnd.nodup)).1
        rw [← List.append_assoc] at hndU
        exact fun a ha => (List.nodup_append.mp hndU).2.2 a ha node (List.mem_singleton_self node)
      refine ⟨placed' ++ [node], ?_, IsPowerOrder.snoc hpo ?_ (fun hm => hne node (hp.mem_iff.mp hm) rfl)
        (h.ready_free hnode) ?_⟩
      · rw [hrun]; simp
      · intro y
        rw [← List.append_assoc, List.mem_append, List.mem_singleton, hp.mem_iff]
      · intro y hy hyne hfree
        -- a free unplaced node other than `node` is ready, hence sorted before `node`, and has another key
        have hyN : y ∈ ni₀ := by
          rcases List.mem_append.mp hy with hyR | hyN
          · exact absurd hfree (h.waiting_not_free hyR)
          · exact (List.mem_append.mp hyN).resolve_right fun e => hyne (List.mem_singleton.mp e)
        have hle : lt node.key y.key = false := (List.pairwise_append.mp hsorted).2.2 y hyN node (List.mem_singleton_self node)
        cases hyx : lt y.key node.key with
        | true => rfl
        | false =>
          have hmem : ∀ a ∈ ni₀ ++ [node], a ∈ nodes := fun a ha =>
            h.perm.mem_iff.mp (List.mem_append_left _ (List.mem_append_right _ ha))
          exact absurd (hkey y (hmem y (List.mem_append_left _ hyN)) node (hmem node hnode) (hlt.total _ _ hyx hle)) hyne

/-- the output enumerates the deduped nodes: no hypothesis on `lt`, no acyclicity (the fuel never runs out) -/
theorem kahnNodes_perm (lt : κ → κ → Bool) (parents : Event → List ID) (nodes0 : List (KNode κ)) :
    (kahnNodes lt parents nodes0) ~ (dedupNodes nodes0) := by
  obtain ⟨d', h⟩ := kahnLoop_final lt parents nodes0
  have := h.perm
  rw [List.append_nil] at this
  exact ((sortBy_perm _ _).append_right _).trans this

theorem kAcyclic_of_rank {parents : Event → List ID} {nodes0 : List (KNode κ)}
    (hacyc : ∃ rk : ID → Nat, ∀ n ∈ nodes0, ∀ p ∈ parents n.ev, (∃ n' ∈ nodes0, n'.ev.eventID = p) → rk p < rk n.ev.eventID) :
    KAcyclic parents nodes0 := by
  obtain ⟨rk, hrk⟩ := hacyc
  exact ⟨rk, fun n hn p hp hpn => hrk n hn p hp (by
    obtain ⟨n', hn', e⟩ := List.mem_map.mp hpn; exact ⟨n', hn', e⟩)⟩

/-- under acyclicity nothing is a stray: the `kahnLoop` call of `kahn` ends with `rem = []`
    (`kahn_loop_no_strays` of `VProofs.StateResKahnTopo2`, for the pieces as named here) -/
theorem kahn_no_strays (lt : κ → κ → Bool) (parents : Event → List ID) (nodes0 : List (KNode κ))
    (hacyc : ∃ rk : ID → Nat, ∀ n ∈ nodes0, ∀ p ∈ parents n.ev, (∃ n' ∈ nodes0, n'.ev.eventID = p) → rk p < rk n.ev.eventID) :
    (kahnLoop lt parents ((dedupNodes nodes0).length + 1)
      ((dedupNodes nodes0).filter (fun n => !(degOf (initDeg parents (dedupNodes nodes0)) n.ev.eventID == some 0)))
      (initDeg parents (dedupNodes nodes0))
      (sortBy (fun a b => lt a.key b.key)
        ((dedupNodes nodes0).filter (fun n => degOf (initDeg parents (dedupNodes nodes0)) n.ev.eventID == some 0))) []).1 = [] :=
  kahn_loop_no_strays lt parents nodes0 (kAcyclic_of_rank hacyc)

theorem kahnNodes_eq_placed (lt : κ → κ → Bool) (parents : Event → List ID) (nodes0 : List (KNode κ))
    (hacyc : ∃ rk : ID → Nat, ∀ n ∈ nodes0, ∀ p ∈ parents n.ev, (∃ n' ∈ nodes0, n'.ev.eventID = p) → rk p < rk n.ev.eventID) :
    kahnNodes lt parents nodes0 = (kahnRun lt parents nodes0).2 := by
  unfold kahnNodes
  simp only []
  rw [kahn_no_strays lt parents nodes0 hacyc]
  rfl

/-- acyclic input: reading `out = pre ++ x :: post`, no node of `pre ++ [x]` has `x` among its parents
    (every node comes after its parents present in the input); no hypothesis on `lt` -/
theorem kahnNodes_topological (lt : κ → κ → Bool) (parents : Event → List ID) (nodes0 : List (KNode κ))
    (hacyc : ∃ rk : ID → Nat, ∀ n ∈ nodes0, ∀ p ∈ parents n.ev, (∃ n' ∈ nodes0, n'.ev.eventID = p) → rk p < rk n.ev.eventID)
    {pre post : List (KNode κ)} {x : KNode κ} (e : kahnNodes lt parents nodes0 = pre ++ x :: post) :
    ∀ a ∈ pre ++ [x], x.ev.eventID ∉ parents a.ev := by
  obtain ⟨d', h⟩ := kahnLoop_final lt parents nodes0
  have ht := h.topo
  rw [← kahnNodes_eq_placed lt parents nodes0 hacyc, e, List.pairwise_append] at ht
  intro a ha
  rcases List.mem_append.mp ha with ha | ha
  · exact ht.2.2 a ha x List.mem_cons_self
  · -- `x` itself: a node that lists itself as a parent would have a rank below its own
    rw [List.mem_singleton.mp ha]
    obtain ⟨rk, hrk⟩ := hacyc
    have hx : x ∈ nodes0 := mem_dedupNodes ((kahnNodes_perm lt parents nodes0).mem_iff.mp (e ▸ by simp))
    exact fun hp => Nat.lt_irrefl _ (hrk x hx _ hp ⟨x, hx, rfl⟩)

theorem kahnNodes_is_power_order (lt : κ → κ → Bool) (parents : Event → List ID) (nodes0 : List (KNode κ))
    (hlt : StrictTotal lt)
    (hid : ∀ n ∈ nodes0, ∀ n' ∈ nodes0, n.ev.eventID = n'.ev.eventID → n = n')
    (hkey : ∀ n ∈ nodes0, ∀ n' ∈ nodes0, n.key = n'.key → n = n')
    (hacyc : ∃ rk : ID → Nat, ∀ n ∈ nodes0, ∀ p ∈ parents n.ev, (∃ n' ∈ nodes0, n'.ev.eventID = p) → rk p < rk n.ev.eventID) :
    V.StateResSpec.IsPowerOrder (fun a b => lt a.key b.key = true) (fun a x => x.ev.eventID ∈ parents a.ev) nodes0
      (kahnNodes lt parents nodes0) := by
  have h0 := kahn_init (fun a b => lt a.key b.key) parents (kNodes nodes0)
  obtain ⟨placed, hrun, hpo⟩ := kahnLoop_run lt hlt parents (kNodes_idNodup nodes0)
    (fun a ha b hb => hkey a (mem_kNodes ha) b (mem_kNodes hb)) (kAcyclic_of_rank hacyc).dedup
    ((kNodes nodes0).length + 1) _ _ _ _ h0 (by simp) (sortBy_sorted KNode.key hlt _)
  have hk := kahnNodes_eq_placed lt parents nodes0 hacyc
  unfold kahnRun at hk
  rw [hrun, List.append_nil] at hk
  rw [hk]
  refine hpo.congr_input fun x => ?_
  have := h0.perm.mem_iff (a := x)
  rw [List.append_nil] at this
  exact this.trans (mem_dedupNodes_iff hid)

end V.StateRes

namespace V.StateResSpec
open V.StateRes (ID PowerKey powerLt KNode kahnNodes powerLt_strictTotal kahnNodes_is_power_order)

theorem lookup_fun_eq_findByID : lookup = V.StateRes.findByID := rfl

theorem senderPower_eq (m : List Event) (createEv : Option Event) (e : Event) :
    senderPower m createEv e = V.StateRes.senderPower m createEv e := rfl

theorem reverseTopoAuth_eq (m : List Event) (createEv : Option Event) (evs : List Event) :
    V.StateRes.reverseTopoAuth m createEv evs =
      (kahnNodes powerLt (fun e => e.authEventIDs) (evs.map (V.StateRes.powerNode m createEv))).map (·.ev) := rfl

theorem reverseTopoAuth_is_power_order (m : List Event) (createEv : Option Event) (evs : List Event)
    (hid : ∀ a ∈ evs, ∀ b ∈ evs, a.eventID = b.eventID → a = b)
    (hacyc : ∃ rk : ID → Nat, ∀ e ∈ evs, ∀ p ∈ e.authEventIDs, (∃ e' ∈ evs, e'.eventID = p) → rk p < rk e.eventID) :
    IsReverseTopoPowerOrder m createEv evs (V.StateRes.reverseTopoAuth m createEv evs) := by
  rw [reverseTopoAuth_eq]
  have hpo := kahnNodes_is_power_order powerLt (fun e => e.authEventIDs) (evs.map (V.StateRes.powerNode m createEv))
    powerLt_strictTotal ?hidN ?hkeyN ?hacycN
  case hidN =>
    intro n hn n' hn' e
    obtain ⟨a, ha, rfl⟩ := List.mem_map.mp hn
    obtain ⟨b, hb, rfl⟩ := List.mem_map.mp hn'
    rw [hid a ha b hb e]
  case hkeyN =>
    intro n hn n' hn' e
    obtain ⟨a, ha, rfl⟩ := List.mem_map.mp hn
    obtain ⟨b, hb, rfl⟩ := List.mem_map.mp hn'
    rw [hid a ha b hb (congrArg PowerKey.id e)]
  case hacycN =>
    obtain ⟨rk, hrk⟩ := hacyc
    refine ⟨rk, fun n hn p hp ⟨n', hn', e⟩ => ?_⟩
    obtain ⟨a, ha, rfl⟩ := List.mem_map.mp hn
    obtain ⟨b, hb, rfl⟩ := List.mem_map.mp hn'
    exact hrk a ha p hp ⟨b, hb, e⟩
  -- every node of the output is the node of its event
  have hout : ((kahnNodes powerLt (fun e => e.authEventIDs) (evs.map (V.StateRes.powerNode m createEv))).map (·.ev)).map
      (V.StateRes.powerNode m createEv) = kahnNodes powerLt (fun e => e.authEventIDs) (evs.map (V.StateRes.powerNode m createEv)) := by
    rw [List.map_map]
    refine (List.map_congr_left fun x hx => ?_).trans (List.map_id _)
    obtain ⟨e, _, rfl⟩ := List.mem_map.mp ((hpo.mem x).mp hx)
    rfl
  exact IsPowerOrder.of_map (V.StateRes.powerNode m createEv) (fun a b e => congrArg KNode.ev e) (fun _ _ h => h)
    (fun _ _ => Iff.rfl) (hout.symm ▸ hpo)

end V.StateResSpec
