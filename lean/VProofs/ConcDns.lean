/-
  VProofs.ConcDns — helper lemmas for the DNS-cache interleaving model (C19): `step` as a relation on the moving thread,
  the map and the mutex (`Region`), the reachable-state invariants, the eviction loop, and the per-thread history that
  explains every result.
-/
import VModel.ConcDns
import VProofs.Assoc
import VProofs.Lists
namespace V.Conc.Dns

/-! ### the map `entries`: an association list in the sense of `V.Assoc`, whose lemmas apply as they stand -/

theorem get?_eq (n : Name) (l : EMap) : get? n l = Assoc.lookup l n := rfl

theorem erase_eq (n : Name) (l : EMap) : erase n l = Assoc.erase l n := rfl

theorem put_eq (n : Name) (e : Entry) (l : EMap) : put n e l = Assoc.put l n e := rfl

theorem erase_length_le (n : Name) (l : EMap) : (erase n l).length ≤ l.length :=
  List.length_filter_le _ _

theorem put_length_le (n : Name) (e : Entry) (l : EMap) : (put n e l).length ≤ l.length + 1 := by
  simp only [put, List.length_append, List.length_cons, List.length_nil]
  have := erase_length_le n l
  omega

/-- `Region c m es mx th th' es' mx'`: with the map `es` and the mutex `mx`, the atomic region that move `m` selects takes
    its thread from `th` to `th'` and leaves the map `es'` and the mutex `mx'`.  One constructor per outcome of `step`. -/
inductive Region (c : Cfg) (m : Move) (es : EMap) (mx : Option Nat) : Thread → Thread → EMap → Option Nat → Prop where
  | hit {n : Name} {sel : Nat} {rest : List Op} {rs : List Ret} {e : Entry} : mx = none → get? n es = some e → m.t < e.expires →
      Region c m es mx ⟨.idle, .lookup n sel :: rest, rs⟩ ⟨.idle, rest, .hit n e :: rs⟩ es mx
  | stale {n : Name} {sel : Nat} {rest : List Op} {rs : List Ret} {e : Entry} : mx = none → get? n es = some e → ¬ m.t < e.expires →
      Region c m es mx ⟨.idle, .lookup n sel :: rest, rs⟩ ⟨.resolve n sel, rest, rs⟩ (erase n es) mx
  | absent {n : Name} {sel : Nat} {rest : List Op} {rs : List Ret} : mx = none → get? n es = none →
      Region c m es mx ⟨.idle, .lookup n sel :: rest, rs⟩ ⟨.resolve n sel, rest, rs⟩ es mx
  | del {n : Name} {rest : List Op} {rs : List Ret} : mx = none →
      Region c m es mx ⟨.idle, .del n :: rest, rs⟩ ⟨.idle, rest, .deleted n :: rs⟩ (erase n es) mx
  | resolveFail {n : Name} {sel : Nat} {td : List Op} {rs : List Ret} : c.resolver n sel = none →
      Region c m es mx ⟨.resolve n sel, td, rs⟩ ⟨.idle, td, .fail n :: rs⟩ es mx
  | resolveNoCache {n : Name} {sel : Nat} {td : List Op} {rs : List Ret} {a : Addrs} : c.resolver n sel = some a → c.size ≤ 0 →
      Region c m es mx ⟨.resolve n sel, td, rs⟩ ⟨.idle, td, .miss n ⟨a, m.t + c.dur⟩ :: rs⟩ es mx
  | resolveOk {n : Name} {sel : Nat} {td : List Op} {rs : List Ret} {a : Addrs} : c.resolver n sel = some a → 0 < c.size →
      Region c m es mx ⟨.resolve n sel, td, rs⟩ ⟨.store n a, td, rs⟩ es mx
  | lock {n : Name} {a : Addrs} {td : List Op} {rs : List Ret} : mx = none →
      Region c m es mx ⟨.store n a, td, rs⟩ ⟨.evict n a, td, rs⟩ es (some m.tid)
  | evictOne {n : Name} {a : Addrs} {td : List Op} {rs : List Ret} : mx = some m.tid → (es.length : Int) ≥ c.size →
      Region c m es mx ⟨.evict n a, td, rs⟩ ⟨.evict n a, td, rs⟩ (erase (scan (iterOrder es m.k) (m.t + c.dur)).1 es) mx
  | insert {n : Name} {a : Addrs} {td : List Op} {rs : List Ret} : mx = some m.tid → ¬ (es.length : Int) ≥ c.size →
      Region c m es mx ⟨.evict n a, td, rs⟩ ⟨.idle, td, .miss n ⟨a, m.t + c.dur⟩ :: rs⟩ (put n ⟨a, m.t + c.dur⟩ es) none

theorem step_region {c : Cfg} {s s' : State} {m : Move} (h : step c s m = some s') :
    s.now ≤ m.t ∧ ∃ th th' es' mx', s.threads[m.tid]? = some th ∧ Region c m s.entries s.mutex th th' es' mx' ∧
      s' = ⟨es', mx', m.t, s.threads.set m.tid th'⟩ := by
  rw [step] at h
  by_cases hnow : m.t < s.now
  · rw [if_pos hnow] at h; cases h
  · rw [if_neg hnow] at h
    refine ⟨Int.not_lt.1 hnow, ?_⟩
    split at h
    · cases h
    · next th hth =>
      obtain ⟨pc, todo, rs⟩ := th
      have none_of : ¬ s.mutex.isSome = true → s.mutex = none := by simp
      dsimp only at h
      split at h
      · split at h
        · cases h
        · split at h
          · cases h
          · next hmx =>
            split at h
            · split at h
              · next hget hlt => cases h; exact ⟨_, _, _, _, hth, .hit (none_of hmx) hget hlt, rfl⟩
              · next hget hlt => cases h; exact ⟨_, _, _, _, hth, .stale (none_of hmx) hget hlt, rfl⟩
            · next hget => cases h; exact ⟨_, _, _, _, hth, .absent (none_of hmx) hget, rfl⟩
        · split at h
          · cases h
          · next hmx => cases h; exact ⟨_, _, _, _, hth, .del (none_of hmx), rfl⟩
      · split at h
        · next hr => cases h; exact ⟨_, _, _, _, hth, .resolveFail hr, rfl⟩
        · split at h
          · next hr hsz => cases h; exact ⟨_, _, _, _, hth, .resolveNoCache hr hsz, rfl⟩
          · next hr hsz => cases h; exact ⟨_, _, _, _, hth, .resolveOk hr (Int.not_le.1 hsz), rfl⟩
      · split at h
        · cases h
        · next hmx => cases h; exact ⟨_, _, _, _, hth, .lock (none_of hmx), rfl⟩
      · split at h
        · cases h
        · next hmx =>
          have hmx' : s.mutex = some m.tid := by simpa using hmx
          split at h
          · next hlen => cases h; exact ⟨_, _, _, _, hth, .evictOne hmx' hlen, by rw [Lists.set_of_get hth]⟩
          · next hlen => cases h; exact ⟨_, _, _, _, hth, .insert hmx' hlen, rfl⟩

theorem Region.step {c : Cfg} {s : State} {m : Move} {th th' : Thread} {es' : EMap} {mx' : Option Nat}
    (h : Region c m s.entries s.mutex th th' es' mx') (hth : s.threads[m.tid]? = some th) (hnow : s.now ≤ m.t) :
    step c s m = some ⟨es', mx', m.t, s.threads.set m.tid th'⟩ := by
  have hnow' : ¬ m.t < s.now := Int.not_lt.2 hnow
  cases h with
  | evictOne hmx hlen => simp [Dns.step, hnow', hth, hmx, hlen, Lists.set_of_get hth]
  | insert hmx hlen => simp [Dns.step, hnow', hth, hmx, hlen]
  | resolveOk hr hsz => simp [Dns.step, hnow', hth, hr, Int.not_le.2 hsz]
  | _ => simp [Dns.step, *]

/-- what a thread and the mutex must be like for a move of the thread to be enabled (the clock aside) -/
def Enabled (m : Move) (mx : Option Nat) (th : Thread) : Prop :=
  match th.pc with
  | .idle => th.todo ≠ [] ∧ mx = none
  | .resolve _ _ => True
  | .store _ _ => mx = none
  | .evict _ _ => mx = some m.tid

theorem Region.enabled {c : Cfg} {m : Move} {es es' : EMap} {mx mx' : Option Nat} {th th' : Thread}
    (h : Region c m es mx th th' es' mx') : Enabled m mx th := by
  cases h <;> simp [Enabled, *]

theorem Region.of_enabled {c : Cfg} {m : Move} {mx : Option Nat} {th : Thread} (es : EMap) (h : Enabled m mx th) :
    ∃ th' es' mx', Region c m es mx th th' es' mx' := by
  obtain ⟨pc, td, rs⟩ := th
  cases pc with
  | idle =>
    obtain ⟨htd, hmx⟩ := h
    cases td with
    | nil => exact absurd rfl htd
    | cons op rest =>
      cases op with
      | lookup n sel =>
        cases hget : get? n es with
        | none => exact ⟨_, _, _, .absent hmx hget⟩
        | some e =>
          by_cases hexp : m.t < e.expires
          · exact ⟨_, _, _, .hit hmx hget hexp⟩
          · exact ⟨_, _, _, .stale hmx hget hexp⟩
      | del n => exact ⟨_, _, _, .del hmx⟩
  | resolve n sel =>
    cases hr : c.resolver n sel with
    | none => exact ⟨_, _, _, .resolveFail hr⟩
    | some a =>
      by_cases hsz : c.size ≤ 0
      · exact ⟨_, _, _, .resolveNoCache hr hsz⟩
      · exact ⟨_, _, _, .resolveOk hr (Int.not_le.1 hsz)⟩
  | store n a => exact ⟨_, _, _, .lock h⟩
  | evict n a =>
    by_cases hlen : (es.length : Int) ≥ c.size
    · exact ⟨_, _, _, .evictOne h hlen⟩
    · exact ⟨_, _, _, .insert h hlen⟩

theorem step_enabled {c : Cfg} {s : State} {m : Move} :
    (∃ s', Dns.step c s m = some s') ↔ s.now ≤ m.t ∧ ∃ th, s.threads[m.tid]? = some th ∧ Enabled m s.mutex th := by
  constructor
  · rintro ⟨s', h⟩
    obtain ⟨hnow, th, _, _, _, hth, hreg, -⟩ := step_region h
    exact ⟨hnow, th, hth, hreg.enabled⟩
  · rintro ⟨hnow, th, hth, hen⟩
    obtain ⟨_, _, _, hreg⟩ := Region.of_enabled (c := c) s.entries hen
    exact ⟨_, hreg.step hth hnow⟩

def atEvict (th : Thread) : Prop := ∃ n a, th.pc = .evict n a

/-- at `store` or inside the eviction loop: on the locked store path -/
def atStore (th : Thread) : Prop := (∃ n a, th.pc = .store n a) ∨ atEvict th

section facts
variable {c : Cfg} {m : Move} {es es' : EMap} {mx mx' : Option Nat} {th th' : Thread}

theorem Region.entries (h : Region c m es mx th th' es' mx') :
    es' = es ∨ (∃ n, es' = erase n es) ∨
      ∃ n a, th.pc = .evict n a ∧ ¬ (es.length : Int) ≥ c.size ∧ es' = put n ⟨a, m.t + c.dur⟩ es := by
  cases h with
  | stale | del | evictOne => exact .inr (.inl ⟨_, rfl⟩)
  | insert _ hlen => exact .inr (.inr ⟨_, _, rfl, hlen, rfl⟩)
  | _ => exact .inl rfl

theorem Region.forall_entries {Q : Name × Entry → Prop} (h : Region c m es mx th th' es' mx') (hQ : ∀ p ∈ es, Q p)
    (hput : ∀ n a, th.pc = .evict n a → Q (n, ⟨a, m.t + c.dur⟩)) : ∀ p ∈ es', Q p := by
  rcases h.entries with e | ⟨n, e⟩ | ⟨n, a, hpc, -, e⟩ <;> rw [e]
  · exact hQ
  · exact fun p hp => hQ p (Assoc.mem_erase.1 hp).1
  · intro p hp
    rcases Assoc.mem_put hp with ⟨hp, _⟩ | rfl
    · exact hQ p hp
    · exact hput n a hpc

/-- the step of `InvA.owner` -/
theorem Region.owner (h : Region c m es mx th th' es' mx') (h0 : mx = some m.tid ↔ atEvict th) :
    (mx' = some m.tid ↔ atEvict th') ∧ ∀ j, m.tid ≠ j → (mx' = some j ↔ mx = some j) := by
  cases h with
  | resolveFail | resolveNoCache | resolveOk => simpa [atEvict] using h0
  | _ => simp [atEvict, *]

/-- the step of `InvC.thr` -/
theorem Region.store_pos (h : Region c m es mx th th' es' mx') (h0 : atStore th → 0 < c.size) : atStore th' → 0 < c.size := by
  cases h with
  | resolveOk _ hsz => exact fun _ => hsz
  | lock => exact fun _ => h0 (.inl ⟨_, _, rfl⟩)
  | evictOne => exact h0
  | _ => simp [atStore, atEvict]

/-- a region reads at most the head of the mover's to-do list: the list behind it can be anything -/
theorem Region.todo (h : Region c m es mx th th' es' mx') :
    (th'.todo = th.todo ∧ ∀ l, Region c m es mx { th with todo := l } { th' with todo := l } es' mx') ∨
    (∃ op, th.todo = op :: th'.todo ∧ ∀ l, Region c m es mx { th with todo := op :: l } { th' with todo := l } es' mx') := by
  cases h with
  | hit | stale | absent | del => exact .inr ⟨_, rfl, fun l => by constructor <;> assumption⟩
  | _ => exact .inl ⟨rfl, fun l => by constructor <;> assumption⟩

theorem Region.served (h : Region c m es mx th th' es' mx') {n : Name} {e : Entry} (hret : th'.rets = .hit n e :: th.rets) :
    m.t < e.expires ∧ (n, e) ∈ es := by
  cases h with
  | hit _ hget hlt => cases hret; exact ⟨hlt, Assoc.mem_of_lookup_eq_some hget⟩
  | stale | absent | resolveOk | lock | evictOne => exact absurd hret.symm (List.cons_ne_self _ _)
  | _ => cases hret

end facts

theorem run_cons {c : Cfg} {s s' : State} {m : Move} {ms : List Move} :
    run c s (m :: ms) = some s' ↔ ∃ s₁, Dns.step c s m = some s₁ ∧ run c s₁ ms = some s' := by
  rw [run]
  cases Dns.step c s m <;> simp

theorem reachable_run {c : Cfg} {todos : List (List Op)} {t0 : Int} {s s' : State} (h : Reachable c todos t0 s)
    (ms : List Move) (hr : run c s ms = some s') : Reachable c todos t0 s' := by
  induction ms generalizing s with
  | nil => cases hr; exact h
  | cons m ms ih =>
    obtain ⟨s₁, hs, hr⟩ := run_cons.1 hr
    exact ih (Reachable.step m h hs) hr

/-- the map has one entry per name, the mutex is held by exactly the thread inside the eviction loop, and no stored
    expiry lies beyond `now + duration` -/
structure InvA (c : Cfg) (s : State) : Prop where
  nodup : (s.entries.map (·.1)).Nodup
  owner : ∀ i, s.mutex = some i ↔ ∃ th, s.threads[i]? = some th ∧ atEvict th
  expiry : ∀ p ∈ s.entries, p.2.expires ≤ s.now + c.dur

theorem init_thread {todos : List (List Op)} {t0 : Int} {i : Nat} {th : Thread} (h : (init todos t0).threads[i]? = some th) :
    ∃ ops, todos[i]? = some ops ∧ th = ⟨.idle, ops, []⟩ := by
  simp only [init, List.getElem?_map] at h
  obtain ⟨ops, hops, rfl⟩ := Option.map_eq_some_iff.1 h
  exact ⟨ops, hops, rfl⟩

theorem invA_init (c : Cfg) (todos : List (List Op)) (t0 : Int) : InvA c (init todos t0) := by
  refine ⟨by simp [init], ?_, by simp [init]⟩
  intro i
  refine ⟨fun h => (nomatch h), ?_⟩
  rintro ⟨th, hth, n, a, hpc⟩
  obtain ⟨ops, -, rfl⟩ := init_thread hth
  cases hpc

theorem invA_step {c : Cfg} {s s' : State} {m : Move} (hi : InvA c s) (h : step c s m = some s') : InvA c s' := by
  obtain ⟨hnow, th, th', es', mx', hth, hreg, rfl⟩ := step_region h
  have hexp : ∀ p ∈ s.entries, p.2.expires ≤ m.t + c.dur := fun p hp => Int.le_trans (hi.expiry p hp) (Int.add_le_add_right hnow _)
  refine ⟨?_, ?_, ?_⟩
  · rcases hreg.entries with e | ⟨n, e⟩ | ⟨n, a, -, -, e⟩ <;> rw [e]
    · exact hi.nodup
    · rw [erase_eq]; exact Assoc.nodup_keys_erase hi.nodup n
    · rw [put_eq]; exact Assoc.nodup_keys_put hi.nodup n _
  · have hown := hreg.owner ((hi.owner m.tid).trans (by simp [hth]))
    intro i
    show mx' = some i ↔ ∃ t, (s.threads.set m.tid th')[i]? = some t ∧ atEvict t
    rw [Lists.get_set hth]
    split
    · next hi' => subst hi'; simpa using hown.1
    · next hi' => exact (hown.2 i (Ne.symm hi')).trans (hi.owner i)
  · exact hreg.forall_entries hexp (fun _ _ _ => Int.le_refl _)

theorem invA_reachable {c : Cfg} {todos : List (List Op)} {t0 : Int} {s : State}
    (h : Reachable c todos t0 s) : InvA c s := by
  induction h with
  | init => exact invA_init c todos t0
  | step m _ hs ih => exact invA_step ih hs

/-- the cache never exceeds its configured size, and a thread is on the store path (`atStore`) only if the size is positive -/
structure InvC (c : Cfg) (s : State) : Prop where
  thr : ∀ th ∈ s.threads, atStore th → 0 < c.size
  size : (s.entries.length : Int) ≤ max c.size 0

theorem invC_init (c : Cfg) (todos : List (List Op)) (t0 : Int) : InvC c (init todos t0) := by
  refine ⟨?_, by simp [init]; omega⟩
  intro th hth
  simp only [init, List.mem_map] at hth
  obtain ⟨ops, _, rfl⟩ := hth
  simp [atStore, atEvict]

theorem invC_step {c : Cfg} {s s' : State} {m : Move} (hi : InvC c s) (h : step c s m = some s') : InvC c s' := by
  obtain ⟨-, th, th', es', mx', hth, hreg, rfl⟩ := step_region h
  refine ⟨fun t ht => ?_, ?_⟩
  · rcases List.mem_or_eq_of_mem_set ht with ht | rfl
    · exact hi.thr t ht
    · exact hreg.store_pos (hi.thr th (List.mem_of_getElem? hth))
  · show (es'.length : Int) ≤ max c.size 0
    have hs := hi.size
    rcases hreg.entries with e | ⟨n, e⟩ | ⟨n, a, -, hlen, e⟩ <;> rw [e]
    · exact hs
    · have := erase_length_le n s.entries; omega
    · have := put_length_le n ⟨a, m.t + c.dur⟩ s.entries; omega

theorem invC_reachable {c : Cfg} {todos : List (List Op)} {t0 : Int} {s : State}
    (h : Reachable c todos t0 s) : InvC c s := by
  induction h with
  | init => exact invC_init c todos t0
  | step m _ hs ih => exact invC_step ih hs

theorem mem_iterOrder {l : EMap} {k : Nat} {p : Name × Entry} : p ∈ iterOrder l k ↔ p ∈ l := by
  unfold iterOrder List.rotateLeft
  by_cases h : l.length ≤ 1
  · simp [h]
  · simp only [h, if_false, List.mem_append]
    rw [or_comm, ← List.mem_append, List.take_append_drop]

/-- if no entry expires before the scan's running minimum, the scan keeps what it has: `name` stays "" -/
theorem foldl_scan_none {l : EMap} {acc : Name × Int} (h : ∀ p ∈ l, ¬ p.2.expires < acc.2) :
    l.foldl (fun acc p => if p.2.expires < acc.2 then (p.1, p.2.expires) else acc) acc = acc := by
  induction l with
  | nil => rfl
  | cons x xs ih =>
    rw [List.foldl_cons, if_neg (h x List.mem_cons_self)]
    exact ih (fun p hp => h p (List.mem_cons_of_mem _ hp))

theorem foldl_scan_picks {l : EMap} {acc : Name × Int} (h : ∃ p ∈ l, p.2.expires < acc.2) :
    ∃ q ∈ l, q.1 = (l.foldl (fun acc p => if p.2.expires < acc.2 then (p.1, p.2.expires) else acc) acc).1 := by
  induction l generalizing acc with
  | nil => obtain ⟨p, hp, _⟩ := h; cases hp
  | cons x xs ih =>
    rw [List.foldl_cons]
    by_cases hx : x.2.expires < acc.2
    · rw [if_pos hx]
      -- `x` is named unless a later entry expires earlier still
      by_cases hxs : ∃ p ∈ xs, p.2.expires < x.2.expires
      · obtain ⟨q, hq, e⟩ := ih (acc := (x.1, x.2.expires)) hxs
        exact ⟨q, List.mem_cons_of_mem _ hq, e⟩
      · rw [foldl_scan_none (fun p hp hlt => hxs ⟨p, hp, hlt⟩)]
        exact ⟨x, List.mem_cons_self, rfl⟩
    · rw [if_neg hx]
      obtain ⟨p, hp, hlt⟩ := h
      rcases List.mem_cons.1 hp with rfl | hp
      · exact absurd hlt hx
      · obtain ⟨q, hq, e⟩ := ih ⟨p, hp, hlt⟩
        exact ⟨q, List.mem_cons_of_mem _ hq, e⟩

/-- if every entry expires before `ts` the scan names an entry of the map, not "", so erasing its victim shrinks the map -/
theorem evict_progress {l : EMap} {ts : Int} {k : Nat} (hne : l ≠ []) (hold : ∀ p ∈ l, p.2.expires < ts) :
    (erase (scan (iterOrder l k) ts).1 l).length < l.length := by
  have : ∃ p ∈ iterOrder l k, p.2.expires < ts := by
    cases l with
    | nil => exact absurd rfl hne
    | cons x xs => exact ⟨x, mem_iterOrder.2 (by simp), hold x (by simp)⟩
  obtain ⟨q, hq, hq'⟩ : ∃ q ∈ iterOrder l k, q.1 = (scan (iterOrder l k) ts).1 := foldl_scan_picks this
  unfold erase
  rw [List.length_filter_lt_length_iff_exists]
  exact ⟨q, mem_iterOrder.1 hq, by simp [hq']⟩

/-- the state after the storing step of thread `g` -/
def insertState (c : Cfg) (s : State) (g : Nat) (t : Int) (th : Thread) (n : Name) (a : Addrs) : State :=
  { s with now := t, entries := put n ⟨a, t + c.dur⟩ s.entries, mutex := none,
           threads := s.threads.set g ⟨.idle, th.todo, .miss n ⟨a, t + c.dur⟩ :: th.rets⟩ }

theorem evictLoop_succ {c : Cfg} {s : State} {g : Nat} {t : Int} {th : Thread} {n : Name} {a : Addrs}
    (hth : s.threads[g]? = some th) (hpc : th.pc = .evict n a) (hmx : s.mutex = some g) (hnow : s.now ≤ t) (fuel : Nat) :
    evictLoop c g t (fuel + 1) s =
      if (s.entries.length : Int) ≥ c.size then
        evictLoop c g t fuel { s with now := t, entries := erase (scan (iterOrder s.entries 0) (t + c.dur)).1 s.entries }
      else evictLoop c g t fuel (insertState c s g t th n a) := by
  obtain ⟨_, td, rs⟩ := th
  cases hpc
  rw [evictLoop]
  simp only [hth]
  by_cases hlen : (s.entries.length : Int) ≥ c.size
  · rw [if_pos hlen, (Region.evictOne (m := ⟨g, t, 0⟩) hmx hlen).step hth hnow, Lists.set_of_get hth, hmx]
  · rw [if_neg hlen, (Region.insert (m := ⟨g, t, 0⟩) hmx hlen).step hth hnow]; rfl

/-- the fuel: one iteration per entry, one for the insert, one for the call that finds the thread idle -/
theorem evictLoop_terminates {c : Cfg} (hc : 0 < c.size) {g : Nat} {t : Int} {th : Thread} {n : Name} {a : Addrs} :
    ∀ (fuel : Nat) (s : State), s.threads[g]? = some th → th.pc = .evict n a → s.mutex = some g → s.now ≤ t →
      (∀ p ∈ s.entries, p.2.expires < t + c.dur) → s.entries.length + 1 < fuel →
      ∃ s', evictLoop c g t fuel s = some s' ∧ ∃ th', s'.threads[g]? = some th' ∧ th'.pc = .idle ∧ s'.mutex = none := by
  intro fuel
  induction fuel with
  | zero => intro s _ _ _ _ _ h; omega
  | succ fuel ih =>
    intro s hth hpc hmx hnow hold hfuel
    rw [evictLoop_succ hth hpc hmx hnow]
    split
    · next hlen =>
      have hne : s.entries ≠ [] := by
        intro h; rw [h] at hlen
        exact absurd hc (Int.not_lt.2 (by simpa using hlen))
      have hprog := evict_progress (k := 0) hne hold
      exact ih _ hth hpc hmx (Int.le_refl t) (fun p hp => hold p (Assoc.mem_erase.1 hp).1)
        (show (erase _ s.entries).length + 1 < fuel by omega)
    · cases fuel with
      | zero => omega
      | succ f =>
        have hg : (insertState c s g t th n a).threads[g]? = some ⟨.idle, th.todo, .miss n ⟨a, t + c.dur⟩ :: th.rets⟩ := by
          simp [insertState, Lists.get_set hth]
        unfold evictLoop
        simp only [hg]
        exact ⟨_, rfl, _, hg, rfl, rfl⟩

/-! ### every returned result is explained by the sequential specification of its own op -/

theorem Spec.Explained.addrs {c : Cfg} {ans : Name → Addrs} {ops : List Op} {rets : List Ret} (h : Explained c ans ops rets) :
    ∀ r ∈ rets, ∀ n e, (r = .hit n e ∨ r = .miss n e) → e.addrs = ans n := by
  induction h with
  | nil => intro r hr; cases hr
  | @cons op r ops rs hok _ ih =>
    intro r' hr' n e hre
    rcases List.mem_cons.1 hr' with rfl | hr'
    · cases op with
      | lookup n' sel => rcases hre with rfl | rfl <;> (obtain ⟨rfl, h⟩ := hok; exact h)
      | del n' => rcases hre with rfl | rfl <;> exact hok.elim
    · exact ih r' hr' n e hre

open Spec in
/-- the ops of a thread so far: finished ones (explaining its results), at most one in flight, the rest to do -/
def ThreadHist (c : Cfg) (ans : Name → Addrs) (ops : List Op) (th : Thread) : Prop :=
  ∃ doneRev infl, ops = doneRev.reverse ++ infl ++ th.todo ∧ Explained c ans doneRev th.rets ∧
    (match th.pc with
     | .idle => infl = []
     | .resolve n sel => infl = [.lookup n sel]
     | .store n a => ∃ sel, infl = [.lookup n sel] ∧ a = ans n
     | .evict n a => ∃ sel, infl = [.lookup n sel] ∧ a = ans n)

theorem Region.hist {c : Cfg} {ans : Name → Addrs} (hres : ∀ n k a, c.resolver n k = some a → a = ans n)
    {m : Move} {es es' : EMap} {mx mx' : Option Nat} {th th' : Thread} (h : Region c m es mx th th' es' mx')
    (hhost : ∀ p ∈ es, p.2.addrs = ans p.1) {ops : List Op} :
    ThreadHist c ans ops th → ThreadHist c ans ops th' := by
  rintro ⟨doneRev, infl, hops, hex, hin⟩
  have finNew : ∀ (op : Op) (rest : List Op), doneRev.reverse ++ [] ++ op :: rest = (op :: doneRev).reverse ++ [] ++ rest := by simp
  have finInfl : ∀ (op : Op) (rest : List Op), doneRev.reverse ++ [op] ++ rest = (op :: doneRev).reverse ++ [] ++ rest := by simp
  cases h with
  | hit _ hget _ => cases hin; exact ⟨_, [], hops.trans (finNew _ _), .cons ⟨rfl, hhost _ (Assoc.mem_of_lookup_eq_some hget)⟩ hex, rfl⟩
  | stale | absent => cases hin; exact ⟨doneRev, [_], hops.trans (by simp), hex, rfl⟩
  | del => cases hin; exact ⟨_, [], hops.trans (finNew _ _), .cons rfl hex, rfl⟩
  | resolveFail hr => cases hin; exact ⟨_, [], hops.trans (finInfl _ _), .cons ⟨rfl, hr⟩ hex, rfl⟩
  | resolveNoCache hr => cases hin; exact ⟨_, [], hops.trans (finInfl _ _), .cons ⟨rfl, hres _ _ _ hr⟩ hex, rfl⟩
  | resolveOk hr => cases hin; exact ⟨doneRev, _, hops, hex, _, rfl, hres _ _ _ hr⟩
  | lock | evictOne => exact ⟨doneRev, infl, hops, hex, hin⟩
  | insert =>
    obtain ⟨sel, rfl, ha⟩ := hin
    exact ⟨_, [], hops.trans (finInfl _ _), .cons ⟨rfl, ha⟩ hex, rfl⟩

/-- every entry holds the resolver's answer for its name, and every thread's results are explained by its ops so far -/
structure InvL (c : Cfg) (ans : Name → Addrs) (todos : List (List Op)) (s : State) : Prop where
  host : ∀ p ∈ s.entries, p.2.addrs = ans p.1
  hist : ∀ (i : Nat) (th : Thread), s.threads[i]? = some th → ∃ ops : List Op, todos[i]? = some ops ∧ ThreadHist c ans ops th

theorem invL_init (c : Cfg) (ans : Name → Addrs) (todos : List (List Op)) (t0 : Int) : InvL c ans todos (init todos t0) := by
  refine ⟨by simp [init], ?_⟩
  intro i th hth
  obtain ⟨ops, hops, rfl⟩ := init_thread hth
  exact ⟨ops, hops, [], [], by simp, .nil, rfl⟩

theorem invL_step {c : Cfg} {ans : Name → Addrs} (hres : ∀ n k a, c.resolver n k = some a → a = ans n)
    {todos : List (List Op)} {s s' : State} {m : Move} (hi : InvL c ans todos s)
    (h : step c s m = some s') : InvL c ans todos s' := by
  obtain ⟨-, th, th', es', mx', hth, hreg, rfl⟩ := step_region h
  obtain ⟨ops, hops, hh⟩ := hi.hist m.tid th hth
  refine ⟨hreg.forall_entries hi.host fun n a hpc => ?_, Lists.forall_getElem?_set hth hi.hist ⟨ops, hops, hreg.hist hres hi.host hh⟩⟩
  -- what a thread is about to store is the resolver's answer: its history says so
  obtain ⟨_, _, _, _, hin⟩ := hh
  rw [hpc] at hin
  obtain ⟨_, _, ha⟩ := hin
  exact ha

theorem invL_reachable {c : Cfg} {ans : Name → Addrs} (hres : ∀ n k a, c.resolver n k = some a → a = ans n)
    {todos : List (List Op)} {t0 : Int} {s : State} (h : Reachable c todos t0 s) : InvL c ans todos s := by
  induction h with
  | init => exact invL_init c ans todos t0
  | step m _ hs ih => exact invL_step hres ih hs

end V.Conc.Dns
