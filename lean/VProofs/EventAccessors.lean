/-
  What the untrusted constructors guarantee about an accepted event, as far
  as the panic sites of the accessors (VModel.EventAccessors, VModel.EventParse) need it.
-/
import VModel.EventAccessors
import VProofs.EventParse
import VProofs.B64
import VProofs.AuthRulesNoPanic
import VProps.C04
namespace V.AccProofs
open V V.Json V.GoJson V.Redact V.EventParse V.RedactProofs V.EventProofs V.EventAccessors

theorem table_rowOk : ∀ row ∈ VGen.roomVersions, C05.rowOk row = true := by
  intro row h
  obtain ⟨_, _, _, _, _, h⟩ := C05.rowAll_parts h
  exact h

/-- what the regenerated room-version table says of a registered row whose untrusted constructor fills the struct `fmt` -/
structure RowFacts (row : VGen.VersionRow) (fmt : Fmt) : Prop where
  trusted : fmtOfName row.newEventFromTrustedJSONFunc = some fmt
  v1 : fmt = .v1 → row.eventFormat = 1
  hashed : fmt ≠ .v1 → row.eventFormat = 2 ∧ (row.eventIDFormat = 2 ∨ row.eventIDFormat = 3)
  v3 : fmt = .v3 → row.eventIDFormat = 3
  ppl : row.parsePowerLevelsFunc ≠ ""
  enf : ∃ b, enforces row = some b

theorem rowFacts {ver : Bytes} {row : VGen.VersionRow} {fmt : Fmt} (h : rowOf ver = some row)
    (hf : fmtOfName row.newEventFromUntrustedJSONFunc = some fmt) : RowFacts row fmt := by
  have := table_rowOk row (List.mem_of_find?_eq_some h)
  unfold C05.rowOk at this
  rw [hf] at this
  simp only [Bool.and_eq_true, beq_iff_eq, bne_iff_ne, ne_eq] at this
  obtain ⟨⟨⟨⟨h1, h2⟩, h3⟩, h4⟩, h5⟩ := this
  refine ⟨h1, ?_, ?_, ?_, h4, Option.isSome_iff_exists.mp h5⟩
  · intro hv; subst hv; simpa using h2
  · intro hv
    rw [if_neg hv] at h2
    simpa using h2
  · intro hv; subst hv; simpa using h3

theorem checkRoom_setID (fmt : Fmt) (f : Fields) (x : Bytes) : checkRoom fmt { f with eventIDRaw := x } = checkRoom fmt f := rfl

/-- `NewEventFromTrustedJSON`: the room-ID check passed and the ID of a hashed format is the reference hash of the
    event, whatever `event_id` member the trusted JSON carries (the V2 / V3 constructors reset the field) -/
theorem tinv_of_trusted {H : Bytes → Bytes} {ver text : Bytes} {red : Bool} {e : PDU} (h : parseTrusted H ver red text = .ok e) :
    ∃ row, TInv H ver row e := by
  obtain ⟨row, p, hrow, _, ht⟩ := parseTrusted_ok_iff.mp h
  obtain ⟨fmt, kvs, id, hfmt, _, D, hid, rfl⟩ := trustedCore_ok_iff.mp ht
  -- the table: the trusted and untrusted constructor columns name the same struct
  exact ⟨row, hrow, rfl, (C04.row_facts hrow).1.trans hfmt, D.room, hid.2⟩

/-- the ID of a hashed format: `$` and the base64 of the digest -/
theorem referenceID_shape {H : Bytes → Bytes} {row : VGen.VersionRow} {ver : Bytes} {j : JVal} {id : Bytes}
    (hfmt : row.eventFormat = 2) (h : referenceID H row ver j = .ok id) :
    ∃ d, (row.eventIDFormat = 2 ∧ id = 0x24 :: B64.encodeWith B64.stdAlphabet (H d)) ∨
         (row.eventIDFormat = 3 ∧ id = 0x24 :: B64.encodeWith B64.urlAlphabet (H d)) := by
  obtain ⟨r, _, h23, rfl⟩ := referenceID_hashed_ok H row ver hfmt h
  rcases h23 with h2 | h3
  · exact ⟨_, .inl ⟨h2, by rw [if_pos h2]⟩⟩
  · exact ⟨_, .inr ⟨h3, by rw [if_neg (by omega)]⟩⟩

theorem urlChars_ok : ∀ i : Fin 64, isB64UrlChar (B64.encChar B64.urlAlphabet i.val) = true ∧
    B64.encChar B64.urlAlphabet i.val ≠ 0x3A := by
  decide +kernel

/-- `!` followed by the URL-safe base64 of a 32-byte digest is a room ID `spec.NewRoomID` accepts -/
theorem roomIDValid_hashed (d : Bytes) (hd : d.length = 32) :
    roomIDValid? (0x21 :: B64.encodeWith B64.urlAlphabet d) = some true := by
  have hlen : (B64.encodeWith B64.urlAlphabet d).length = 43 := by rw [B64.encodeWith_length, hd]
  have hchars := B64.encodeWith_chars B64.urlAlphabet d
  have hall : (B64.encodeWith B64.urlAlphabet d).all isB64UrlChar = true := by
    rw [List.all_eq_true]
    intro c hc
    obtain ⟨i, rfl⟩ := hchars c hc
    exact (urlChars_ok i).1
  have hnc : (0x21 :: B64.encodeWith B64.urlAlphabet d).contains 0x3A = false := by
    rw [Bool.eq_false_iff]
    intro hcon
    rw [List.contains_iff_mem] at hcon
    rcases List.mem_cons.mp hcon with h | h
    · exact absurd h (by decide)
    · obtain ⟨i, hi⟩ := hchars _ h
      exact (urlChars_ok i).2 hi.symm
  unfold roomIDValid?
  have hl : (0x21 :: B64.encodeWith B64.urlAlphabet d).length = 44 := by simp [hlen]
  rw [if_neg (by rw [hl]; decide)]
  simp only [hnc, Bool.not_false, if_true, hlen, hall, beq_self_eq_true, Bool.and_self]

/-- the hash function returns 32 bytes (SHA-256 does) -/
def Len32 (H : Bytes → Bytes) : Prop := ∀ x, (H x).length = 32

theorem id_shapeT {H : Bytes → Bytes} {ver : Bytes} {row : VGen.VersionRow} {e : PDU} (I : TInv H ver row e) (hv : e.fmt ≠ .v1) :
    ∃ d, (row.eventIDFormat = 2 ∧ e.f.eventIDRaw = 0x24 :: B64.encodeWith B64.stdAlphabet (H d)) ∨
         (row.eventIDFormat = 3 ∧ e.f.eventIDRaw = 0x24 :: B64.encodeWith B64.urlAlphabet (H d)) :=
  referenceID_shape ((rowFacts I.hrow I.hfmt).hashed hv).1 (I.hid hv)

theorem id_shape {H : Bytes → Bytes} {ver : Bytes} {row : VGen.VersionRow} {e : PDU} (I : Inv H ver row e) (hv : e.fmt ≠ .v1) :
    ∃ d, (row.eventIDFormat = 2 ∧ e.f.eventIDRaw = 0x24 :: B64.encodeWith B64.stdAlphabet (H d)) ∨
         (row.eventIDFormat = 3 ∧ e.f.eventIDRaw = 0x24 :: B64.encodeWith B64.urlAlphabet (H d)) :=
  id_shapeT I.toTInv hv

theorem eventID_okT {H : Bytes → Bytes} {ver : Bytes} {row : VGen.VersionRow} {e : PDU} (I : TInv H ver row e) :
    eventID H e = .ok e.f.eventIDRaw := by
  obtain ⟨hrow, rfl, _, _, hid⟩ := I
  exact eventID_stored hrow hid

theorem checkRoom_valid {fmt : Fmt} {f : Fields} (h : checkRoom fmt f = .ok ()) (hc : (fmt == .v3 && isCreateF f) = false) :
    roomIDValid? f.roomID = some true ∧ f.roomID ≠ [] := by
  unfold checkRoom at h
  split at h
  · rename_i h3
    rw [h3] at hc
    simp only [Bool.true_and] at hc
    unfold checkRoomIDV3 at h
    rw [if_neg (by simp [hc])] at h
    split at h
    · rename_i rest hr
      split at h
      · cases h
      · rename_i hv; exact ⟨hv, by rw [hr]; exact List.cons_ne_nil _ _⟩
      · cases h
    · cases h
  · unfold checkRoomIDField at h
    split at h
    · split at h <;> cases h
    · rename_i hid
      split at h
      · cases h
      · rename_i hv
        refine ⟨hv, ?_⟩
        intro hnil
        rw [hnil] at hid
        simp [checkID] at hid
      · cases h

theorem roomID_okT {H : Bytes → Bytes} (hH : Len32 H) {ver : Bytes} {row : VGen.VersionRow} {e : PDU} (I : TInv H ver row e) :
    ∃ rid, roomID H e = .ok rid := by
  unfold roomID
  by_cases hc : (e.fmt == .v3 && isCreate e) = true
  · rw [if_pos hc, eventID_okT I]
    simp only [Bool.and_eq_true, beq_iff_eq] at hc
    have hne : e.fmt ≠ .v1 := by rw [hc.1]; intro h; cases h
    have h3 := (rowFacts I.hrow I.hfmt).v3 hc.1
    obtain ⟨d, ⟨h2, _⟩ | ⟨_, h⟩⟩ := id_shapeT I hne
    · rw [h3] at h2; cases h2
    · rw [h]
      simp only [newRoomIDOrPanic, roomIDValid_hashed (H d) (hH d)]
      exact ⟨_, rfl⟩
  · rw [if_neg hc]
    have hc' : (e.fmt == .v3 && isCreateF e.f) = false := by simpa [isCreate] using hc
    obtain ⟨hv, _⟩ := checkRoom_valid I.room hc'
    simp only [newRoomIDOrPanic, hv]
    exact ⟨_, rfl⟩

theorem authEventIDs_okT {H : Bytes → Bytes} {ver : Bytes} {row : VGen.VersionRow} {e : PDU} (I : TInv H ver row e) :
    ∃ l, authEventIDs e = .ok l := by
  unfold authEventIDs
  split
  · exact ⟨_, rfl⟩
  · exact ⟨_, rfl⟩
  · split
    · exact ⟨_, rfl⟩
    · rename_i hc
      have hc' : (e.fmt == .v3 && isCreateF e.f) = false := by
        have : isCreateF e.f = false := by simpa [isCreate] using hc
        rw [this, Bool.and_false]
      obtain ⟨_, hne⟩ := checkRoom_valid I.room hc'
      split
      · rename_i hnil; exact absurd hnil hne
      · exact ⟨_, rfl⟩

theorem cls_of_ok {α : Type} {r : Except Err α} (h : ∃ x, r = .ok x) (site : String) : cls r ≠ .error (.panic site) := by
  obtain ⟨x, rfl⟩ := h
  nofun

theorem membership_np (e : PDU) (site : String) : cls (membership e) ≠ .error (.panic site) := by
  unfold membership
  split
  · intro h; cases h
  · split <;> (intro h; cases h)

theorem joinRule_np (e : PDU) (site : String) : cls (joinRule e) ≠ .error (.panic site) := by
  unfold joinRule
  split
  · intro h; cases h
  · split
    · intro h; cases h
    · intro h; cases h
    · simp only
      split <;> (intro h; cases h)
    · intro h; cases h

theorem historyVisibility_np (e : PDU) (site : String) : cls (historyVisibility e) ≠ .error (.panic site) := by
  unfold historyVisibility
  split
  · intro h; cases h
  · split <;> (intro h; cases h)

theorem powerLevels_np {ver : Bytes} {row : VGen.VersionRow} {fmt : Fmt} {e : PDU} (hrow : rowOf ver = some row) (hv : e.ver = ver)
    (hf : fmtOfName row.newEventFromUntrustedJSONFunc = some fmt) (site : String) : cls (powerLevels e) ≠ .error (.panic site) := by
  unfold powerLevels
  split
  · intro h; cases h
  · rw [hv, hrow]
    simp only
    have hp := (rowFacts hrow hf).ppl
    rw [if_neg (by simpa using hp)]
    split
    · split <;> (intro h; cases h)
    · split
      · have hnp := (AuthRules.np_parsePowerLevels e.f.content Auth.PowerLevels.defaults).h
        split
        · intro h; cases h
        · rename_i s hs; exact absurd hs (hnp s)
        · intro h; cases h
        · intro h; cases h
      · intro h; cases h

theorem setUnsigned_np (e : PDU) (u : JVal) (site : String) : cls (setUnsigned e u) ≠ .error (.panic site) := by
  unfold setUnsigned
  split
  · intro h; cases h
  · simp only
    split <;> (intro h; cases h)

theorem toHeadered_npT {H : Bytes → Bytes} {ver : Bytes} {row : VGen.VersionRow} {e : PDU} (I : TInv H ver row e) (site : String) :
    cls (toHeadered H e) ≠ .error (.panic site) := by
  unfold toHeadered
  rw [eventID_okT I]
  intro h; cases h

/-- `CheckFields` hands on the error of `AuthEventIDs()`; every guard of its own reports an ordinary error -/
theorem checkFields_np {H : Bytes → Bytes} {ver : Bytes} {row : VGen.VersionRow} {e : PDU} (T : TInv H ver row e) (site : String) :
    checkFields e ≠ .error (.panic site) := by
  obtain ⟨l, hl⟩ := authEventIDs_okT T
  have hb : (.error (byteLimitErr e.ver) : Except Err Unit) ≠ .error (.panic site) := by
    unfold byteLimitErr
    split <;> nofun
  unfold checkFields
  rw [hl]
  repeat' apply Guard.ite_ne
  all_goals first | exact hb | nofun

end V.AccProofs
