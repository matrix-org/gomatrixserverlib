/- Lemmas about the model of fclient/request.go: the X-Matrix header round trip for any parameter list; `readAuth` (one
   header), `readHTTPRequest`, `verifyHTTPRequest` and the key-ring verifier characterised once each as an iff
   (`readAuth_cons`, `readHTTPRequest_eq_ok`, `verifyHTTPRequest_eq_ok`, `keyRing_accepted_iff`); the signing object; what
   Sign and HTTPRequest produce (`sign_shape`, `read_produced`). -/
import VModel.FedReq
import VProofs.Guard
import VProofs.Lists
namespace V.FedReq
open V.Json

/-! ### strings.SplitN / Split on one-byte separators -/

theorem splitFirst_cons_ne {sep c : UInt8} (rest acc : Bytes) (h : c ≠ sep) :
    splitFirst sep (c :: rest) acc = splitFirst sep rest (c :: acc) := by
  simp only [splitFirst, beq_false_of_ne h, Bool.false_eq_true, ↓reduceIte]

theorem splitAll_cons_ne {sep c : UInt8} (rest cur : Bytes) (h : c ≠ sep) :
    splitAll sep (c :: rest) cur = splitAll sep rest (c :: cur) := by
  simp only [splitAll, beq_false_of_ne h, Bool.false_eq_true, ↓reduceIte]

theorem splitFirst_append (sep : UInt8) (a b acc : Bytes) (h : sep ∉ a) :
    splitFirst sep (a ++ sep :: b) acc = some (acc.reverse ++ a, b) := by
  induction a generalizing acc with
  | nil => simp [splitFirst]
  | cons c rest ih =>
    rw [List.cons_append, splitFirst_cons_ne _ _ (fun e : c = sep => h (e ▸ List.mem_cons_self)),
      ih _ (fun e => h (List.mem_cons_of_mem _ e))]
    simp

theorem splitAll_append (sep : UInt8) (a b cur : Bytes) (h : sep ∉ a) :
    splitAll sep (a ++ sep :: b) cur = (cur.reverse ++ a) :: splitAll sep b [] := by
  induction a generalizing cur with
  | nil => simp [splitAll]
  | cons c rest ih =>
    rw [List.cons_append, splitAll_cons_ne _ _ (fun e : c = sep => h (e ▸ List.mem_cons_self)),
      ih _ (fun e => h (List.mem_cons_of_mem _ e))]
    simp

theorem splitAll_last (sep : UInt8) (a cur : Bytes) (h : sep ∉ a) :
    splitAll sep a cur = [cur.reverse ++ a] := by
  induction a generalizing cur with
  | nil => simp [splitAll]
  | cons c rest ih =>
    rw [splitAll_cons_ne _ _ (fun e : c = sep => h (e ▸ List.mem_cons_self)), ih _ (fun e => h (List.mem_cons_of_mem _ e))]
    simp

/-! ### strings.Trim(v, "\"") and strings.TrimSpace on a quoted value -/

theorem dropQuotes_ne {c : UInt8} (s : Bytes) (h : c ≠ 0x22) : dropQuotes (c :: s) = c :: s := by
  unfold dropQuotes
  split
  · rename_i heq; exact absurd (List.cons.inj heq).1 h
  · rfl

theorem dropQuotes_of_not_mem (v : Bytes) (h : 0x22 ∉ v) : dropQuotes v = v := by
  cases v with
  | nil => rfl
  | cons c rest => exact dropQuotes_ne rest (fun e => h (e ▸ List.mem_cons_self))

theorem trimQuotes_quoted (v : Bytes) (h : 0x22 ∉ v) : trimQuotes (0x22 :: v ++ [0x22]) = v := by
  unfold trimQuotes
  rw [List.cons_append, dropQuotes]
  cases v with
  | nil => rfl
  | cons c rest =>
    -- the leading quote goes, the text stays as it starts with `c`; reversed, the same again
    rw [List.cons_append, dropQuotes_ne _ (fun e => h (e ▸ List.mem_cons_self)), ← List.cons_append,
      List.reverse_append, List.reverse_singleton, List.singleton_append, dropQuotes,
      dropQuotes_of_not_mem _ (fun hm => h (List.mem_reverse.mp hm)), List.reverse_reverse]

theorem leadingSpaceLen_quote (rest : Bytes) : leadingSpaceLen (0x22 :: rest) = 0 := rfl

theorem trailingSpaceLenRev_quote (rest : Bytes) : trailingSpaceLenRev (0x22 :: rest) = 0 := by
  unfold trailingSpaceLenRev
  -- every pattern either starts with a byte other than `"`, or ends in the test for ASCII white space
  split <;> first
    | rfl
    | (rename_i heq; injection heq with hc; first | (subst hc; rfl) | exact absurd hc (by decide))

theorem trimLeftSpace_quote (n : Nat) (s : Bytes) : trimLeftSpace n (0x22 :: s) = 0x22 :: s := by
  cases n with
  | zero => rfl
  | succ k => rw [trimLeftSpace, leadingSpaceLen_quote]; rfl

theorem trimRightSpaceRev_quote (n : Nat) (s : Bytes) : trimRightSpaceRev n (0x22 :: s) = 0x22 :: s := by
  cases n with
  | zero => rfl
  | succ k => rw [trimRightSpaceRev, trailingSpaceLenRev_quote]; rfl

theorem trimSpace_quoted (v : Bytes) : trimSpace (0x22 :: v ++ [0x22]) = 0x22 :: v ++ [0x22] := by
  unfold trimSpace
  simp only [List.cons_append, trimLeftSpace_quote]
  rw [← List.cons_append, List.reverse_append, List.reverse_singleton, List.singleton_append, trimRightSpaceRev_quote,
    List.reverse_cons, List.reverse_reverse]

/-! ### ParseAuthorization reads back a rendered header -/

/-- a header parameter `name="value"`, followed by `rest` -/
def param (name v rest : Bytes) : Bytes := name ++ 0x3D :: 0x22 :: (v ++ 0x22 :: rest)

/-- parameters separated by commas -/
def renderParams : List (Bytes × Bytes) → Bytes
  | [] => []
  | [p] => param p.1 p.2 []
  | p :: q :: ps => param p.1 p.2 (0x2C :: renderParams (q :: ps))

theorem authHeader_eq (o k s d : Bytes) :
    authHeader o k s d =
      xMatrix ++ 0x20 :: renderParams [(bz!"origin", o), (bz!"key", k), (bz!"sig", s), (bz!"destination", d)] := by
  -- both sides are the same bytes, bracketed differently around the four values
  simp only [authHeader, List.append_assoc]
  rfl

theorem param_append (name v rest : Bytes) : param name v rest = param name v [] ++ rest := by
  simp [param]

theorem comma_not_in_param (name v : Bytes) (hn : 0x2C ∉ name) (hv : 0x2C ∉ v) : (0x2C : UInt8) ∉ param name v [] := by
  simp [param, hn, hv]

/-- one step of the parameter loop on a well-formed parameter -/
theorem parseParams_param (name v : Bytes) (rest : List Bytes) (a : Auth)
    (hn : 0x3D ∉ name) (hts : trimSpace name = name) (hv : 0x22 ∉ v) :
    parseParams (param name v [] :: rest) a = parseParams rest (applyParam name v a) := by
  conv => lhs; rw [parseParams]
  simp only [param]
  rw [splitFirst_append _ _ _ _ hn]
  simp only [List.reverse_nil, List.nil_append, hts]
  rw [← List.cons_append, trimSpace_quoted, trimQuotes_quoted v hv]

theorem parseParams_render (p : Bytes × Bytes) (ps : List (Bytes × Bytes)) (a : Auth)
    (hn : ∀ n ∈ (p :: ps).map (·.1), 0x2C ∉ n ∧ 0x3D ∉ n ∧ trimSpace n = n)
    (hv : ∀ v ∈ (p :: ps).map (·.2), 0x2C ∉ v ∧ 0x22 ∉ v) :
    parseParams (splitAll 0x2C (renderParams (p :: ps)) []) a = (p :: ps).foldl (fun a q => applyParam q.1 q.2 a) a := by
  obtain ⟨h1, h2, h3⟩ := hn p.1 List.mem_cons_self
  obtain ⟨h4, h5⟩ := hv p.2 List.mem_cons_self
  induction ps generalizing p a with
  | nil =>
    rw [renderParams, splitAll_last 0x2C _ [] (comma_not_in_param _ _ h1 h4)]
    exact parseParams_param _ _ _ _ h2 h3 h5
  | cons q qs ih =>
    rw [renderParams, param_append, splitAll_append 0x2C _ _ [] (comma_not_in_param _ _ h1 h4)]
    have hn' := fun n hm => hn n (List.mem_cons_of_mem _ hm)
    have hv' := fun v hm => hv v (List.mem_cons_of_mem _ hm)
    obtain ⟨g1, g2, g3⟩ := hn' q.1 List.mem_cons_self
    obtain ⟨g4, g5⟩ := hv' q.2 List.mem_cons_self
    exact (parseParams_param _ _ _ _ h2 h3 h5).trans (ih q _ hn' hv' g1 g2 g3 g4 g5)

/-- Header round trip: what HTTPRequest renders, ParseAuthorization reads back, provided no value
    contains a comma or a double quote. -/
theorem parse_authHeader (o k s d : Bytes)
    (ho : 0x2C ∉ o ∧ 0x22 ∉ o) (hk : 0x2C ∉ k ∧ 0x22 ∉ k) (hs : 0x2C ∉ s ∧ 0x22 ∉ s) (hd : 0x2C ∉ d ∧ 0x22 ∉ d) :
    parseAuthorization (authHeader o k s d) = ⟨xMatrix, o, d, k, s⟩ := by
  rw [authHeader_eq]
  unfold parseAuthorization
  rw [splitFirst_append 0x20 xMatrix _ [] (by decide)]
  simp only [List.reverse_nil, List.nil_append, bne_self_eq_false, Bool.false_eq_true, ↓reduceIte]
  rw [parseParams_render]
  · rfl
  · simp only [List.map_cons, List.map_nil]; decide +kernel
  · intro v hm
    simp only [List.map_cons, List.map_nil, List.mem_cons, List.not_mem_nil, or_false] at hm
    rcases hm with rfl | rfl | rfl | rfl <;> assumption

/-- the X-Matrix credentials among the Authorization headers, in order -/
def xMatrixAuths (hs : List Str) : List Auth := (hs.map parseAuthorization).filter (fun a => a.scheme == xMatrix)

def Auth.wellFormed (a : Auth) : Bool := !(a.origin.isEmpty || a.key.isEmpty || a.sig.isEmpty)

theorem xMatrixAuths_cons (h : Str) (hs : List Str) :
    xMatrixAuths (h :: hs) =
      if (parseAuthorization h).scheme = xMatrix then parseAuthorization h :: xMatrixAuths hs else xMatrixAuths hs := by
  simp only [xMatrixAuths, List.map_cons, List.filter_cons, beq_iff_eq]

theorem readAuth_cons (h : Str) (rest : List Str) (f f' : Fields) :
    readAuth (h :: rest) f = .ok f' ↔
      if (parseAuthorization h).scheme = xMatrix then
        (parseAuthorization h).wellFormed = true ∧ (f.origin ≠ [] → f.origin = (parseAuthorization h).origin) ∧
        (utf8Valid (parseAuthorization h).origin = true ∧ utf8Valid (parseAuthorization h).destination = true) ∧
        readAuth rest { f with origin := (parseAuthorization h).origin, destination := (parseAuthorization h).destination,
                               signatures := setSig f.signatures (parseAuthorization h).key (parseAuthorization h).sig } = .ok f'
      else readAuth rest f = .ok f' := by
  rw [readAuth]
  by_cases hs : (parseAuthorization h).scheme = xMatrix <;> simp [hs, Guard.ok_iff, Auth.wellFormed]

theorem readAuth_ok (hs : List Str) (f f' : Fields) (h : readAuth hs f = .ok f') :
    f'.content = f.content ∧ f'.method = f.method ∧ f'.uri = f.uri ∧
    (f.origin ≠ [] → f'.origin = f.origin) ∧
    (∀ a ∈ xMatrixAuths hs, a.wellFormed = true ∧ a.origin = f'.origin ∧
      utf8Valid a.origin = true ∧ utf8Valid a.destination = true) ∧
    (match (xMatrixAuths hs).getLast? with
     | none => f' = f
     | some a => f'.origin = a.origin ∧ f'.destination = a.destination) := by
  induction hs generalizing f with
  | nil => cases h; exact ⟨rfl, rfl, rfl, fun _ => rfl, fun _ ha => (List.not_mem_nil ha).elim, rfl⟩
  | cons hd rest ih =>
    rw [readAuth_cons] at h
    rw [xMatrixAuths_cons]
    split at h
    · rename_i hs
      obtain ⟨hwf, horig, hu, hrest⟩ := h
      obtain ⟨h1, h2, h3, h4, h5, h6⟩ := ih _ hrest
      -- the rest was read with this header's origin already set
      have ho : f'.origin = (parseAuthorization hd).origin :=
        h4 (by simp only [Auth.wellFormed, Bool.not_eq_true', Bool.or_eq_false_iff, List.isEmpty_eq_false_iff] at hwf
               exact hwf.1.1)
      rw [if_pos hs, List.getLast?_cons]
      refine ⟨h1, h2, h3, fun hf => ho.trans (horig hf).symm, ?_, ?_⟩
      · intro a ha
        rcases List.mem_cons.mp ha with rfl | ha
        · exact ⟨hwf, ho.symm, hu⟩
        · exact h5 a ha
      · cases hl : (xMatrixAuths rest).getLast? with
        | none => rw [hl] at h6; rw [h6]; exact ⟨rfl, rfl⟩
        | some b => rw [hl] at h6; exact h6
    · rename_i hs
      rw [if_neg hs]; exact ih _ h

/-- the last X-Matrix credentials: the origin and destination the request claims -/
def claimed (req : HttpReq) : Option Auth := (xMatrixAuths req.authorization).getLast?

theorem readHTTPRequest_eq_ok (req : HttpReq) (f : Fields) :
    readHTTPRequest req = .ok f ↔
      (utf8Valid req.method = true ∧ utf8Valid req.requestURI = true) ∧
      (req.body ≠ [] → req.mediaType = some applicationJSON ∧ utf8Valid req.body = true) ∧
      readAuth req.authorization
        ⟨if req.body = [] then none else some req.body, [], req.method, [], req.requestURI, []⟩ = .ok f := by
  unfold readHTTPRequest
  by_cases hb : req.body = []
  · simp [hb, Guard.ok_iff]
  · cases hm : req.mediaType with
    | none => simp [hb, Guard.ok_iff]
    | some t =>
      by_cases ht : t = applicationJSON
      · by_cases hu : utf8Valid req.body = true <;> simp [hb, Guard.ok_iff, ht, hu]
      · simp [hb, Guard.ok_iff, ht]

/-- the receiver owns a destination: it is its default name, or one of its local names (an empty destination is
    replaced by the default name without being put to `isLocal`, hence the disjunct under `some loc`) -/
def Owned (destination : Str) (isLocal : Option (Str → Bool)) (d : Str) : Prop :=
  match isLocal with
  | some loc => loc d = true ∨ d = destination
  | none => d = destination

theorem verifyHTTPRequest_eq_ok (req : HttpReq) (now : Millis) (destination : Str) (isLocal : Option (Str → Bool))
    (V : Verifier) (r : Fields) :
    verifyHTTPRequest req now destination isLocal V = .ok r ↔
      ∃ f, readHTTPRequest req = .ok f ∧
        (f.destination ≠ [] → match isLocal with
          | some loc => loc f.destination = true
          | none => destination = f.destination) ∧
        r = { f with destination := if f.destination.isEmpty then destination else f.destination } ∧
        marshalable r = true ∧ r.origin ≠ [] ∧ validServerName r.origin = true ∧
        ∃ cv, contentValue r.content = some cv ∧
          V r.origin now (signingObject cv r.destination r.method r.origin r.uri) r.signatures = .accepted := by
  -- everything after the destination check, for whichever fields it lets through
  have tail : ∀ request : Fields,
      (if !marshalable request then (.error .unmodelled : Except Refusal Fields) else
        match contentValue request.content with
        | none => .error .badRequest
        | some content =>
          if request.origin.isEmpty then .error .unauthorized
          else if !validServerName request.origin then .error .badRequest
          else
            match V request.origin now
                (signingObject content request.destination request.method request.origin request.uri) request.signatures with
            | .fatal => .error .internal
            | .rejected => .error .unauthorized
            | .accepted => .ok request) = .ok r ↔
      r = request ∧ marshalable r = true ∧ r.origin ≠ [] ∧ validServerName r.origin = true ∧
        ∃ cv, contentValue r.content = some cv ∧
          V r.origin now (signingObject cv r.destination r.method r.origin r.uri) r.signatures = .accepted := by
    intro request
    constructor
    · intro h
      rw [Guard.ok_iff] at h
      obtain ⟨hm, h⟩ := h
      split at h
      · cases h
      · rename_i cv hc
        rw [Guard.ok_iff, Guard.ok_iff] at h
        obtain ⟨ho, hv, h⟩ := h
        split at h <;> cases h
        rename_i hacc
        exact ⟨rfl, by simpa using hm, by simpa using ho, by simpa using hv, cv, hc, hacc⟩
    · rintro ⟨rfl, hm, ho, hv, cv, hc, hacc⟩
      simp [hm, hc, ho, hv, hacc]
  unfold verifyHTTPRequest
  cases hr : readHTTPRequest req with
  | error e => simp
  | ok f =>
    simp only [Except.ok.injEq, exists_eq_left']
    by_cases hd : f.destination = []
    · simp only [hd, List.isEmpty_nil, Bool.not_true, Bool.false_eq_true, ↓reduceIte, ne_eq, not_true_eq_false,
        false_implies, true_and]
      exact tail _
    · have hde : f.destination.isEmpty = false := by simpa using hd
      simp only [hde, Bool.not_false, ↓reduceIte, ne_eq, hd, not_false_eq_true, true_implies, Bool.false_eq_true]
      cases isLocal with
      | some loc =>
        cases hl : loc f.destination
        · simp [hl]
        · simp only [hl, Bool.not_true, Bool.false_eq_true, ↓reduceIte, true_and]; exact tail f
      | none =>
        by_cases he : destination = f.destination
        · simp only [he, bne_self_eq_false, Bool.false_eq_true, ↓reduceIte, true_and]; exact tail f
        · simp [he]

/-! ### The signing object determines the signed fields -/

theorem sorted_signingObject_some (c : JVal) (d m o u : Bytes) :
    (signingObject (some c) d m o u).sorted =
      .obj [(bz!"content", c.sorted), (bz!"destination", .str d), (bz!"method", .str m), (bz!"origin", .str o), (bz!"uri", .str u)] :=
  rfl

theorem sorted_signingObject_none (d m o u : Bytes) :
    (signingObject none d m o u).sorted =
      .obj [(bz!"destination", .str d), (bz!"method", .str m), (bz!"origin", .str o), (bz!"uri", .str u)] :=
  rfl

/-- Two signing objects that are equal up to member order (hence have the same canonical JSON) were
    built from the same destination, method, origin and URI, and from contents equal up to member order. -/
theorem signingObject_sorted_inj (c c' : Option JVal) (d d' m m' o o' u u' : Bytes)
    (h : (signingObject c d m o u).sorted = (signingObject c' d' m' o' u').sorted) :
    d = d' ∧ m = m' ∧ o = o' ∧ u = u' ∧ c.map JVal.sorted = c'.map JVal.sorted := by
  cases c <;> cases c'
  case none.none =>
    simp only [sorted_signingObject_none, JVal.obj.injEq, List.cons.injEq, Prod.mk.injEq, JVal.str.injEq, true_and,
      and_true] at h
    exact ⟨h.1, h.2.1, h.2.2.1, h.2.2.2, rfl⟩
  case some.some x y =>
    simp only [sorted_signingObject_some, JVal.obj.injEq, List.cons.injEq, Prod.mk.injEq, JVal.str.injEq, true_and,
      and_true] at h
    exact ⟨h.2.1, h.2.2.1, h.2.2.2.1, h.2.2.2.2, congrArg some h.1⟩
  -- with and without content the objects differ in the number of members
  all_goals
    simp only [sorted_signingObject_none, sorted_signingObject_some] at h
    exact absurd (congrArg List.length (JVal.obj.inj h)) (by simp)

theorem signingObject_sorted_congr (c c' : Option JVal) (d m o u : Bytes) (h : c.map JVal.sorted = c'.map JVal.sorted) :
    (signingObject c d m o u).sorted = (signingObject c' d m o u).sorted := by
  cases c with
  | none =>
    cases c' with
    | none => rfl
    | some y => simp at h
  | some x =>
    cases c' with
    | none => simp at h
    | some y =>
      simp only [Option.map_some, Option.some.injEq] at h
      rw [sorted_signingObject_some, sorted_signingObject_some, h]

/-- an abstract signature scheme over JSON objects (ed25519 over canonical JSON, base64 text) -/
structure SigScheme where
  sign : Nat → JVal → Str
  check : Nat → JVal → Str → Bool

/-- Idealisation of ed25519 over canonical JSON (hypotheses, never axioms): a signature checks against every
    object equal to the signed one up to member order (correctness; canonical JSON erases member order), and
    every signature that checks under `pk` is an honest signature under the same `pk` over such an object
    (unforgeability + message and key binding). -/
structure IdealSig (S : SigScheme) : Prop where
  correct : ∀ pk obj obj', obj'.sorted = obj.sorted → S.check pk obj' (S.sign pk obj) = true
  unforgeable : ∀ pk obj' sig, S.check pk obj' sig = true → ∃ obj, sig = S.sign pk obj ∧ obj'.sorted = obj.sorted

theorem keyRing_accepted_iff (table : List KeyEntry) (dbError : Bool) (wc : Nat) (check : Nat → JVal → Str → Bool)
    (origin : Str) (ts : Nat) (obj : JVal) (sigs : List (Str × Str)) :
    keyRingVerifier table dbError wc check origin ts obj sigs = .accepted ↔
      dbError = false ∧ ∃ kv ∈ sigs, ed25519Prefix.isPrefixOf kv.1 = true ∧
        ∃ k ∈ table, k.server = origin ∧ k.keyID = kv.1 ∧ wasValidAt wc k ts = true ∧ check k.pk obj kv.2 = true := by
  have hany : (sigs.filter (fun kv => ed25519Prefix.isPrefixOf kv.1)).any (fun kv =>
        table.any (fun k => k.server == origin && k.keyID == kv.1 && wasValidAt wc k ts && check k.pk obj kv.2)) = true ↔
      ∃ kv ∈ sigs, ed25519Prefix.isPrefixOf kv.1 = true ∧
        ∃ k ∈ table, k.server = origin ∧ k.keyID = kv.1 ∧ wasValidAt wc k ts = true ∧ check k.pk obj kv.2 = true := by
    simp only [List.any_eq_true, List.mem_filter, Bool.and_eq_true, beq_iff_eq, and_assoc]
  rw [← hany]
  unfold keyRingVerifier
  simp only []
  -- what remains is a case analysis on: no supported key ID / database error / some key checks
  generalize sigs.filter (fun kv => ed25519Prefix.isPrefixOf kv.1) = ids
  cases ids with
  | nil => simp
  | cons kv rest =>
    generalize (kv :: rest).any _ = b
    cases dbError <;> cases b <;> simp

/-! ### HTTPRequest / Sign: what is produced reads back -/

theorem safe_no_quote (t : Str) (h : isSafeInHTTPQuotedString t = true) : (0x22 : UInt8) ∉ t :=
  Lists.not_mem_of_all h (by decide)

theorem httpRequest_shape (f : Fields) (up : Option Str) (req : HttpReq) (kid sig : Str)
    (hreq : httpRequest f up = .ok req) (hsigs : f.signatures = [(kid, sig)]) :
    isSafeInHTTPQuotedString f.origin = true ∧ isSafeInHTTPQuotedString f.destination = true ∧
    isSafeInHTTPQuotedString kid = true ∧
    req = { method := if f.method.isEmpty then bz!"GET" else f.method, requestURI := f.uri, body := f.content.getD [],
            mediaType := if f.content.isSome then some applicationJSON else none,
            authorization := [authHeader f.origin kid sig f.destination] } := by
  unfold httpRequest at hreq
  rw [Guard.ok_iff] at hreq
  cases up with
  | none => exact nomatch hreq.2
  | some ru =>
    simp only [] at hreq
    rw [Guard.ok_iff, Guard.ok_iff, hsigs] at hreq
    obtain ⟨_, hru, hsafe, hreq⟩ := hreq
    have hru' : ru = f.uri := by simpa using hru
    simp only [List.isEmpty_cons, Bool.not_false, Bool.true_and, Bool.not_eq_true', Bool.not_eq_false,
      List.all_cons, List.all_nil, Bool.and_true, Bool.and_eq_true] at hsafe
    simp only [List.map_cons, List.map_nil, Except.ok.injEq, hru'] at hreq
    exact ⟨hsafe.1.1, hsafe.1.2, hsafe.2, hreq.symm⟩

theorem read_produced (f : Fields) (up : Option Str) (req : HttpReq) (kid sig : Str)
    (hreq : httpRequest f up = .ok req)
    (hsigs : f.signatures = [(kid, sig)])
    (hm : f.method ≠ [])
    (hc : ∀ c, f.content = some c → c ≠ [] ∧ utf8Valid c = true)
    (hcomma : 0x2C ∉ f.origin ∧ 0x2C ∉ kid ∧ 0x2C ∉ sig ∧ 0x2C ∉ f.destination)
    (hsq : 0x22 ∉ sig)
    (hne : f.origin ≠ [] ∧ kid ≠ [] ∧ sig ≠ [])
    (hu8 : fieldsUTF8 f = true) :
    readHTTPRequest req = .ok f := by
  obtain ⟨hso, hsd, hsk, hr⟩ := httpRequest_shape f up req kid sig hreq hsigs
  have hparse := parse_authHeader f.origin kid sig f.destination ⟨hcomma.1, safe_no_quote _ hso⟩
    ⟨hcomma.2.1, safe_no_quote _ hsk⟩ ⟨hcomma.2.2.1, hsq⟩ ⟨hcomma.2.2.2, safe_no_quote _ hsd⟩
  have hmeth : (if f.method.isEmpty then bz!"GET" else f.method) = f.method := by
    have : f.method.isEmpty = false := by simpa using hm
    simp [this]
  subst hr
  rw [hmeth]
  obtain ⟨content, destination, method, origin, uri, signatures⟩ := f
  simp only [fieldsUTF8, Bool.and_eq_true] at hu8
  obtain ⟨⟨⟨hud, hum⟩, huo⟩, huu⟩ := hu8
  simp only at hsigs hm hc hcomma hne hparse hud hum huo huu ⊢
  subst hsigs
  rw [readHTTPRequest_eq_ok]
  refine ⟨⟨hum, huu⟩, ?_, ?_⟩
  · cases content with
    | none => intro h; exact absurd rfl h
    | some c => intro _; exact ⟨rfl, (hc c rfl).2⟩
  · -- the one Authorization header is read back into the fields it was rendered from
    have hbody : (if content.getD [] = [] then none else some (content.getD [])) = content := by
      cases content with
      | none => rfl
      | some c => simp [(hc c rfl).1]
    simp only [hbody]
    rw [readAuth_cons, hparse]
    simp [Auth.wellFormed, hne.1, hne.2.1, hne.2.2, huo, hud, readAuth, setSig]

/-- what Sign checks (after its first test, that the origin is empty or the server's own name), and the fields it
    returns: the origin set, the signature added, the content canonical -/
theorem sign_shape (f0 f : Fields) (sn kid : Str) (mk : JVal → Str) (h : sign f0 sn kid mk = .ok f) :
    fieldsUTF8 { f0 with origin := sn } = true ∧ marshalable { f0 with origin := sn } = true ∧ utf8Valid kid = true ∧
    contentSignStrict f0.content = true ∧
    ∃ cv0 cc, contentValue f0.content = some cv0 ∧
      f = { f0 with origin := sn, content := cc,
                    signatures := setSig f0.signatures kid (mk (signingObject cv0 f0.destination f0.method sn f0.uri)) } ∧
      ((f0.content = none ∨ f0.content = some []) → cc = none) ∧
      (∀ raw, f0.content = some raw → raw ≠ [] → ∃ c, canonical raw = .ok c ∧ cc = some c) := by
  unfold sign at h
  rw [Guard.ok_iff] at h
  simp only [] at h
  rw [Guard.ok_iff, Guard.ok_iff] at h
  obtain ⟨_, hu8, hmar, h⟩ := h
  simp only [Bool.not_eq_true', Bool.not_eq_false, Bool.or_eq_true, not_or] at hu8 hmar
  split at h
  · cases h
  · rename_i cv0 hcv
    rw [Guard.ok_iff] at h
    obtain ⟨hstrict, h⟩ := h
    simp only [Bool.not_eq_true', Bool.not_eq_false] at hstrict
    split at h
    · cases h
    · rename_i cc hcc
      cases h
      refine ⟨hu8, hmar.1, hmar.2, hstrict, cv0, cc, hcv, rfl, ?_, ?_⟩
      · rintro (hc | hc) <;> rw [hc] at hcc <;> cases hcc <;> rfl
      · intro raw hc hne
        have hre : raw.isEmpty = false := by simpa using hne
        simp only [hc, hre, Bool.false_eq_true, ↓reduceIte] at hcc
        split at hcc <;> cases hcc
        exact ⟨_, ‹_›, rfl⟩

end V.FedReq
