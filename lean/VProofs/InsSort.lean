/-
  Insertion sort.  The models sort twice (`insertByKey` / `sortByKey` on JSON members, `insertBy` / `sortBy` in state
  resolution); each pair satisfies the four defining equations of insertion sort (`IsInsSort`) by `rfl`, and everything
  here is proved from those equations: the result is a permutation; for a test that is a strict total order on a key it
  is sorted, it is the only sorted arrangement when the key identifies the members (so neither the order of the input
  nor the sorting algorithm of the Go code matters), it is strictly sorted when the keys are distinct, and a strictly
  sorted list is left alone.
-/
import VProofs.Lists
namespace V.StateRes
open List

structure StrictTotal {κ : Type} (lt : κ → κ → Bool) : Prop where
  irrefl : ∀ a, lt a a = false
  trans : ∀ a b c, lt a b = true → lt b c = true → lt a c = true
  total : ∀ a b, lt a b = false → lt b a = false → a = b

theorem StrictTotal.asymm {κ} {lt : κ → κ → Bool} (h : StrictTotal lt) (a b : κ) (hab : lt a b = true) : lt b a = false := by
  cases hba : lt b a with
  | false => rfl
  | true => have := h.trans a b a hab hba; rw [h.irrefl] at this; cases this

theorem StrictTotal.le_trans {κ} {lt : κ → κ → Bool} (h : StrictTotal lt) {a b c : κ}
    (h1 : lt b a = false) (h2 : lt c b = false) : lt c a = false := by
  cases hca : lt c a with
  | false => rfl
  | true =>
    exfalso
    cases hab : lt a b with
    | true => have := h.trans _ _ _ hca hab; simp [this] at h2
    | false =>
      have e : a = b := h.total _ _ hab h1
      subst e; simp [hca] at h2

variable {α κ : Type}

/-- sorted: no element is strictly less (by key) than an earlier one -/
def SortedBy (lt : κ → κ → Bool) (k : α → κ) (l : List α) : Prop := l.Pairwise (fun a b => lt (k b) (k a) = false)

def StrictSortedBy (lt : κ → κ → Bool) (k : α → κ) (l : List α) : Prop := l.Pairwise (fun a b => lt (k a) (k b) = true)

/-- the key identifies the element among the members of `l` -/
def KeyInj (k : α → κ) (l : List α) : Prop := ∀ a ∈ l, ∀ b ∈ l, k a = k b → a = b

theorem KeyInj.perm {k : α → κ} {l l' : List α} (hp : l ~ l') (h : KeyInj k l) : KeyInj k l' :=
  fun a ha b hb => h a (hp.mem_iff.mpr ha) b (hp.mem_iff.mpr hb)

theorem KeyInj.of_nodup {k : α → κ} {l : List α} (h : (l.map k).Nodup) : KeyInj k l :=
  fun _ ha _ hb hab => Lists.eq_of_nodup_map k h ha hb hab

theorem sorted_unique {lt : κ → κ → Bool} (k : α → κ) (h : StrictTotal lt) {l₁ l₂ : List α} (hp : l₁ ~ l₂) (hk : KeyInj k l₁)
    (h1 : SortedBy lt k l₁) (h2 : SortedBy lt k l₂) : l₁ = l₂ := by
  refine Perm.eq_of_pairwise ?_ h1 h2 hp
  intro a b ha hb hab hba
  exact hk a ha b (hp.mem_iff.mpr hb) (h.total _ _ hba hab)

/-- `ins` inserts before the first element that `r` puts after the new one, and `srt` inserts the elements one by one -/
structure IsInsSort (r : α → α → Bool) (ins : α → List α → List α) (srt : List α → List α) : Prop where
  ins_nil : ∀ x, ins x [] = [x]
  ins_cons : ∀ x y ys, ins x (y :: ys) = if r x y then x :: y :: ys else y :: ins x ys
  srt_nil : srt [] = []
  srt_cons : ∀ x xs, srt (x :: xs) = ins x (srt xs)

namespace IsInsSort
variable {r : α → α → Bool} {ins : α → List α → List α} {srt : List α → List α} (S : IsInsSort r ins srt)
include S

theorem ins_perm (x : α) : ∀ l, ins x l ~ x :: l
  | [] => by rw [S.ins_nil]
  | y :: ys => by
    rw [S.ins_cons]
    split
    · exact Perm.refl _
    · exact ((ins_perm x ys).cons y).trans (Perm.swap x y ys)

theorem perm : ∀ l : List α, srt l ~ l
  | [] => by rw [S.srt_nil]
  | x :: xs => by
    rw [S.srt_cons]
    exact (S.ins_perm x _).trans ((perm xs).cons x)

variable {lt : κ → κ → Bool} {k : α → κ} (hr : ∀ a b, r a b = lt (k a) (k b)) (h : StrictTotal lt)
include hr h

theorem ins_sorted (x : α) : ∀ l, SortedBy lt k l → SortedBy lt k (ins x l)
  | [], _ => by rw [S.ins_nil]; exact pairwise_singleton _ _
  | y :: ys, hs => by
    rw [S.ins_cons, hr]
    split
    · rename_i hlt
      have hxy : lt (k y) (k x) = false := h.asymm _ _ hlt
      refine Pairwise.cons ?_ hs
      intro z hz
      rcases List.mem_cons.mp hz with rfl | hz
      · exact hxy
      · exact h.le_trans hxy (rel_of_pairwise_cons hs hz)
    · rename_i hnlt
      have hyx : lt (k x) (k y) = false := by simpa using hnlt
      refine Pairwise.cons ?_ (ins_sorted x ys hs.tail)
      intro z hz
      rcases List.mem_cons.mp ((S.ins_perm x ys).subset hz) with rfl | hz
      · exact hyx
      · exact rel_of_pairwise_cons hs hz

theorem sorted : ∀ l : List α, SortedBy lt k (srt l)
  | [] => by rw [S.srt_nil]; exact Pairwise.nil
  | x :: xs => by
    rw [S.srt_cons]
    exact S.ins_sorted hr h x _ (sorted xs)

theorem unique {l₁ l₂ : List α} (hp : l₁ ~ l₂) (hk : KeyInj k l₁) : srt l₁ = srt l₂ :=
  sorted_unique k h ((S.perm l₁).trans (hp.trans (S.perm l₂).symm)) (hk.perm (S.perm l₁).symm)
    (S.sorted hr h l₁) (S.sorted hr h l₂)

theorem strict {l : List α} (hn : (l.map k).Nodup) : StrictSortedBy lt k (srt l) := by
  have hs := S.sorted hr h l
  have hn' : ((srt l).map k).Nodup := ((S.perm l).map k).nodup_iff.mpr hn
  unfold StrictSortedBy
  generalize srt l = s at hs hn'
  induction s with
  | nil => exact Pairwise.nil
  | cons x xs ih =>
    simp only [List.map_cons, List.nodup_cons] at hn'
    refine Pairwise.cons ?_ (ih hs.tail hn'.2)
    intro y hy
    have hle : lt (k y) (k x) = false := rel_of_pairwise_cons hs hy
    cases hxy : lt (k x) (k y) with
    | true => rfl
    | false =>
      have : k x = k y := h.total _ _ hxy hle
      exact absurd (this ▸ List.mem_map_of_mem (f := k) hy) hn'.1

omit h in
theorem of_strict : ∀ {l : List α}, StrictSortedBy lt k l → srt l = l
  | [], _ => S.srt_nil
  | x :: xs, hs => by
    rw [S.srt_cons, of_strict (l := xs) (Pairwise.tail hs)]
    cases xs with
    | nil => exact S.ins_nil x
    | cons y ys => rw [S.ins_cons, hr, rel_of_pairwise_cons hs List.mem_cons_self, if_pos rfl]

end IsInsSort

/-- sorting commutes with a map that respects the tests -/
theorem IsInsSort.map {β : Type} {r : α → α → Bool} {ins : α → List α → List α} {srt : List α → List α}
    {r' : β → β → Bool} {ins' : β → List β → List β} {srt' : List β → List β} (S : IsInsSort r ins srt)
    (S' : IsInsSort r' ins' srt') (g : α → β) (hg : ∀ a b, r' (g a) (g b) = r a b) : ∀ l, srt' (l.map g) = (srt l).map g := by
  have hins : ∀ x l, ins' (g x) (l.map g) = (ins x l).map g := by
    intro x l
    induction l with
    | nil => rw [List.map_nil, S'.ins_nil, S.ins_nil]; rfl
    | cons y ys ih =>
      rw [List.map_cons, S'.ins_cons, S.ins_cons, hg, ih]
      split <;> rfl
  intro l
  induction l with
  | nil => rw [List.map_nil, S'.srt_nil, S.srt_nil]; rfl
  | cons x xs ih => rw [List.map_cons, S'.srt_cons, S.srt_cons, ih, hins]
end V.StateRes
