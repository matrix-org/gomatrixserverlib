/-
  Association lists with distinct keys (`setKey`, `mergeInto`, `mapGet`) and the
  float64 scan of values inside the IntSafe domain.
-/
import VProofs.RedactLookup
import VProofs.JsonNum
namespace V.RedactProofs
open V V.Json V.GoJson V.Redact

def keysOf (m : Obj) : List Bytes := m.map (·.1)

theorem keysOf_eq_keys (m : Obj) : keysOf m = Assoc.keys m := rfl

theorem setKey_eq_upsert (m : Obj) (k : Bytes) (v : JVal) : setKey m k v = Assoc.upsert m k (fun _ => v) v := by
  unfold setKey Assoc.upsert
  rw [Assoc.map_replace_eq]
  simp only [List.any_eq_true, List.find?_isSome]

theorem mergeInto_nodup (acc m : Obj) (h : (keysOf acc).Nodup) : (keysOf (mergeInto acc m)).Nodup := by
  unfold mergeInto
  induction m generalizing acc with
  | nil => exact h
  | cons kv rest ih =>
    rw [List.foldl_cons, setKey_eq_upsert]
    refine ih _ ?_
    rw [keysOf_eq_keys] at h ⊢
    exact Assoc.nodup_keys_upsert h kv.1 _ kv.2

theorem setKey_fresh (m : Obj) (kv : Bytes × JVal) (h : kv.1 ∉ keysOf m) : setKey m kv.1 kv.2 = m ++ [kv] := by
  rw [setKey, if_neg]
  simpa only [List.any_eq_true, beq_iff_eq, keysOf, List.mem_map] using h

theorem mergeInto_fresh (acc m : Obj) (h : (keysOf (acc ++ m)).Nodup) : mergeInto acc m = acc ++ m :=
  Lists.foldl_eq_append_of_nodup Prod.fst (fun acc kv => setKey_fresh acc kv) m acc h

theorem mergeInto_nil_of_nodup (m : Obj) (h : (keysOf m).Nodup) : mergeInto [] m = m :=
  mergeInto_fresh [] m h

theorem mapGet_eq_lookup {α : Type} (m : List (Bytes × α)) (k : Bytes) : mapGet m k = Assoc.lookup m k := rfl

theorem mapGet_cons {α : Type} (k0 : Bytes) (v : α) (rest : List (Bytes × α)) (k : Bytes) :
    mapGet ((k0, v) :: rest) k = if k0 = k then some v else mapGet rest k :=
  (mapGet_eq_lookup _ k).trans ((Assoc.lookup_cons (k0, v) rest k).trans (Assoc.ite_beq k0 k _ _))

theorem mapGet_filterMap (ks : List Bytes) (F : Bytes → Option JVal) (k : Bytes) :
    mapGet (ks.filterMap (fun k' => (F k').map (fun v => (k', v)))) k = if k ∈ ks then F k else none := by
  induction ks with
  | nil => rfl
  | cons k0 rest ih =>
    rw [List.filterMap_cons]
    by_cases hk : k0 = k
    · subst hk
      cases hF : F k0 <;> simp [mapGet_cons, hF, ih]
    · cases hF : F k0 <;> simp [mapGet_cons, hk, Ne.symm hk, ih]

/-! ## values of the IntSafe domain fit a float64 -/

theorem intSafe_floatClass (lit : Bytes) (h : intSafe lit = true) : floatClass lit = .ok := by
  simp only [intSafe, isIntLit, Bool.and_eq_true, decide_eq_true_eq] at h
  obtain ⟨⟨⟨_, hall⟩, hlen⟩, _⟩ := h
  unfold floatClass
  simp only [takeDigits_all _ hall, List.append_nil]
  split
  · rfl
  · have he : expValue ([] : Bytes) = 0 := rfl
    have : (leadingZeros (stripSign lit) : Int) ≥ 0 := Int.natCast_nonneg _
    have hl : ((stripSign lit).length : Int) ≤ 16 := by exact_mod_cast hlen
    split
    · rfl
    · rename_i hgt
      rw [he] at hgt
      omega

mutual
theorem iface_float : ∀ v : JVal, ifaceOk v = true → floatScan v = .ok
  | .null, _ => rfl
  | .bool _, _ => rfl
  | .str _, _ => rfl
  | .num lit, h => by
    simp only [ifaceOk] at h
    simp only [floatScan]
    exact intSafe_floatClass lit h
  | .arr xs, h => by
    simp only [ifaceOk] at h
    simp only [floatScan]
    exact iface_float_list xs h
  | .obj kvs, h => by
    simp only [ifaceOk, Bool.and_eq_true] at h
    simp only [floatScan]
    exact iface_float_members kvs h.2
theorem iface_float_list : ∀ xs : List JVal, ifaceOkList xs = true → floatScanList xs = .ok
  | [], _ => rfl
  | x :: xs, h => by
    simp only [ifaceOkList, Bool.and_eq_true] at h
    simp only [floatScanList, iface_float x h.1, iface_float_list xs h.2, NumClass.worst]
theorem iface_float_members : ∀ kvs : List (Bytes × JVal), ifaceOkMembers kvs = true → floatScanMembers kvs = .ok
  | [], _ => rfl
  | (k, v) :: kvs, h => by
    simp only [ifaceOkMembers, Bool.and_eq_true] at h
    simp only [floatScanMembers, iface_float v h.1.2, iface_float_members kvs h.2, NumClass.worst]
end

theorem floatScanMembers_of_all (m : Obj) (h : ∀ kv ∈ m, ifaceOk kv.2 = true) : floatScanMembers m = .ok := by
  induction m with
  | nil => rfl
  | cons kv rest ih =>
    obtain ⟨k, v⟩ := kv
    simp only [floatScanMembers, iface_float v (h (k, v) List.mem_cons_self),
      ih (fun x hx => h x (List.mem_cons_of_mem _ hx)), NumClass.worst]

end V.RedactProofs
