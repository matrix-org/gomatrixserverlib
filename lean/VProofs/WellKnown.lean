import VModel.WellKnown
import VProofs.Guard
namespace V.WellKnown

/-- the Cache-Control loop computes "the last well-formed max-age, if any" -/
theorem applyCacheControl_eq (now : Int) (l : List Str) (e0 : Int) :
    applyCacheControl now l e0 =
      match (l.filterMap Spec.maxAgeOf).getLast? with
      | some age => wrap64 (age + now)
      | none => e0 := by
  induction l generalizing e0 with
  | nil => rfl
  | cons kv rest ih =>
    unfold applyCacheControl
    simp only [List.filterMap_cons, Spec.maxAgeOf]
    cases hs : splitEq (trimSpaces kv) [] with
    | none => simp only [ih]
    | some p =>
      obtain ⟨k, v⟩ := p
      simp only []
      rcases Bool.eq_false_or_eq_true (isMaxAge k) with hyes | hno
      · simp only [hyes, ↓reduceIte]
        cases hv : parseInt64 v with
        | none => simp only [ih]
        | some age =>
          simp only [ih, List.getLast?_cons]
          cases (List.filterMap Spec.maxAgeOf rest).getLast? <;> rfl
      · simp only [hno, Bool.false_eq_true, ↓reduceIte, ih]

theorem maxAge_nil : Spec.maxAge [] = none := by
  simp [Spec.maxAge, splitComma, Spec.maxAgeOf, trimSpaces, dropSpaces, splitEq]

/-- strings.Split distributes over a comma-joined text -/
theorem splitComma_append (a b cur : Str) :
    splitComma (a ++ ',' :: b) cur = splitComma a cur ++ splitComma b [] := by
  induction a generalizing cur with
  | nil => simp [splitComma]
  | cons c rest ih =>
    simp only [List.cons_append, splitComma]
    by_cases hc : (c == ',') = true
    · simp only [hc, if_true, List.cons_append]
      rw [ih]
    · simp only [hc, Bool.false_eq_true, if_false]
      exact ih _

theorem splitComma_join (lines : List Str) (h : lines ≠ []) :
    splitComma (joinComma lines) [] = lines.flatMap (fun l => splitComma l []) := by
  induction lines with
  | nil => exact absurd rfl h
  | cons l rest ih =>
    cases rest with
    | nil => simp [joinComma]
    | cons l2 rest2 =>
      have := ih (by simp)
      simp only [joinComma, List.flatMap_cons] at this ⊢
      rw [splitComma_append, this]

/-- the directives of all Cache-Control lines are the directives of the comma-joined header -/
theorem maxAgeLines_eq (lines : List Str) (h : lines ≠ []) : Spec.maxAgeLines lines = Spec.maxAge (joinComma lines) := by
  unfold Spec.maxAgeLines Spec.maxAge
  rw [splitComma_join lines h]

/-- the lifetime the code computes is the specification's: max-age — on whichever header line — in preference to Expires -/
theorem expiryOf_eq (r : Reply) (now : Int) (et : Option Int) : expiryOf r now et = Spec.lifetime r now et := by
  have hlines : Spec.maxAgeLines r.cacheControl = Spec.maxAge (joinComma r.cacheControl) := by
    by_cases hl : r.cacheControl = []
    · rw [hl]
      simp [Spec.maxAgeLines, joinComma, maxAge_nil]
    · exact maxAgeLines_eq _ hl
  -- the value used when there is no max-age
  have he0 : expiryOf r now et =
      if !(joinComma r.cacheControl).isEmpty then
        applyCacheControl now (splitComma (joinComma r.cacheControl) []) (if r.expires.isEmpty then 0 else et.getD 0)
      else if r.expires.isEmpty then 0 else et.getD 0 := by
    unfold expiryOf
    cases r.expires.isEmpty <;> cases et <;> rfl
  rw [he0, Spec.lifetime, hlines]
  cases hc : (joinComma r.cacheControl).isEmpty
  · simp only [Bool.not_false, ↓reduceIte]
    rw [applyCacheControl_eq]
    rfl
  · rw [List.isEmpty_iff.mp hc, maxAge_nil]
    rfl

/-- the declared Content-Length does not by itself refuse the reply -/
def declaredOK (r : Reply) : Prop :=
  match parseInt64 r.contentLength with
  | some l => ¬ (l > (maxSize : Int))
  | none => True

theorem lookup_ok_iff (r : Reply) (now : Int) (et : Option Int) (decode : Bytes → Decoded) (res : Result) :
    lookup r now et decode = .ok res ↔
      r.status = 200 ∧ declaredOK r ∧ r.body.length ≤ maxSize ∧
      decode r.body = .ok res.newAddress ∧ res.newAddress ≠ [] ∧ res.cacheExpiresAt = expiryOf r now et := by
  -- at most `maxSize + 1` bytes are read: they are within the limit iff the body is, and then they are the body
  have htake : (r.body.take (maxSize + 1)).length ≤ maxSize ↔ r.body.length ≤ maxSize := by rw [List.length_take]; omega
  unfold lookup declaredOK
  simp only [Guard.ok_iff, bne_iff_ne, ne_eq, Decidable.not_not, Nat.not_lt, htake]
  refine and_congr_right fun _ => and_congr ?_ (and_congr_right fun hb => ?_)
  · cases parseInt64 r.contentLength <;> simp
  · rw [List.take_of_length_le (Nat.le_succ_of_le hb)]
    cases decode r.body with
    | error => simp
    | ok addr =>
      obtain ⟨a, e⟩ := res
      cases addr <;> simp [eq_comm] <;> intro h <;> simp [h]

/-- the decoder yields a non-empty name exactly for an object whose last member named `m.server` is that string -/
theorem decodeDoc_ok_iff {p : Json.PVal} {a : Bytes} (ha : a ≠ []) :
    decodeDoc p = .ok a ↔ ∃ kvs raw, p = .obj kvs ∧ (mServerMembers kvs).getLast? = some (.str raw a) := by
  have hne : Decoded.ok [] ≠ .ok a := fun e => ha (Decoded.ok.inj e).symm
  constructor
  · intro h
    cases p with
    | obj kvs =>
      refine ⟨kvs, ?_⟩
      simp only [decodeDoc] at h
      cases hl : (mServerMembers kvs).getLast? with
      | none => rw [hl] at h; exact absurd h hne
      | some v =>
        rw [hl] at h
        cases v with
        | str raw dec => cases h; exact ⟨raw, rfl, rfl⟩
        | null => exact absurd h hne
        | _ => cases h
    | null => exact absurd h hne
    | _ => cases h
  · rintro ⟨kvs, raw, rfl, hl⟩
    simp only [decodeDoc, hl, decodeLast]

end V.WellKnown
