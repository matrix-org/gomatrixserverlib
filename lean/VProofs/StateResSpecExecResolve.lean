/-
  C10: the executable rendering of the definition (`VModel/StateResSpecExec.lean`, what the driver prints as the
  specification answer) satisfies the definition `Resolves`; since the definition determines its result, it returns
  exactly the events the model returns (`C10.execSpec_eq_model`).
-/
import VProofs.StateResSpecExecSets2
import VProofs.StateResSpecExecOrder2
import VProofs.StateResSpecResolve
import VProofs.StateResSpecExecOrder
namespace V.StateResSpec.Exec
open V.StateRes (ID eventMapFromEvents)

theorem authMap_eq_eventMap (auth : List Event) : authMap auth = eventMapFromEvents auth := distinct_eq_eventMap auth

theorem finalState_toSMap (m : List Event) (rejected : List ID) (cre : Option Event) (ctl oth unconf : List Event)
    {s1 : AMap} {f1 : SMap} (h1 : s1.toSMap = f1) (hk1 : KeysNodup s1) :
    let s2 := (powerOrder m (createFor s1.toSMap cre) ctl).foldl (authStepA m rejected) s1
    let s4 := unconf.foldl applyOneA
      ((mainlineOrder m (mainline m (s2.get (b!"m.room.power_levels", []))) oth).foldl (authStepA m rejected) s2)
    KeysNodup s4 ∧
      s4.toSMap = resolvedFrom (powerOrder m) (mainline m) (mainlineOrder m) m rejected cre ctl oth unconf f1 := by
  subst h1
  intro s2 s4
  have h2 : s2.toSMap = _ := foldl_authStepA_toSMap m rejected _ s1
  refine ⟨foldl_applyOneA_keysNodup _ (foldl_authStepA_keysNodup _ _ _ (foldl_authStepA_keysNodup _ _ _ hk1)), ?_⟩
  show (unconf.foldl applyOneA ((mainlineOrder m (mainline m (s2.toSMap _)) oth).foldl (authStepA m rejected) s2)).toSMap = _
  rw [foldl_applyOneA_toSMap, foldl_authStepA_toSMap, h2]
  rfl

theorem resolve_state (algo : Nat) (halgo : algo = 2 ∨ algo = 3) (sets : List (List Event)) (auth : List Event)
    (rejected : List ID) :
    let m := authMap auth
    let full := fullConflicted algo (reachTable m (distinct (sets.flatten ++ m))) m sets
    ∃ s : AMap, resolve algo sets auth rejected = s.map (·.2.eventID) ∧ KeysNodup s ∧
      s.toSMap = resolvedWith (powerOrder m) (mainline m) (mainlineOrder m) algo m auth rejected (conflicted sets)
        (unconflicted sets) (controlSet (conflicted sets) full (unconflicted sets))
        (otherSet (conflicted sets) full (unconflicted sets)) := by
  intro m full
  refine ⟨_, rfl, ?_⟩
  rcases halgo with rfl | rfl
  · exact finalState_toSMap m rejected _ _ _ _ (foldl_applyOneA_toSMap _ []) (foldl_applyOneA_keysNodup _ keysNodup_nil)
  · exact finalState_toSMap m rejected _ _ _ _ rfl keysNodup_nil

theorem resolve_resolves (algo : Nat) (halgo : algo = 2 ∨ algo = 3) (sets : List (List Event)) (auth : List Event)
    (rejected : List ID) (hwf : WF sets auth) (hr : Ranked (sets.flatten ++ auth)) :
    ∃ result : SMap, Resolves algo sets (authMap auth) auth rejected result ∧
      ∀ id, id ∈ resolve algo sets auth rejected ↔ ∃ k e, result k = some e ∧ e.eventID = id := by
  obtain ⟨hconf, hunconf, _, hctl, hoth, hothN⟩ := resolve_sets_spec algo hwf
  obtain ⟨s, hs, hk, hmap⟩ := resolve_state algo halgo sets auth rejected
  refine ⟨_, Resolves.of_stages hwf hr (fun x hx => List.mem_append_right _ (authMap_sub x hx)) hconf hunconf hctl hoth
    hothN (powerOrder_is_power_order _) (fun hac => mainline_is_mainline hac) (fun hac => mainlineOrder_spec hac),
    fun id => ?_⟩
  rw [hs]
  exact result_ids_iff hk (fun t k => congrFun hmap (t, k)) id

end V.StateResSpec.Exec
