/-
  The set-valued stages of the EXECUTABLE rendering `VModel/StateResSpecExec.lean` compute the Prop-level
  definitions of `VModel/StateResSpec.lean`, for well-formed input (event IDs identify events).
  Part 1: `memID` / `distinct` (= the model's `eventMapFromEvents`), unconflicted / conflicted, reachability by
  saturation and the reach table.
-/
import VModel.StateResSpecExec
import VProofs.StateResSpecClosure
namespace V.StateResSpec.Exec
open V.StateRes (IdNodup IdsIn EvId eventMapFromEvents findByID dedupStep eventMapFromEvents_eq findByID_isSome
  findByID_eventMap mem_eventMap eventMap_idNodup eventMap_sameSet eventMap_of_idNodup)

theorem sameID_iff {a b : Event} : sameID a b = true ↔ a.eventID = b.eventID := by
  unfold sameID; exact beq_iff_eq

theorem sameID_comm (a b : Event) : sameID a b = sameID b a := by
  rw [Bool.eq_iff_iff, sameID_iff, sameID_iff]; exact eq_comm

theorem sameID_refl (a : Event) : sameID a a = true := sameID_iff.mpr rfl

theorem not_sameID_iff (a b : Event) : (!sameID a b) = true ↔ a.eventID ≠ b.eventID :=
  Lists.not_eq_true_iff sameID_iff

theorem memID_iff {l : List Event} {e : Event} : memID l e = true ↔ ∃ x ∈ l, x.eventID = e.eventID :=
  List.any_eq_true.trans (exists_congr fun _ => and_congr_right fun _ => sameID_iff.trans eq_comm)

theorem memID_of_mem {l : List Event} {e : Event} (h : e ∈ l) : memID l e = true := memID_iff.mpr ⟨e, h, rfl⟩

theorem mem_ids_iff {S : List Event} {y : Event} : y.eventID ∈ S.map (·.eventID) ↔ memID S y = true := by
  rw [memID_iff, List.mem_map]

theorem memID_cons (a : Event) (l : List Event) (e : Event) : memID (a :: l) e = (sameID e a || memID l e) := by
  unfold memID; rw [List.any_cons]

theorem memID_iff_mem {U : Event → Prop} (hU : IDsIdentify U) {l : List Event} (hl : ∀ x ∈ l, U x) {e : Event} (he : U e) :
    memID l e = true ↔ e ∈ l := by
  constructor
  · intro h
    obtain ⟨x, hx, hid⟩ := memID_iff.mp h
    exact hU x e (hl x hx) he hid ▸ hx
  · exact memID_of_mem

theorem distinct_nil : distinct [] = [] := rfl

theorem distinct_cons (e : Event) (es : List Event) :
    distinct (e :: es) = e :: (distinct es).filter (fun x => !sameID e x) := rfl

theorem memID_congr {S : List Event} {a b : Event} (h : a.eventID = b.eventID) : memID S a = memID S b := by
  rw [Bool.eq_iff_iff, memID_iff, memID_iff, h]

theorem dedupStep_eq_ite (acc : List Event) (e : Event) : dedupStep acc e = if memID acc e then acc else acc ++ [e] := by
  unfold dedupStep
  have : (findByID acc e.eventID).isSome = memID acc e := by rw [Bool.eq_iff_iff, findByID_isSome, memID_iff]
  rw [this]

theorem dedupFold_eq_distinct : ∀ (l acc : List Event),
    l.foldl dedupStep acc = acc ++ (distinct l).filter (fun x => !memID acc x)
  | [], acc => by simp [distinct]
  | e :: es, acc => by
    rw [List.foldl_cons, dedupStep_eq_ite, distinct_cons, List.filter_cons]
    cases hin : memID acc e with
    | true =>
      simp only [if_true, Bool.not_true, Bool.false_eq_true, if_false]
      rw [dedupFold_eq_distinct es acc, List.filter_filter]
      congr 1
      refine List.filter_congr fun x _ => ?_
      -- an event with `e`'s ID is already excluded by `acc`
      cases hx : memID acc x with
      | true => rfl
      | false =>
        cases hs : sameID e x with
        | false => rfl
        | true => rw [← memID_congr (sameID_iff.mp hs), hin] at hx; cases hx
    | false =>
      simp only [Bool.false_eq_true, if_false, Bool.not_false, if_true]
      rw [dedupFold_eq_distinct es (acc ++ [e]), List.filter_filter, List.append_assoc, List.singleton_append]
      congr 2
      refine List.filter_congr fun x _ => ?_
      have : memID (acc ++ [e]) x = (memID acc x || sameID x e) := by
        unfold memID; rw [List.any_append]; simp
      rw [this, sameID_comm x e]
      cases memID acc x <;> cases sameID e x <;> rfl

theorem distinct_eq_eventMap (l : List Event) : distinct l = eventMapFromEvents l := by
  rw [eventMapFromEvents_eq, dedupFold_eq_distinct, List.nil_append]
  exact (List.filter_eq_self.mpr (fun _ _ => rfl)).symm

theorem mem_of_mem_distinct {l : List Event} {x : Event} (h : x ∈ distinct l) : x ∈ l :=
  mem_eventMap (distinct_eq_eventMap l ▸ h)

theorem distinct_idNodup (l : List Event) : IdNodup (distinct l) := distinct_eq_eventMap l ▸ eventMap_idNodup l

theorem memID_distinct (l : List Event) (e : Event) : memID (distinct l) e = memID l e := by
  rw [Bool.eq_iff_iff, memID_iff, memID_iff, distinct_eq_eventMap, ← findByID_isSome, ← findByID_isSome,
    findByID_eventMap]

theorem exists_id_distinct {l : List Event} {e : Event} (h : e ∈ l) : ∃ x ∈ distinct l, x.eventID = e.eventID := by
  have := memID_of_mem h
  rw [← memID_distinct] at this
  exact memID_iff.mp this

theorem mem_distinct {U : Event → Prop} (hU : IDsIdentify U) {l : List Event} (hl : ∀ x ∈ l, U x) {x : Event} :
    x ∈ distinct l ↔ x ∈ l := by
  rw [distinct_eq_eventMap]; exact eventMap_sameSet (EvId.mono hU hl) x

theorem distinct_of_idNodup {l : List Event} (h : IdNodup l) : distinct l = l := by
  rw [distinct_eq_eventMap, eventMap_of_idNodup h]

theorem distinct_append (a b : List Event) :
    distinct (a ++ b) = distinct a ++ (distinct b).filter (fun x => !memID a x) := by
  rw [distinct_eq_eventMap (a ++ b), eventMapFromEvents_eq, List.foldl_append, ← eventMapFromEvents_eq,
    ← distinct_eq_eventMap, dedupFold_eq_distinct]
  simp only [memID_distinct]

theorem inSomeSet_iff {sets : List (List Event)} {e : Event} : InSomeSet sets e ↔ e ∈ sets.flatten := by
  unfold InSomeSet
  rw [List.mem_flatten]

theorem isUnconflicted_iff {sets : List (List Event)} (hids : IDsIdentify (· ∈ sets.flatten)) (e : Event)
    (he : e ∈ sets.flatten) : isUnconflicted sets e = true ↔ Unconflicted sets e := by
  unfold isUnconflicted Unconflicted UnconflictedAt MapsTo
  simp only [Bool.and_eq_true, List.all_eq_true, Bool.or_eq_true, Bool.not_eq_eq_eq_not,
    Bool.not_true]
  constructor
  · rintro ⟨⟨hk, _⟩, hall⟩
    refine ⟨inSomeSet_iff.mpr he, ?_⟩
    obtain ⟨k, hk'⟩ := Option.isSome_iff_exists.mp hk
    refine ⟨k, ?_⟩
    intro S hS x
    obtain ⟨hmem, hS'⟩ := hall S hS
    have heS : e ∈ S := by
      obtain ⟨y, hy, hid⟩ := memID_iff.mp hmem
      exact hids y e (List.mem_flatten_of_mem hS hy) he hid ▸ hy
    constructor
    · rintro ⟨hx, hkx⟩
      rcases hS' x hx with h | h
      · rw [← Bool.not_eq_true, beq_iff_eq, hkx, hk'] at h; exact absurd rfl h
      · exact hids x e (List.mem_flatten_of_mem hS hx) he (sameID_iff.mp h)
    · rintro rfl; exact ⟨heS, hk'⟩
  · rintro ⟨hin, k, hat⟩
    obtain ⟨S0, hS0, _⟩ := hin
    have hk : keyOf e = some k := ((hat S0 hS0 e).mpr rfl).2
    refine ⟨⟨by rw [hk]; rfl, ?_⟩, ?_⟩
    · cases sets with
      | nil => cases hS0
      | cons _ _ => rfl
    · intro S hS
      refine ⟨memID_of_mem ((hat S hS e).mpr rfl).1, ?_⟩
      intro x hx
      by_cases hkx : keyOf x = keyOf e
      · right
        have : x = e := (hat S hS x).mp ⟨hx, hkx.trans hk⟩
        rw [this]; exact sameID_refl e
      · left
        rw [← Bool.not_eq_true, beq_iff_eq]; exact hkx

theorem mem_stateEvents_iff {sets : List (List Event)} (hids : IDsIdentify (· ∈ sets.flatten)) {x : Event} :
    x ∈ stateEvents sets ↔ x ∈ sets.flatten ∧ (keyOf x).isSome = true := by
  unfold stateEvents
  rw [List.mem_filter, mem_distinct hids (fun _ h => h)]

theorem keyOf_isSome_of_unconflicted {sets : List (List Event)} {x : Event} (h : Unconflicted sets x) :
    (keyOf x).isSome = true := by
  obtain ⟨⟨S, hS, _⟩, k, hat⟩ := h
  rw [((hat S hS x).mpr rfl).2]; rfl

theorem mem_unconflicted_iff {sets : List (List Event)} (hids : IDsIdentify (· ∈ sets.flatten)) {x : Event} :
    x ∈ unconflicted sets ↔ Unconflicted sets x := by
  unfold unconflicted
  rw [List.mem_filter, mem_stateEvents_iff hids]
  constructor
  · rintro ⟨⟨hx, _⟩, hu⟩; exact (isUnconflicted_iff hids x hx).mp hu
  · intro h
    have hx := inSomeSet_iff.mp h.1
    exact ⟨⟨hx, keyOf_isSome_of_unconflicted h⟩, (isUnconflicted_iff hids x hx).mpr h⟩

theorem mem_conflicted_iff {sets : List (List Event)} (hids : IDsIdentify (· ∈ sets.flatten)) {x : Event} :
    x ∈ conflicted sets ↔ Conflicted sets x := by
  unfold conflicted Conflicted
  rw [List.mem_filter, mem_stateEvents_iff hids, inSomeSet_iff, and_assoc, Option.isSome_iff_ne_none]
  exact and_congr_right fun hx => and_congr_right fun _ => Lists.not_eq_true_iff (isUnconflicted_iff hids x hx)

theorem conflicted_idNodup (sets : List (List Event)) : IdNodup (conflicted sets) :=
  ((distinct_idNodup _).filter _).filter _

theorem unconflicted_idNodup (sets : List (List Event)) : IdNodup (unconflicted sets) :=
  ((distinct_idNodup _).filter _).filter _

theorem mem_parentsIn_iff {m : List Event} {x y : Event} : y ∈ parentsIn m x ↔ AuthEdge (· ∈ m) x y := by
  unfold parentsIn AuthEdge
  rw [List.mem_filter, List.contains_iff_mem]

/-- the parents (inside `m`) of the events of `S` -/
def parentsOf (m S : List Event) : List Event := (S.map (parentsIn m)).flatten

theorem mem_parentsOf {m S : List Event} {y : Event} : y ∈ parentsOf m S ↔ ∃ s ∈ S, AuthEdge (· ∈ m) s y := by
  unfold parentsOf
  simp only [← List.flatMap_def, List.mem_flatMap, mem_parentsIn_iff]

/-- one round of the saturation -/
def roundOf (m S : List Event) : List Event := distinct (S ++ parentsOf m S)

/-- what a round adds to a set with distinct IDs -/
def extraOf (m S : List Event) : List Event := (distinct (parentsOf m S)).filter (fun x => !memID S x)

theorem saturate_zero (m S : List Event) : saturate m 0 S = S := rfl

theorem saturate_succ (m : List Event) (n : Nat) (S : List Event) :
    saturate m (n + 1) S = if (roundOf m S).length == S.length then S else saturate m n (roundOf m S) := rfl

theorem roundOf_eq {m S : List Event} (hS : IdNodup S) : roundOf m S = S ++ extraOf m S := by
  unfold roundOf extraOf
  rw [distinct_append, distinct_of_idNodup hS]

theorem mem_roundOf {m S : List Event} {y : Event} (h : y ∈ roundOf m S) : y ∈ S ∨ ∃ s ∈ S, AuthEdge (· ∈ m) s y := by
  unfold roundOf at h
  rcases List.mem_append.mp (mem_of_mem_distinct h) with h | h
  · exact Or.inl h
  · exact Or.inr (mem_parentsOf.mp h)

theorem mem_extraOf {m S : List Event} {f : Event} (h : f ∈ extraOf m S) : f ∈ m ∧ memID S f = false := by
  unfold extraOf at h
  obtain ⟨h1, h2⟩ := List.mem_filter.mp h
  obtain ⟨_, _, he⟩ := mem_parentsOf.mp (mem_of_mem_distinct h1)
  exact ⟨he.1, by simpa using h2⟩

theorem saturate_sound (m : List Event) : ∀ (n : Nat) (S : List Event) (y : Event),
    y ∈ saturate m n S → y ∈ S ∨ ∃ s ∈ S, ReachPlus (· ∈ m) s y := by
  intro n
  induction n with
  | zero => intro S y h; exact Or.inl h
  | succ n ih =>
    intro S y h
    rw [saturate_succ] at h
    split at h
    · exact Or.inl h
    · rcases ih _ _ h with h1 | ⟨z, hz, hr⟩
      · rcases mem_roundOf h1 with h2 | ⟨s, hs, he⟩
        · exact Or.inl h2
        · exact Or.inr ⟨s, hs, .edge he⟩
      · rcases mem_roundOf hz with h2 | ⟨s, hs, he⟩
        · exact Or.inr ⟨z, h2, hr⟩
        · exact Or.inr ⟨s, hs, .step he hr⟩

/-- `S` is closed under parents inside `m` -/
def ClosedIn (m S : List Event) : Prop := ∀ s ∈ S, ∀ y, AuthEdge (· ∈ m) s y → y ∈ S

theorem closedIn_reach {m R : List Event} (hc : ClosedIn m R) {s y : Event} (hs : s ∈ R) (h : ReachPlus (· ∈ m) s y) :
    y ∈ R := by
  induction h with
  | edge e => exact hc _ hs _ e
  | step e _ ih => exact ih (hc _ hs _ e)

theorem closedIn_of_extra_nil {m S : List Event} (hm : IdNodup m) (hSm : ∀ x ∈ S, x ∈ m) (h : extraOf m S = []) :
    ClosedIn m S := by
  intro s hs y he
  obtain ⟨y', hy', hid⟩ := exists_id_distinct (mem_parentsOf.mpr ⟨s, hs, he⟩)
  have hmem : memID S y' = true := by
    cases hc : memID S y' with
    | true => rfl
    | false =>
      have : y' ∈ extraOf m S := List.mem_filter.mpr ⟨hy', by simp [hc]⟩
      rw [h] at this; cases this
  rw [memID_congr hid] at hmem
  exact (memID_iff_mem hm.idsIn hSm he.1).mp hmem

theorem saturate_closed {m : List Event} (hm : IdNodup m) : ∀ (n : Nat) (S : List Event),
    (∀ x ∈ S, x ∈ m) → IdNodup S → V.StateRes.unseenIn m (S.map (·.eventID)) ≤ n →
    ClosedIn m (saturate m n S) ∧ ∀ x ∈ S, x ∈ saturate m n S := by
  intro n
  induction n with
  | zero =>
    intro S hSm _ hn
    refine ⟨?_, fun x hx => hx⟩
    have h0 : V.StateRes.unseenIn m (S.map (·.eventID)) = 0 := by omega
    unfold V.StateRes.unseenIn at h0
    rw [List.countP_eq_zero] at h0
    intro s _ y he
    have : memID S y = true := mem_ids_iff.mp (Classical.not_not.mp fun hn => h0 y he.1 ((V.StateRes.not_contains_iff _ _).mpr hn))
    exact (memID_iff_mem hm.idsIn hSm he.1).mp this
  | succ n ih =>
    intro S hSm hS hn
    rw [saturate_succ, roundOf_eq hS, List.length_append]
    cases hE : extraOf m S with
    | nil =>
      simp only [List.length_nil, Nat.add_zero, beq_self_eq_true, if_true]
      exact ⟨closedIn_of_extra_nil hm hSm hE, fun x hx => hx⟩
    | cons f fs =>
      have hne : (S.length + (f :: fs).length == S.length) = false := by
        rw [beq_eq_false_iff_ne, List.length_cons]; omega
      rw [hne]
      simp only [Bool.false_eq_true, if_false]
      have hfE : f ∈ extraOf m S := by rw [hE]; exact List.mem_cons_self
      obtain ⟨hfm, hfS⟩ := mem_extraOf hfE
      have hlt : V.StateRes.unseenIn m ((S ++ f :: fs).map (·.eventID)) < V.StateRes.unseenIn m (S.map (·.eventID)) :=
        V.StateRes.unseenIn_lt (fun x hx => by rw [List.map_append]; exact List.mem_append_left _ hx) hfm
          (fun h => by rw [mem_ids_iff, hfS] at h; cases h) (List.mem_map_of_mem (List.mem_append_right _ List.mem_cons_self))
      have hsub : ∀ x ∈ S ++ f :: fs, x ∈ m := by
        intro x hx
        rcases List.mem_append.mp hx with h | h
        · exact hSm x h
        · exact (mem_extraOf (hE ▸ h)).1
      have hnd : IdNodup (S ++ f :: fs) := by
        rw [← hE, ← roundOf_eq hS]; exact distinct_idNodup _
      obtain ⟨hc, hin⟩ := ih (S ++ f :: fs) hsub hnd (by omega)
      exact ⟨hc, fun x hx => hin x (List.mem_append_left _ hx)⟩

theorem mem_reachPlus_iff {m : List Event} (hm : IdNodup m) (x y : Event) :
    y ∈ reachPlus m x ↔ ReachPlus (· ∈ m) x y := by
  unfold reachPlus
  have hsub : ∀ z ∈ distinct (parentsIn m x), z ∈ m :=
    fun z hz => (mem_parentsIn_iff.mp (mem_of_mem_distinct hz)).1
  constructor
  · intro h
    rcases saturate_sound m _ _ _ h with h1 | ⟨s, hs, hr⟩
    · exact .edge (mem_parentsIn_iff.mp (mem_of_mem_distinct h1))
    · exact .step (mem_parentsIn_iff.mp (mem_of_mem_distinct hs)) hr
  · intro h
    obtain ⟨hc, hin⟩ := saturate_closed hm m.length _ hsub (distinct_idNodup _) (V.StateRes.unseenIn_le_length _ _)
    have hstart : ∀ z, AuthEdge (· ∈ m) x z → z ∈ saturate m m.length (distinct (parentsIn m x)) := by
      intro z he
      apply hin
      exact (mem_distinct hm.idsIn (fun z hz => (mem_parentsIn_iff.mp hz).1)).mpr (mem_parentsIn_iff.mpr he)
    cases h with
    | edge e => exact hstart _ e
    | step e r => exact closedIn_reach hc (hstart _ e) r

theorem find_reachTable {m Ul : List Event} (hUl : IdsIn Ul) {x : Event} (hx : x ∈ Ul) :
    (reachTable m Ul).find? (fun r => r.1 == x.eventID) = some (x.eventID, (reachPlus m x).map (·.eventID)) := by
  unfold reachTable
  rw [List.find?_map]
  have : Ul.find? ((fun r => r.1 == x.eventID) ∘ fun x => (x.eventID, (reachPlus m x).map (·.eventID)))
      = V.StateRes.findByID Ul x.eventID := rfl
  rw [this, V.StateRes.findByID_of_mem hUl hx]
  rfl

theorem plus_iff_exists {m Ul : List Event} (hm : IdNodup m) (hUl : IdsIn Ul) {x : Event} (hx : x ∈ Ul) (y : Event) :
    (reachTable m Ul).plus x y = true ↔ ∃ y', y'.eventID = y.eventID ∧ ReachPlus (· ∈ m) x y' := by
  unfold ReachTable.plus
  rw [find_reachTable hUl hx]
  simp only [List.contains_iff_mem, List.mem_map]
  constructor
  · rintro ⟨y', hy', hid⟩; exact ⟨y', hid, (mem_reachPlus_iff hm x y').mp hy'⟩
  · rintro ⟨y', hid, hr⟩; exact ⟨y', (mem_reachPlus_iff hm x y').mpr hr, hid⟩

theorem plus_of_not_memID {m Ul : List Event} {x : Event} (hx : memID Ul x = false) (y : Event) :
    (reachTable m Ul).plus x y = false := by
  unfold ReachTable.plus
  have : (reachTable m Ul).find? (fun r => r.1 == x.eventID) = none := by
    rw [List.find?_eq_none]
    intro r hr
    unfold reachTable at hr
    obtain ⟨z, hz, rfl⟩ := List.mem_map.mp hr
    exact fun h => Bool.eq_false_iff.mp hx (memID_iff.mpr ⟨z, hz, eq_of_beq h⟩)
  rw [this]

theorem plus_iff_of_unique {m Ul : List Event} (hm : IdNodup m) (hUl : IdsIn Ul) {x : Event} (hx : x ∈ Ul) {y : Event}
    (hy : ∀ y' ∈ m, y'.eventID = y.eventID → y' = y) :
    (reachTable m Ul).plus x y = true ↔ ReachPlus (· ∈ m) x y := by
  rw [plus_iff_exists hm hUl hx]
  constructor
  · rintro ⟨y', hid, hr⟩; exact hy y' hr.target hid ▸ hr
  · intro h; exact ⟨y, rfl, h⟩

theorem plus_iff {m Ul : List Event} (hm : IdNodup m) (hUl : IdsIn Ul) {x : Event} (hx : x ∈ Ul) {y : Event}
    (hy : y ∈ m) : (reachTable m Ul).plus x y = true ↔ ReachPlus (· ∈ m) x y :=
  plus_iff_of_unique hm hUl hx (fun y' hy' hid => hm.idsIn y' y hy' hy hid)

theorem plus_iff_in {U : Event → Prop} (hU : IDsIdentify U) {m Ul : List Event} (hm : IdNodup m) (hmU : ∀ x ∈ m, U x)
    (hUlU : ∀ x ∈ Ul, U x) {x : Event} (hx : x ∈ Ul) {y : Event} (hy : U y) :
    (reachTable m Ul).plus x y = true ↔ ReachPlus (· ∈ m) x y :=
  plus_iff_of_unique hm (EvId.mono hU hUlU) hx (fun y' hy' hid => hU y' y (hmU y' hy') hy hid)

theorem star_iff_in {U : Event → Prop} (hU : IDsIdentify U) {m Ul : List Event} (hm : IdNodup m) (hmU : ∀ x ∈ m, U x)
    (hUlU : ∀ x ∈ Ul, U x) {x : Event} (hx : x ∈ Ul) {y : Event} (hy : U y) :
    (reachTable m Ul).star x y = true ↔ Reach (· ∈ m) x y := by
  unfold ReachTable.star Reach
  rw [Bool.or_eq_true, plus_iff_in hU hm hmU hUlU hx hy, sameID_iff]
  constructor
  · rintro (h | h)
    · exact Or.inl (hU x y (hUlU x hx) hy h)
    · exact Or.inr h
  · rintro (h | h)
    · exact Or.inl (h ▸ rfl)
    · exact Or.inr h

end V.StateResSpec.Exec
