/-
  C07: the model decides what rule 5 decides for m.room.member events.
-/
import VProofs.AuthRulesBase
namespace V.AuthRules
open V V.Json V.GoJson V.Auth

/-- the model's allower and the rules' inputs describe the same check (`create`: every use sits behind the room-ID
    comparison, which only the content of a create event that is there passes) -/
structure Rel (m : MembershipAllower) (i : MemberInputs) (vr : VGen.VersionRow) : Prop where
  ctx : m.ctx = i.c
  prov : i.c.provider = i.p
  row : m.row = vr
  rowIs : RowIs vr i.sv
  ver : m.ver = i.e.ver
  target : m.targetID = i.target
  sender : m.senderID = i.e.sender
  snd : m.senderMember = i.snd
  old : m.oldMember = i.old
  new : m.newMember = i.new
  jr : m.joinRule = i.c.joinRule
  create : i.c.createEvent.isSome = true

theorem membershipField_eq (ev : Event) :
    (match ev.content with
      | none => none
      | some JVal.null => some []
      | some (JVal.obj kvs) =>
        if (decString (lookupExact kvs b!"membership")).err = true then none else some (decString (lookupExact kvs b!"membership")).val
      | some _ => none) = membershipField ev :=
  rfl

/-- the authorising user must have joined and have the power to invite -/
theorem restricted_tail (o : Option Bytes) (L inv : Int) :
    (match o with
     | none => (notAllowed : R Bytes)
     | some mem => if (mem != b!"join") = true then notAllowed else if L < inv then notAllowed else pure b!"public") =
    if (o == some b!"join" && decide (L ≥ inv)) = true then Except.ok b!"public" else notAllowed := by
  cases o with
  | none => rfl
  | some mem =>
    by_cases hj : mem = b!"join"
    · by_cases hl : L < inv
      · have : ¬ (L ≥ inv) := by omega
        simp [hj, hl, this]
      · have : L ≥ inv := by omega
        simp [hj, hl, this, pure, Except.pure]
    · simp [hj]

/-- `membershipAllowedSelfForRestrictedJoin`: refused where the version has no restricted joins; the rule `invite` for a user
    already invited or joined (or with no authorising user); else `public` exactly when the authorising user qualifies -/
theorem restrictedJoin_eq {m i row} (h : Rel m i row) :
    m.restrictedJoin =
      if i.sv.restricted = true then
        if (i.old.membership == b!"join" || i.old.membership == b!"invite" || i.new.authorisedVia == []) = true then .ok b!"invite"
        else if authorisedJoin lib i = true then .ok b!"public" else notAllowed
      else notAllowed := by
  unfold MembershipAllower.restrictedJoin authorisedJoin
  have e1 : ("allowRestrictedJoins" == "disallowRestrictedJoins") = false := by decide
  have e2 : ("allowRestrictedJoins" == "") = false := by decide
  have hd14 : lib.d14_pseudoIDs = true := rfl
  rw [h.row, h.rowIs.restricted]
  cases hs : i.sv.restricted with
  | false => rfl
  | true =>
    cases ho : (i.old.membership == b!"join" || i.old.membership == b!"invite" || i.new.authorisedVia == []) with
    | true =>
      simp only [if_true, e1, e2, h.old, h.new, ho, bne_self_eq_false, Bool.false_eq_true, if_false]
      rfl
    | false =>
      have hvia : (i.new.authorisedVia != []) = true := by
        simp only [Bool.or_eq_false_iff] at ho
        simpa using ho.2
      simp only [if_true, e1, e2, h.old, h.new, ho, bne_self_eq_false, Bool.false_eq_true, if_false, h.ver, h.ctx, h.prov,
        hd14, Bool.true_and, hvia, userPowerLevel_eq i.c _ h.create]
      by_cases hv : (i.e.ver == b!"org.matrix.msc4014") = true
      · have : (i.e.ver != b!"org.matrix.msc4014") = false := by simp_all
        simp only [this, hv, Bool.true_or, Bool.false_eq_true, if_false, Bool.true_and]
        cases hm : i.p.member i.new.authorisedVia with
        | none => rfl
        | some ev =>
          simp only [notAllowed_bind, ok_bind]
          exact restricted_tail (membershipField ev) _ _
      · have hv' : (i.e.ver == b!"org.matrix.msc4014") = false := Bool.eq_false_iff.mpr hv
        have : (i.e.ver != b!"org.matrix.msc4014") = true := by simp_all
        simp only [this, hv', Bool.false_or, if_true]
        by_cases hsp : splitIDOk 64 i.new.authorisedVia = true
        · simp only [hsp, Bool.not_true, Bool.false_eq_true, if_false, Bool.true_and]
          cases hm : i.p.member i.new.authorisedVia with
          | none => rfl
          | some ev =>
            simp only [notAllowed_bind, ok_bind]
            exact restricted_tail (membershipField ev) _ _
        · simp [hsp]

/-- `membershipAllowedSelf` as one chain of cases -/
theorem allowedSelf_model (m : MembershipAllower) :
    m.allowedSelf =
      if (m.oldMember.membership == b!"leave" && m.newMember.membership == b!"leave") = true then .ok ()
      else if (m.oldMember.membership == b!"ban") = true then notAllowed
      else if (m.newMember.membership == b!"knock") = true then checkKnockingAllowed m.row m.joinRule m.oldMember.membership
      else if (m.newMember.membership == b!"join") = true then
        (if (m.joinRule == b!"restricted" || m.joinRule == b!"knock_restricted") = true then m.restrictedJoin else pure m.joinRule)
          >>= fun jr =>
          if (((m.joinRule == b!"restricted" || m.joinRule == b!"knock_restricted") && jr == b!"public")
              || m.oldMember.membership == b!"invite" || m.oldMember.membership == b!"join"
              || jr == b!"public") = true then .ok () else notAllowed
      else if (m.newMember.membership == b!"leave") = true then
        (if (m.oldMember.membership == b!"join" || m.oldMember.membership == b!"invite") = true then .ok ()
         else if (m.oldMember.membership == b!"knock") = true then checkKnockingAllowed m.row b!"knock" m.oldMember.membership
         else notAllowed)
      else notAllowed := by
  unfold MembershipAllower.allowedSelf
  dsimp only
  -- both sides are the same chain of tests: decide the tests, then the branches coincide by computation
  cases (m.oldMember.membership == b!"leave" && m.newMember.membership == b!"leave") <;>
    cases (m.oldMember.membership == b!"ban") <;> try rfl
  all_goals
    cases (m.newMember.membership == b!"knock") <;> try rfl
    cases (m.newMember.membership == b!"join") <;> try rfl
    simp only [Bool.false_eq_true, if_false, if_true]
    congr 1
    funext jr
    cases (m.joinRule == b!"restricted" || m.joinRule == b!"knock_restricted") <;> cases jr == b!"public" <;>
      cases m.oldMember.membership == b!"invite" <;> cases m.oldMember.membership == b!"join" <;> rfl

theorem authorisedJoin_nil {d i} (h : (i.new.authorisedVia == []) = true) : authorisedJoin d i = false := by
  unfold authorisedJoin
  have : (i.new.authorisedVia != []) = false := by simp_all
  simp [this]

/-- the join rule as a formula over the atoms the model tests -/
theorem ruleJoin_atoms (i : MemberInputs) :
    ruleJoin lib i =
      (i.selfSent && !(i.old.membership == b!"ban") &&
        (if (i.c.joinRule == b!"restricted" || i.c.joinRule == b!"knock_restricted") = true then
           i.sv.restricted && (i.old.membership == b!"invite" || i.old.membership == b!"join" || authorisedJoin lib i)
         else
           (i.old.membership == b!"invite" || i.old.membership == b!"join" || i.c.joinRule == b!"public"))) := by
  unfold ruleJoin restrictedApplies inviteLikeRule MemberInputs.joinRule
  have hd16 : lib.d16_invitedJoinsAnyRule = true := rfl
  have hd9 : lib.d9_knockRestrictedEarly = true := rfl
  simp only [hd16, hd9, Bool.true_or, Bool.and_true, Bool.true_and, bne]
  congr 1
  by_cases hR : (i.c.joinRule == b!"restricted" || i.c.joinRule == b!"knock_restricted") = true
  · simp only [hR, if_true, Bool.and_true]
  · have hR' : (i.c.joinRule == b!"restricted" || i.c.joinRule == b!"knock_restricted") = false := Bool.eq_false_iff.mpr hR
    simp only [hR', Bool.false_eq_true, if_false]
    generalize (i.old.membership == b!"invite" || i.old.membership == b!"join") = ioj
    cases ioj <;> cases (i.c.joinRule == b!"public") <;> cases (i.c.joinRule == b!"invite" || (i.sv.knock && i.c.joinRule == b!"knock")) <;> rfl

theorem allowedSelf_join {m i row} (h : Rel m i row) (hself : i.selfSent = true)
    (hn : i.new.membership = b!"join") :
    accepts m.allowedSelf = some (ruleJoin lib i) := by
  rw [allowedSelf_model, ruleJoin_atoms, restrictedJoin_eq h]
  have l1 : (b!"join" == b!"leave") = false := by decide
  have l2 : (b!"join" == b!"knock") = false := by decide
  have l3 : (b!"invite" == b!"public") = false := by decide
  simp only [h.old, h.new, h.jr, hn, hself, l1, l2, l3, Bool.and_false, Bool.false_eq_true, if_false, beq_self_eq_true, if_true,
    Bool.true_and, ite_bind, ok_bind, pure_bind', notAllowed_bind, accepts_ite, accepts_ok, accepts_notAllowed, ite_some,
    Bool.false_or, Bool.and_true, Bool.or_true]
  -- an identity in the tests, given that without an authorising user the rule's `authorisedJoin` is false
  have ha : (i.new.authorisedVia == []) = true → authorisedJoin lib i = false := authorisedJoin_nil
  generalize (i.new.authorisedVia == []) = n at ha ⊢
  generalize authorisedJoin lib i = a at ha ⊢
  generalize (i.old.membership == b!"ban") = b
  generalize (i.c.joinRule == b!"restricted" || i.c.joinRule == b!"knock_restricted") = r
  generalize (i.old.membership == b!"join") = j
  generalize (i.old.membership == b!"invite") = v
  generalize (i.c.joinRule == b!"public") = p
  generalize i.sv.restricted = s
  revert n a b r j v p s
  decide

theorem checkKnocking_eq {row : VGen.VersionRow} {sv : SpecVersion} (hri : RowIs row sv) (jr old : Bytes) :
    accepts (checkKnockingAllowed row jr old) =
      some (sv.knock && (jr == b!"knock" || jr == b!"knock_restricted")
            && !(old == b!"join" || old == b!"invite" || old == b!"ban")) := by
  unfold checkKnockingAllowed
  rw [hri.knock]
  have e1 : ("checkKnocking" == "disallowKnocking") = false := by decide
  cases sv.knock with
  | false => rfl
  | true =>
    simp only [if_true, e1, Bool.false_eq_true, if_false, beq_self_eq_true, Bool.true_and, accepts_ite, accepts_ok,
      accepts_notAllowed, ite_some, Bool.if_false_left, Bool.if_true_right, Bool.decide_eq_true, Bool.or_false, Bool.not_or]
    cases (jr == b!"knock") <;> cases (jr == b!"knock_restricted") <;> rfl

/-- the five membership tests on a byte string: at most one of them succeeds -/
structure MemberTests (x : Bytes) (j l i b k : Bool) : Prop where
  join : (x == b!"join") = j
  leave : (x == b!"leave") = l
  invite : (x == b!"invite") = i
  ban : (x == b!"ban") = b
  knock : (x == b!"knock") = k

theorem membership_tests (x : Bytes) :
    MemberTests x true false false false false ∨ MemberTests x false true false false false
    ∨ MemberTests x false false true false false ∨ MemberTests x false false false true false
    ∨ MemberTests x false false false false true ∨ MemberTests x false false false false false := by
  by_cases h1 : x = b!"join"
  · subst h1; exact Or.inl ⟨rfl, by decide, by decide, by decide, by decide⟩
  by_cases h2 : x = b!"leave"
  · subst h2; exact Or.inr (Or.inl ⟨by decide, rfl, by decide, by decide, by decide⟩)
  by_cases h3 : x = b!"invite"
  · subst h3; exact Or.inr (Or.inr (Or.inl ⟨by decide, by decide, rfl, by decide, by decide⟩))
  by_cases h4 : x = b!"ban"
  · subst h4; exact Or.inr (Or.inr (Or.inr (Or.inl ⟨by decide, by decide, by decide, rfl, by decide⟩)))
  by_cases h5 : x = b!"knock"
  · subst h5; exact Or.inr (Or.inr (Or.inr (Or.inr (Or.inl ⟨by decide, by decide, by decide, by decide, rfl⟩))))
  exact Or.inr (Or.inr (Or.inr (Or.inr (Or.inr
    ⟨beq_eq_false_iff_ne.mpr h1, beq_eq_false_iff_ne.mpr h2, beq_eq_false_iff_ne.mpr h3, beq_eq_false_iff_ne.mpr h4,
     beq_eq_false_iff_ne.mpr h5⟩))))

end V.AuthRules
namespace V.C07
open V V.Json V.GoJson V.Auth V.AuthRules

/-- rules 5.3–5.8 once the contents are loaded, where the sender changes their own membership (`membershipAllowedSelf`) -/
theorem member_self_eq_spec {m : MembershipAllower} {i : MemberInputs} {row : VGen.VersionRow} (h : Rel m i row)
    (hself : i.selfSent = true) (hso : i.snd = i.old) : accepts m.allowedSelf = some (ruleByMembership lib i) := by
  have hd1 : lib.d1_selfLeaveLeave = true := rfl
  have hd9 : lib.d9_knockRestrictedEarly = true := rfl
  have hst : i.target = i.e.sender := by simpa [MemberInputs.selfSent] using hself
  by_cases hj : i.new.membership = b!"join"
  · rw [allowedSelf_join h hself hj]
    simp [ruleByMembership, hj]
  rw [allowedSelf_model, h.old, h.new, h.row, h.jr]
  unfold ruleByMembership ruleInvite ruleLeave ruleBan ruleKnock MemberInputs.joinRule
  simp only [hself, hso, hst, hd1, hd9, checkKnocking_eq h.rowIs, accepts_ite, accepts_ok, accepts_notAllowed, ite_some, Bool.true_and,
    Bool.and_true, beq_self_eq_true, Bool.true_or, if_true, Int.lt_irrefl, decide_false, Bool.and_false]
  rcases membership_tests i.new.membership with hn | hn | hn | hn | hn | hn <;>
    simp only [hn.join, hn.leave, hn.invite, hn.ban, hn.knock, Bool.and_false, Bool.and_true, Bool.false_eq_true, if_true, if_false]
  · exact absurd (by simpa using hn.join) hj
  · -- leave: the table over the target's current membership
    rcases membership_tests i.old.membership with ho | ho | ho | ho | ho | ho <;>
      simp [ho.join, ho.leave, ho.invite, ho.ban, ho.knock]
  · cases (i.old.membership == b!"join") <;> cases (i.old.membership == b!"ban") <;> simp
  · simp
  · cases (i.old.membership == b!"ban") <;> cases (i.old.membership == b!"invite") <;> cases (i.old.membership == b!"join") <;> simp
  · simp

/-- rules 5.3–5.8 once the contents are loaded, where the sender changes somebody else's membership (`membershipAllowedOther`) -/
theorem member_other_eq_spec {m : MembershipAllower} {i : MemberInputs} {row : VGen.VersionRow} (h : Rel m i row)
    (hself : i.selfSent = false) : accepts m.allowedOther = some (ruleByMembership lib i) := by
  have hd10 : lib.d10_unbanBanLevelOnly = true := rfl
  unfold MembershipAllower.allowedOther ruleByMembership ruleJoin ruleInvite ruleLeave ruleBan ruleKnock
  simp only [h.ctx, h.sender, h.target, userPowerLevel_eq i.c _ h.create, ok_bind, notAllowed_bind, h.snd, h.new, h.old, hself, hd10,
    Bool.false_and, Bool.and_false, Bool.true_or, Bool.and_true, Bool.false_eq_true, if_false, accepts_ite, accepts_pure,
    accepts_notAllowed, ite_some, bne]
  cases (i.snd.membership == b!"join") <;>
    rcases membership_tests i.new.membership with hn | hn | hn | hn | hn | hn <;>
    simp only [hn.join, hn.leave, hn.invite, hn.ban, hn.knock, Bool.false_eq_true, if_true, if_false, Bool.not_true, Bool.not_false,
      Bool.false_and, Bool.true_and, Bool.if_false_right, Bool.if_false_left, Bool.and_true, Bool.decide_eq_true, ge_iff_le, gt_iff_lt]
  -- invite: the model tests the level before the target's membership, the rule after it
  rw [Bool.and_comm]
  simp only [← decide_not, Int.not_lt]

end V.C07
namespace V.AuthRules
open V V.Json V.GoJson V.Auth

theorem byMembership_eq {m i row} (h : Rel m i row) (hso : i.selfSent = true → i.snd = i.old) :
    accepts (if i.selfSent = true then m.allowedSelf else m.allowedOther) = some (ruleByMembership lib i) := by
  cases hs : i.selfSent with
  | true => exact C07.member_self_eq_spec h hs (hso hs)
  | false => exact C07.member_other_eq_spec h hs

/-- the third-party-invite keys the model loads: only for invites that carry a `third_party_invite` block -/
def tpKeysFor (p : Provider) (nm : MemberContent) : Option Nat :=
  match nm.thirdPartyInvite with
  | none => some 0
  | some s => if nm.membership != b!"invite" then some 0 else if s.token.isEmpty then none else thirdPartyKeys p nm

/-- the keys are missing only for an invite naming a third-party invite with an empty token or without a usable
    m.room.third_party_invite event: neither a first join nor a valid third-party invite -/
theorem tpKeysFor_none {i : MemberInputs} (h : tpKeysFor i.p i.new = none) : ruleMemberDecision lib i = false := by
  unfold tpKeysFor at h
  unfold ruleMemberDecision ruleFirstJoin ruleThirdPartyInvite
  cases htpi : i.new.thirdPartyInvite with
  | none => rw [htpi] at h; cases h
  | some s =>
    rw [htpi] at h
    by_cases hinv : i.new.membership = b!"invite"
    · by_cases htok : s.token.isEmpty = true
      · simp [hinv, htok]
      · simp only [hinv, bne_self_eq_false, htok, Bool.false_eq_true, if_false] at h
        simp [hinv, h]
    · simp [hinv] at h

/-- where the keys are there for an invite that names a third-party invite, they are the keys of that invite and its
    token is not empty -/
theorem tpKeysFor_invite {p : Provider} {nm : MemberContent} {s : ThirdPartySigned} {n : Nat} (h : tpKeysFor p nm = some n)
    (hs : nm.thirdPartyInvite = some s) (hinv : (nm.membership == b!"invite") = true) :
    thirdPartyKeys p nm = some n ∧ s.token.isEmpty = false := by
  unfold tpKeysFor at h
  have : (nm.membership != b!"invite") = false := by simp [bne, hinv]
  rw [hs] at h
  simp only [this, Bool.false_eq_true, if_false] at h
  cases htok : s.token.isEmpty with
  | true => simp [htok] at h
  | false => simpa [htok] using h

/-- binding a step that yields the value of an option and refuses (`notAllowed`, `failErr`) where there is none -/
theorem accepts_bind_option {α} (o : Option α) (err : R α) (herr : ∀ k : α → R Unit, accepts (err >>= k) = some false)
    (x : R α) (k : α → R Unit)
    (hx : x = match o with
      | some a => .ok a
      | none => err) :
    accepts (x >>= k) = (match (motive := Option α → Option Bool) o with
      | some a => accepts (k a)
      | none => some false) := by
  subst hx
  cases o with
  | some a => rfl
  | none => exact herr k

theorem singleton_eq (l : List Bytes) (x : Bytes) :
    (l.length == 1 && l.head? == some x) = (l == [x]) := by
  cases l with
  | nil => rfl
  | cons a t =>
    cases t with
    | nil => simp
    | cons b t' => simp

theorem firstJoin_eq (i : MemberInputs) (ce : Event) (hcev : i.c.createEvent = some ce) :
    ruleFirstJoin lib i =
      (i.target == ce.sender && i.new.membership == b!"join" && i.e.sender == i.target && i.e.prevEventIDs.length == 1
        && i.e.prevEventIDs.head? == some i.c.create.eventID) := by
  have hd12 : lib.d12_firstJoinBySelf = true := rfl
  unfold ruleFirstJoin MemberInputs.selfSent
  simp only [hcev, Option.map_some, hd12, Bool.not_true, Bool.false_or, Bool.and_assoc, singleton_eq]
  rw [Bool.eq_iff_iff]
  simp only [Bool.and_eq_true, beq_iff_eq, Option.some.injEq]
  constructor
  · rintro ⟨h1, h2, h3, h4⟩
    exact ⟨h1.symm, h2, h3.symm, h4⟩
  · rintro ⟨h1, h2, h3, h4⟩
    exact ⟨h1.symm, h2, h3.symm, h4⟩

end V.AuthRules
namespace V.C07
open V V.Json V.GoJson V.Auth V.AuthRules

/-- 5.4.1 third-party invites (D7): the model's `membershipAllowedFromThirdPartyInvite` against the rule (the empty token,
    5.4.1.3, is refused when the contents are loaded: `tpKeysFor_none`, used in `member_eq`) -/
theorem third_party_eq_spec (i : MemberInputs) (s : ThirdPartySigned) (tpKeys : Nat)
    (htp : thirdPartyKeys i.p i.new = some tpKeys) (htok : s.token.isEmpty = false) :
    accepts (if (i.target != s.mxid) = true then notAllowed
             else if (decide (tpKeys > 0) && s.sigs.any (fun dk => (b!"ed25519").isPrefixOf dk.2) && i.sig3pid) = true then pure ()
             else notAllowed) = some (ruleThirdPartyInvite Departures.library i s) := by
  unfold ruleThirdPartyInvite
  have hd7 : lib.d7_thirdPartySynapse = true := rfl
  rw [htp, htok]
  simp only [hd7, accepts_ite, accepts_pure, accepts_notAllowed, ite_some, Bool.true_or, Bool.and_true, Bool.not_false, Bool.true_and,
    Bool.if_false_left, Bool.if_true_left, Bool.or_false, bne, Bool.not_not, Bool.decide_eq_true, Bool.and_assoc]

end V.C07
namespace V.AuthRules
open V V.Json V.GoJson V.Auth

theorem accepts_unless {x d : Bool} {a : Option Bool} (h : a = some d) :
    (if x = true then some true else a) = some (x || d) := by
  subst h
  cases x <;> rfl

theorem member_eq (c : Ctx) (p : Provider) (hf : Fresh p c) (e : Event) (sig : Bool) (row : VGen.VersionRow) (sv : SpecVersion)
    (hrow : e.row = some row) (hri : RowIs row sv)
    (hs : (parseUserID? e.sender).isSome = true) (hr : e.roomID ≠ [])
    (hnew : isUnmodelled (decodeMemberContent e.content) = false)
    (hsnd : isUnmodelled (memberFromProvider p e.sender) = false)
    (hold : (match e.stateKey with
            | some t => !isUnmodelled (memberFromProvider p t)
            | none => true) = true)
    (hmx : (match decodeMemberContent e.content with
            | .ok nm => (match nm.mxidMappingUserID with
                         | some uid => (parseUserID? uid).isSome
                         | none => true)
            | .error _ => true) = true) :
    accepts (c.memberEventAllowed e sig) = some (ruleMember lib c p sv e sig) := by
  unfold Ctx.memberEventAllowed ruleMember
  rw [hf.provider]
  simp only [hrow, pure_bind']
  cases hsk : e.stateKey with
  | none => rfl
  | some target =>
    rw [hsk] at hold
    simp only [pure_bind'] at hold ⊢
    rcases decodeMemberContent_cases _ hnew with ⟨nm, hnm⟩ | hnm
    case inr =>
      have : newMemberOf e = none := by simp [newMemberOf, hnm, notAllowed]
      rw [hnm, this]; rfl
    have hnm' : newMemberOf e = some nm := by simp [newMemberOf, hnm]
    rw [hnm] at hmx
    simp only [hnm, hnm', ok_bind] at hmx ⊢
    have hold' : isUnmodelled (memberFromProvider p target) = false := by simpa using hold
    rcases memberFromProvider_cases p target hold' with ⟨om, hom⟩ | hom
    case inr => rw [hom, membershipOf_na hom]; rfl
    rcases memberFromProvider_cases p e.sender hsnd with ⟨sm, hsm⟩ | hsm
    case inr => rw [hom, hsm, membershipOf_na hsm, membershipOf_ok hom]; rfl
    simp only [hom, hsm, membershipOf_ok hom, membershipOf_ok hsm, ok_bind, notAllowed_bind]
    -- the model's allower and the rules' inputs, once all contents are loaded
    have hrel : ∀ tk, c.createEvent.isSome = true →
        Rel ⟨c, row, e.ver, tk, target, e.sender, sm, om, nm, c.joinRule⟩ ⟨c, p, e, sv, target, nm, om, sm, sig⟩ row :=
      fun _ hce => ⟨rfl, hf.provider, rfl, hri, rfl, rfl, rfl, rfl, rfl, rfl, rfl, hce⟩
    have hso : (target == e.sender) = true → sm = om := by
      intro hself
      rw [beq_iff_eq.mp hself, hsm] at hom
      exact Except.ok.inj hom
    refine Eq.trans (accepts_bind_option (tpKeysFor p nm) notAllowed (fun _ => rfl) _ _ ?_) ?_
    · unfold tpKeysFor thirdPartyKeys
      cases nm.thirdPartyInvite with
      | none => rfl
      | some s =>
        simp only
        by_cases hinv : (nm.membership != b!"invite") = true
        · simp only [hinv, if_true]; rfl
        · simp only [hinv, if_false, Bool.false_eq_true]
          by_cases htok : s.token.isEmpty = true
          · simp only [htok, if_true]
          · simp only [htok, if_false, Bool.false_eq_true]
            cases p.thirdPartyInvite s.token with
            | none => rfl
            | some tpe =>
              simp only [Option.bind_some]
              cases decodeThirdPartyInviteKeys tpe.content <;> rfl
    cases htp : tpKeysFor p nm with
    | none => simp only [tpKeysFor_none (i := ⟨c, p, e, sv, target, nm, om, sm, sig⟩) htp, Bool.and_false]
    | some tpKeys =>
      simp only
      rw [ruleCreatePresent_eq hf hr]
      by_cases hroom : c.create.roomID = e.roomID
      case neg =>
        have h1 : (c.create.roomID != e.roomID) = true := bne_iff_ne.mpr hroom
        have h2 : (e.roomID == c.create.roomID) = false := beq_eq_false_iff_ne.mpr (Ne.symm hroom)
        simp only [h1, h2, if_true, accepts_notAllowed, Bool.false_and]
      have hce := createPresent_of hf hr (by simp [hroom])
      simp only [hroom, bne_self_eq_false, beq_self_eq_true, Bool.false_eq_true, if_false, Bool.true_and]
      refine Eq.trans (accepts_bind_option (federateSubject lib ⟨c, p, e, sv, target, nm, om, sm, sig⟩) failErr (fun _ => rfl) _ _ ?_) ?_
      · unfold federateSubject
        have hd14 : lib.d14_pseudoIDs = true := rfl
        simp only [hd14, Bool.true_and, resolveUser_eq hs]
        cases hmm : nm.mxidMappingUserID with
        | none => cases userOf e.sender <;> rfl
        | some uid =>
          rw [hmm] at hmx
          simp only at hmx ⊢
          split
          · unfold userOf
            cases hp : parseUserID? uid with
            | none => simp [hp] at hmx
            | some o => cases o <;> rfl
          · cases userOf e.sender <;> rfl
      cases federateSubject lib ⟨c, p, e, sv, target, nm, om, sm, sig⟩ with
      | none => rfl
      | some u =>
        simp only [domainAllowed_eq]
        cases hfed : ruleFederate c u.domain with
        | false =>
          unfold ruleFederate at hfed
          simp only [hfed, Bool.false_eq_true, if_false, notAllowed_bind, accepts_notAllowed, Bool.false_and]
        | true =>
          unfold ruleFederate at hfed
          cases hcev : c.createEvent with
          | none => simp [hcev] at hce
          | some ce =>
            simp only [hfed, if_true, ok_bind, Bool.true_and]
            unfold ruleMemberDecision
            rw [firstJoin_eq _ ce hcev, accepts_ite, accepts_pure]
            refine accepts_unless ?_
            have tail := byMembership_eq (hrel tpKeys hce) hso
            cases htpi : nm.thirdPartyInvite with
            | none =>
              simp only [Option.isSome_none, Bool.and_false, Bool.false_eq_true, if_false]
              exact tail
            | some s =>
              simp only [Option.isSome_some, Bool.and_true]
              cases hinv : nm.membership == b!"invite" with
              | false =>
                simp only [Bool.false_eq_true, if_false]
                exact tail
              | true =>
                obtain ⟨hk, htok⟩ := tpKeysFor_invite htp htpi hinv
                simp only [if_true]
                exact C07.third_party_eq_spec ⟨c, p, e, sv, target, nm, om, sm, sig⟩ s tpKeys hk htok

end V.AuthRules
