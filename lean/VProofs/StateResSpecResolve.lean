/-
  C10, composition.  `resolveV2New` (algorithms 2 and 3 = v2 and v2.1) computes a state that `Resolves`
  according to the definition: conflicted / unconflicted split, auth difference (+ conflicted subgraph), control
  closure, reverse topological power ordering, iterative auth checks, mainline ordering, final assembly (R6).
  The model's function is taken in the named stages of `VProofs.StateResStages` (`prepOf`, `flowFrom`, `stateS4`,
  `finalState`); the state relation is proved over `flowFrom` for an arbitrary `Prep`.
-/
import VProofs.StateResSpecSplit
import VProofs.StateResSpecAuthDiff
import VProofs.StateResSpecControl
import VProofs.StateResSpecKahn2
import VProofs.StateResSpecState
import VProofs.StateResStages
import VProofs.StateResWF
import VProofs.StateResSpecMainline
namespace V.StateResSpec
open V.StateRes

theorem ranked_lt {evs : List Event} {rk : ID → Nat} (hrk : ∀ e ∈ evs, ∀ p ∈ e.authEventIDs, rk p < rk e.eventID)
    {P : Event → Prop} (hP : ∀ x, P x → x ∈ evs) {x y : Event} (h : ReachPlus P x y) (hx : x ∈ evs) :
    rk y.eventID < rk x.eventID := by
  induction h with
  | edge e => exact hrk _ hx _ e.2
  | step e _ ih => exact Nat.lt_trans (ih (hP _ e.1)) (hrk _ hx _ e.2)

theorem ranked_acyclic {evs : List Event} (hr : Ranked evs) {P : Event → Prop} (hP : ∀ x, P x → x ∈ evs) : Acyclic P := by
  obtain ⟨rk, hrk⟩ := hr
  intro x h
  exact Nat.lt_irrefl _ (ranked_lt hrk hP h (hP x h.target))

theorem ranked_kahn {evs : List Event} (hr : Ranked evs) (l : List Event) (hl : ∀ e ∈ l, e ∈ evs) :
    ∃ rk : ID → Nat, ∀ e ∈ l, ∀ p ∈ e.authEventIDs, (∃ e' ∈ l, e'.eventID = p) → rk p < rk e.eventID := by
  obtain ⟨rk, hrk⟩ := hr
  exact ⟨rk, fun e he p hp _ => hrk e (hl e he) p hp⟩

/-- The state `Resolves` prescribes from the first state `s1` on, when `order`, `ml` and `mo` compute the reverse
    topological power ordering, the mainline and the mainline ordering. -/
def resolvedFrom (order : Option Event → List Event → List Event) (ml : Option Event → List Event)
    (mo : List Event → List Event → List Event) (m : List Event) (rejected : List ID) (cre : Option Event)
    (ctl oth unconf : List Event) (s1 : SMap) : SMap :=
  let s2 := iterAuth m rejected s1 (order (createFor s1 cre) ctl)
  applyAll (iterAuth m rejected s2 (mo (ml (s2 (b!"m.room.power_levels", []))) oth)) unconf

/-- … and from the four sets on (R6: algorithm 2 starts from the unconflicted state, algorithm 3 from the empty one) -/
def resolvedWith (order : Option Event → List Event → List Event) (ml : Option Event → List Event)
    (mo : List Event → List Event → List Event) (algo : Nat) (m auth : List Event) (rejected : List ID)
    (conf unconf ctl oth : List Event) : SMap :=
  resolvedFrom order ml mo m rejected (roomCreate unconf auth conf) ctl oth unconf
    (if algo = 2 then applyAll SMap.empty (order (roomCreate unconf auth conf) unconf) else SMap.empty)

/-- enumerations of the four sets and functions computing the ordered stages give a state that `Resolves`
    (the lists to be ordered consist of supplied events, so their IDs identify them and the rank orders them) -/
theorem Resolves.of_stages {algo : Nat} {sets : List (List Event)} {m auth : List Event} {rejected : List ID}
    (hwf : WF sets auth) (hr : Ranked (sets.flatten ++ auth)) (hmU : ∀ x ∈ m, x ∈ sets.flatten ++ auth)
    {conf unconf ctl oth : List Event} (hconf : ∀ x, x ∈ conf ↔ Conflicted sets x)
    (hunconf : ∀ x, x ∈ unconf ↔ Unconflicted sets x)
    (hctl : ∀ x, x ∈ ctl ↔ ControlSet (Conflicted sets) (FullConflicted algo (· ∈ m) sets) (Unconflicted sets) x)
    (hoth : ∀ x, x ∈ oth ↔ OtherSet (Conflicted sets) (FullConflicted algo (· ∈ m) sets) (Unconflicted sets) x)
    (hothN : oth.Nodup) {order : Option Event → List Event → List Event}
    (horder : ∀ c l, (∀ a ∈ l, ∀ b ∈ l, a.eventID = b.eventID → a = b) →
      (∃ rk : ID → Nat, ∀ e ∈ l, ∀ p ∈ e.authEventIDs, (∃ e' ∈ l, e'.eventID = p) → rk p < rk e.eventID) →
      IsReverseTopoPowerOrder m c l (order c l))
    {ml : Option Event → List Event} (hml : Acyclic (· ∈ m) → ∀ p, IsMainline m p (ml p))
    {mo : List Event → List Event → List Event}
    (hmo : Acyclic (· ∈ m) → ∀ l input, IsMainlineOrder m l input (mo l input)) :
    Resolves algo sets m auth rejected (resolvedWith order ml mo algo m auth rejected conf unconf ctl oth) := by
  have hflat : ∀ x, InSomeSet sets x → x ∈ sets.flatten ++ auth := by
    rintro x ⟨S, hS, hx⟩; exact List.mem_append_left _ (List.mem_flatten.mpr ⟨S, hS, hx⟩)
  have hac : Acyclic (· ∈ m) := ranked_acyclic hr hmU
  have hord : ∀ c l, (∀ x ∈ l, x ∈ sets.flatten ++ auth) → IsReverseTopoPowerOrder m c l (order c l) :=
    fun c l hl => horder c l (fun a ha b hb => hwf.ids a b (hl a ha) (hl b hb)) (ranked_kahn hr l hl)
  have hctlU : ∀ x ∈ ctl, x ∈ sets.flatten ++ auth := by
    intro x hx
    obtain ⟨r, hroot, hreach⟩ := (hctl x).mp hx
    rcases hreach.source_or_mem with h | h
    · exact h ▸ hroot.1.inU hmU (fun S hS y hy => hflat y ⟨S, hS, hy⟩)
    · exact hflat x h.1
  exact ⟨⟨conf, unconf, ctl, oth, _, _, _, _, hconf, hunconf, hctl, hoth, hothN,
    hord _ _ (fun x hx => hflat x ((hunconf x).mp hx).1), hord _ _ hctlU, hml hac _, hmo hac _ _, rfl⟩⟩

theorem resolveV2_sets_spec {algo : Nat} (halgo : algo = 2 ∨ algo = 3) {sets : List (List Event)} {auth : List Event}
    (hwf : WF sets auth) :
    let conf := (splitConflictedUnconflicted false sets).1
    let unconf := (splitConflictedUnconflicted false sets).2
    let m := eventMapFromEvents auth
    let full := conf ++ authDifferenceNew algo m conf sets
    (∀ x, x ∈ conf ↔ Conflicted sets x) ∧ (∀ x, x ∈ unconf ↔ Unconflicted sets x) ∧
    (∀ x, x ∈ controlEventsOf full (eventMapFromEvents conf) (unconf.map (·.eventID)) ↔
      ControlSet (Conflicted sets) (FullConflicted algo (· ∈ m) sets) (Unconflicted sets) x) ∧
    (∀ x, x ∈ othersOf full (eventMapFromEvents conf) (unconf.map (·.eventID)) ↔
      OtherSet (Conflicted sets) (FullConflicted algo (· ∈ m) sets) (Unconflicted sets) x) ∧
    (othersOf full (eventMapFromEvents conf) (unconf.map (·.eventID))).Nodup := by
  intro conf unconf m full
  have hU : IDsIdentify (fun e => e ∈ sets.flatten ++ auth) := hwf.ids
  have hSU : ∀ S ∈ sets, ∀ x ∈ S, x ∈ sets.flatten ++ auth :=
    fun S hS x hx => List.mem_append_left _ (List.mem_flatten.mpr ⟨S, hS, hx⟩)
  obtain ⟨hsc, hsu⟩ := split_eq_spec sets
    (fun a b ha hb => hU a b (List.mem_append_left _ ha) (List.mem_append_left _ hb)) (fun S hS => (hwf.maps S hS).1)
  have hmN : IdNodup m := eventMap_idNodup auth
  have hmU : ∀ x ∈ m, x ∈ sets.flatten ++ auth := fun x hx => List.mem_append_right _ (mem_eventMap hx)
  have hconfU : ∀ x ∈ conf, x ∈ sets.flatten ++ auth := by
    intro x hx
    obtain ⟨⟨S, hS, hxS⟩, _⟩ := (hsc x).mp hx
    exact hSU S hS x hxS
  have hcmS : ∀ x, x ∈ eventMapFromEvents conf ↔ Conflicted sets x := fun x =>
    (eventMap_sameSet (fun a b ha hb => hU a b (hconfU a ha) (hconfU b hb)) x).trans (hsc x)
  have hcmU : ∀ x ∈ eventMapFromEvents conf, x ∈ sets.flatten ++ auth := fun x hx => hconfU x (mem_eventMap hx)
  have hfullS : ∀ x, x ∈ full ↔ FullConflicted algo (· ∈ m) sets x := by
    intro x
    show x ∈ conf ++ _ ↔ _
    rw [List.mem_append, hsc]
    unfold FullConflicted
    rcases halgo with rfl | rfl
    · rw [authDifference_eq_spec hmN]
      simp
    · rw [authDifference21_eq_spec hU hmN hmU hSU hconfU, ConflictedSubgraph.congr hsc]
      simp
  have hfullU : ∀ x ∈ full, x ∈ sets.flatten ++ auth := fun x hx => ((hfullS x).mp hx).inU hmU hSU
  refine ⟨hsc, hsu, fun x => ?_, fun x => ?_, (othersOf_idNodup full _ _).nodup⟩
  · rw [controlSet_eq_spec hU hfullU hcmU (eventMap_idNodup conf)]
    exact ControlSet.congr hcmS hfullS hsu
  · rw [otherSet_eq_spec hU hfullU hcmU (eventMap_idNodup conf)]
    exact OtherSet.congr hcmS hfullS hsu

/-! ## the stages of `VProofs.StateResStages` in the names used here -/

theorem rootsOf_eq (u : List ID) (f : List Event) : V.StateRes.rootsOf u f = rootsOf f u := rfl
theorem controlIDsOf_eq : @V.StateRes.controlIDsOf = @controlIDsOf := rfl
theorem lookupAny_eq : @V.StateRes.lookupAny = @lookupAny := rfl

-- stated through `mkPrep` and the three equations above: left to the unifier, the comparison unfolds `controlClosure`
theorem prep_controlEvents (algo : Nat) (sets : List (List Event)) (auth : List Event) :
    (prepOf algo sets auth).controlEvents =
      controlEventsOf ((splitConflictedUnconflicted false sets).1 ++
          authDifferenceNew algo (eventMapFromEvents auth) (splitConflictedUnconflicted false sets).1 sets)
        (eventMapFromEvents (splitConflictedUnconflicted false sets).1)
        ((splitConflictedUnconflicted false sets).2.map (·.eventID)) := by
  unfold controlEventsOf
  rw [prepOf_eq_mkPrep]
  simp only [mkPrep, rootsOf_eq, controlIDsOf_eq, lookupAny_eq]

theorem prep_others (algo : Nat) (sets : List (List Event)) (auth : List Event) :
    (prepOf algo sets auth).others =
      othersOf ((splitConflictedUnconflicted false sets).1 ++
          authDifferenceNew algo (eventMapFromEvents auth) (splitConflictedUnconflicted false sets).1 sets)
        (eventMapFromEvents (splitConflictedUnconflicted false sets).1)
        ((splitConflictedUnconflicted false sets).2.map (·.eventID)) := by
  unfold othersOf
  rw [prepOf_eq_mkPrep]
  simp only [mkPrep, V.StateRes.othersOf, rootsOf_eq, controlIDsOf_eq]

theorem prep_authMap (algo : Nat) (sets : List (List Event)) (auth : List Event) :
    (prepOf algo sets auth).authMap = eventMapFromEvents auth := rfl

theorem prep_conflicted (algo : Nat) (sets : List (List Event)) (auth : List Event) :
    (prepOf algo sets auth).conflicted = (splitConflictedUnconflicted false sets).1 := rfl

theorem prep_unconflicted (algo : Nat) (sets : List (List Event)) (auth : List Event) :
    (prepOf algo sets auth).unconflicted = (splitConflictedUnconflicted false sets).2 := rfl

theorem createFor_eq {s : State} {f : SMap} (h : StateRel s f) (c : Option Event) :
    V.StateRes.createFor c s = createFor f c := by
  unfold V.StateRes.createFor createFor
  rw [h]
  cases f (b!"m.room.create", []) <;> rfl

theorem flowFrom_rel (p : Prep) (rejected : List ID) {s1 : State} {f1 : SMap} (h1 : StateRel s1 f1) :
    StateRel (flowFrom p rejected s1)
      (resolvedFrom (reverseTopoAuth p.authMap) (createMainline p.authMap) (mainlineOrdering p.authMap) p.authMap rejected
        p.createEv p.controlEvents p.others p.unconflicted f1) := by
  unfold flowFrom stateS3From othersOrderFrom stateS2From controlOrderFrom resolvedFrom
  simp only []
  rw [createFor_eq h1]
  have h2 := authAndApply_rel p.authMap rejected (reverseTopoAuth p.authMap (createFor f1 p.createEv) p.controlEvents) h1
  rw [h2]
  exact applyEvents_rel p.unconflicted (authAndApply_rel p.authMap rejected _ h2)

theorem stateS4_rel {algo : Nat} (halgo : algo = 2 ∨ algo = 3) (p : Prep) (auth : List Event) (rejected : List ID)
    (hce : p.createEv = roomCreate p.unconflicted auth p.conflicted) :
    StateRel (stateS4 algo p rejected)
      (resolvedWith (reverseTopoAuth p.authMap) (createMainline p.authMap) (mainlineOrdering p.authMap) algo p.authMap auth
        rejected p.conflicted p.unconflicted p.controlEvents p.others) := by
  rw [stateS4_eq_flowFrom]
  unfold resolvedWith
  rw [← hce]
  rcases halgo with rfl | rfl
  · exact flowFrom_rel p rejected (applyEvents_rel _ stateRel_nil)
  · exact flowFrom_rel p rejected stateRel_nil

theorem resolveV2New_eq_spec (algo : Nat) (halgo : algo = 2 ∨ algo = 3) (sets : List (List Event)) (auth : List Event)
    (rejected : List ID) (hwf : WF sets auth) (hr : Ranked (sets.flatten ++ auth)) :
    ∃ result : SMap, Resolves algo sets (eventMapFromEvents auth) auth rejected result ∧
      ∀ id, id ∈ (resolveV2New algo sets auth rejected).result ↔ ∃ k e, result k = some e ∧ e.eventID = id := by
  obtain ⟨hsc, hsu, hctl, hoth, hothN⟩ := resolveV2_sets_spec halgo hwf
  have hrel := stateS4_rel halgo (prepOf algo sets auth) auth rejected rfl
  rw [prep_authMap, prep_conflicted, prep_unconflicted, prep_controlEvents, prep_others] at hrel
  refine ⟨_, Resolves.of_stages hwf hr (fun x hx => List.mem_append_right _ (mem_eventMap hx)) hsc hsu hctl hoth hothN
    (reverseTopoAuth_is_power_order _) (fun hac => mainline_eq_spec hac) (fun hac => mainlineOrdering_eq_spec hac),
    fun id => ?_⟩
  rw [V.StateRes.resolveV2New_result, finalState_eq_stateS4]
  exact result_ids_iff (stateS4_wf algo _ rejected).nodup hrel id

end V.StateResSpec
