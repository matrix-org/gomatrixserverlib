/-
  Version 1 state resolution, the phases: `resolveV1` as five auth phases over the groups of the conflicted events plus
  the normal blocks, the classes of keys being the fibres of the definition's `v1Phase`; every result is a conflicted event,
  and the results have pairwise distinct (type, state_key).
-/
import VProofs.StateResV1d
import VProofs.StateResGroup
import VModel.StateResSpec
namespace V.StateRes

/-- the block with this type and state key "" -/
def pSingle (t : Bytes) (K : Bytes × Bytes) : Bool := K == (t, [])

def pSpecial (K : Bytes × Bytes) : Bool :=
  K == (b!"m.room.create", []) || K == (b!"m.room.power_levels", []) || K == (b!"m.room.join_rules", [])

def pTpi (K : Bytes × Bytes) : Bool := !pSpecial K && K.1 == b!"m.room.third_party_invite"
def pMember (K : Bytes × Bytes) : Bool := !pSpecial K && K.1 == b!"m.room.member"
def pOther (K : Bytes × Bytes) : Bool := !pSpecial K && !(K.1 == b!"m.room.third_party_invite") && !(K.1 == b!"m.room.member")

/-- the groups of the conflicted events whose key satisfies `p`, as blocks -/
def phaseBlocks (conflicted : List Event) (p : Bytes × Bytes → Bool) : List (List Event) :=
  ((groupByKey conflicted).filter (fun g => p g.1)).map (·.2)

/-- `valid`: the supplied auth events are all in one room -/
def v1Valid (auth : List Event) : Bool :=
  decide ((auth.foldl (fun acc (e : Event) => if acc.contains e.roomID then acc else acc ++ [e.roomID]) ([] : List Bytes)).length ≤ 1)

/-- the resolver state after `addAuthEvent` for the supplied auth events -/
def v1S0 (auth : List Event) : V1State := auth.foldl V1State.addAuthEvent {}

/-- one auth phase as the model runs it -/
def phaseRun (sha : ID → Bytes) (valid : Bool) (conflicted : List Event) (p : Bytes × Bytes → Bool) (s : V1State) :
    V1State × List Event :=
  resolveAndAddAuthBlocks sha valid s (phaseBlocks conflicted p)

/-- `creates`, `powerLevels`, `joinRules` are single lists in the Go code: the flattened (at most one) group -/
def phaseRunFlat (sha : ID → Bytes) (valid : Bool) (conflicted : List Event) (p : Bytes × Bytes → Bool) (s : V1State) :
    V1State × List Event :=
  resolveAndAddAuthBlocks sha valid s [(phaseBlocks conflicted p).flatten]

theorem resolveV1_eq_flat (sha : ID → Bytes) (conflicted auth : List Event) :
    resolveV1 sha conflicted auth =
      let valid := v1Valid auth
      let a1 := phaseRunFlat sha valid conflicted (pSingle b!"m.room.create") (v1S0 auth)
      let a2 := phaseRunFlat sha valid conflicted (pSingle b!"m.room.power_levels") a1.1
      let a3 := phaseRunFlat sha valid conflicted (pSingle b!"m.room.join_rules") a2.1
      let a4 := phaseRun sha valid conflicted pTpi a3.1
      let a5 := phaseRun sha valid conflicted pMember a4.1
      a1.2 ++ a2.2 ++ a3.2 ++ a4.2 ++ a5.2 ++ (phaseBlocks conflicted pOther).filterMap (resolveNormalBlock sha valid a5.1) := by
  unfold resolveV1
  simp only [phaseRunFlat, phaseRun, phaseBlocks, v1Valid, v1S0, pSingle, pTpi, pMember, pOther, pSpecial]

theorem phaseBlocks_single_length (conflicted : List Event) (t : Bytes) :
    (phaseBlocks conflicted (pSingle t)).length ≤ 1 := by
  unfold phaseBlocks pSingle
  rw [List.length_map]
  exact Lists.filter_key_length_le_one _ (groupByKey_keys_nodup conflicted) (t, [])

theorem resolveAndAdd_flat (sha : ID → Bytes) (valid : Bool) (s : V1State) {l : List (List Event)} (hl : l.length ≤ 1) :
    resolveAndAddAuthBlocks sha valid s [l.flatten] = resolveAndAddAuthBlocks sha valid s l := by
  match l, hl with
  | [], _ => rfl
  | [b], _ => simp
  | _ :: _ :: _, hl => simp at hl

theorem phaseRunFlat_eq (sha : ID → Bytes) (valid : Bool) (conflicted : List Event) (t : Bytes) (s : V1State) :
    phaseRunFlat sha valid conflicted (pSingle t) s = phaseRun sha valid conflicted (pSingle t) s :=
  resolveAndAdd_flat sha valid s (phaseBlocks_single_length conflicted t)

/-! ## the six key classes are the fibres of `v1Phase` -/

theorem beq_key_excl {K : Bytes × Bytes} {t t' : Bytes} (hne : t ≠ t') (h : (K == (t, ([] : Bytes))) = true) :
    (K == (t', ([] : Bytes))) = false := by
  have h1 : K = (t, []) := eq_of_beq h
  rw [Bool.eq_false_iff]; intro h2
  have h3 : K = (t', []) := eq_of_beq h2
  rw [h1] at h3
  exact hne (Prod.mk.inj h3).1

theorem beq_fst_excl {K : Bytes × Bytes} {t t' : Bytes} (hne : t ≠ t') (h : (K.1 == t) = true) : (K.1 == t') = false := by
  have h1 : K.1 = t := eq_of_beq h
  rw [Bool.eq_false_iff]; intro h2
  exact hne (h1.symm.trans (eq_of_beq h2))

/-- the value of a five-fold `if` chain, read off its conditions, when the first three exclude each other and the
    fourth excludes the fifth -/
theorem phase_chain : ∀ a b c d e : Bool, (a = true → b = false) → (a = true → c = false) → (b = true → c = false) →
    (d = true → e = false) →
    let n : Nat := if a then 0 else if b then 1 else if c then 2 else if d then 3 else if e then 4 else 5
    a = (n == 0) ∧ b = (n == 1) ∧ c = (n == 2) ∧ (!(a || b || c) && d) = (n == 3) ∧
    (!(a || b || c) && e) = (n == 4) ∧ (!(a || b || c) && !d && !e) = (n == 5) := by decide

/-- the keys of phase `n` of the definition (`StateResSpec.v1Phase`) -/
def fibre (n : Nat) (K : Bytes × Bytes) : Bool := StateResSpec.v1Phase K == n

/-- the classes of keys of the model's resolver are the phases of the definition: `v1Phase` is such an `if` chain
    over the conditions the classes are made of -/
theorem v1Phase_classes : pSingle b!"m.room.create" = fibre 0 ∧ pSingle b!"m.room.power_levels" = fibre 1 ∧
    pSingle b!"m.room.join_rules" = fibre 2 ∧ pTpi = fibre 3 ∧ pMember = fibre 4 ∧ pOther = fibre 5 := by
  have h := fun k : Bytes × Bytes => phase_chain _ _ _ (k.1 == b!"m.room.third_party_invite") (k.1 == b!"m.room.member")
    (beq_key_excl (K := k) ne_create_pl) (beq_key_excl ne_create_jr) (beq_key_excl ne_pl_jr) (beq_fst_excl ne_member_tpi.symm)
  exact ⟨funext fun k => (h k).1, funext fun k => (h k).2.1, funext fun k => (h k).2.2.1, funext fun k => (h k).2.2.2.1,
    funext fun k => (h k).2.2.2.2.1, funext fun k => (h k).2.2.2.2.2⟩

theorem v1Phase_lt (k : Bytes × Bytes) : StateResSpec.v1Phase k < 6 := by
  unfold StateResSpec.v1Phase; grind

/-- a sequence of auth phases -/
def runPhases (sha : ID → Bytes) (valid : Bool) (conflicted : List Event) :
    List (Bytes × Bytes → Bool) → V1State → V1State × List Event
  | [], s => (s, [])
  | p :: ps, s =>
    ((runPhases sha valid conflicted ps (phaseRun sha valid conflicted p s).1).1,
      (phaseRun sha valid conflicted p s).2 ++ (runPhases sha valid conflicted ps (phaseRun sha valid conflicted p s).1).2)

theorem resolveV1_eq (sha : ID → Bytes) (conflicted auth : List Event) :
    resolveV1 sha conflicted auth =
      (runPhases sha (v1Valid auth) conflicted ((List.range 5).map fibre) (v1S0 auth)).2 ++
        (phaseBlocks conflicted (fibre 5)).filterMap
          (resolveNormalBlock sha (v1Valid auth) (runPhases sha (v1Valid auth) conflicted ((List.range 5).map fibre) (v1S0 auth)).1) := by
  obtain ⟨h0, h1, h2, h3, h4, h5⟩ := v1Phase_classes
  rw [resolveV1_eq_flat]
  -- `phaseRunFlat_eq` speaks of `pSingle t`: it has to fire before the classes are rewritten to fibres
  simp only [phaseRunFlat_eq]
  simp only [h0, h1, h2, h3, h4, h5, show List.range 5 = [0, 1, 2, 3, 4] from rfl, List.map, runPhases, List.append_assoc,
    List.append_nil]

/-- the five auth phases of `resolveV1` -/
def v1Phases : List (Bytes × Bytes → Bool) :=
  [pSingle b!"m.room.create", pSingle b!"m.room.power_levels", pSingle b!"m.room.join_rules", pTpi, pMember]

theorem nodup_flatMap_fibres {α} {L : List α} (hL : L.Nodup) (f : α → Nat) (n : Nat) :
    ((List.range n).flatMap (fun i => L.filter (fun x => f x == i))).Nodup ∧
      ∀ a ∈ (List.range n).flatMap (fun i => L.filter (fun x => f x == i)), f a < n := by
  induction n with
  | zero => simp
  | succ n ih =>
    rw [List.range_succ, List.flatMap_append, List.flatMap_singleton]
    refine ⟨List.nodup_append.mpr ⟨ih.1, hL.sublist List.filter_sublist, ?_⟩, ?_⟩
    · intro a ha b hb hab
      subst hab
      have := ih.2 a ha
      have := eq_of_beq (List.mem_filter.mp hb).2
      omega
    · intro a ha
      rcases List.mem_append.mp ha with h | h
      · have := ih.2 a h; omega
      · have := eq_of_beq (List.mem_filter.mp h).2; omega

/-! ## every result is a conflicted event; one result per conflicted (type, state_key) -/

/-- the groups in the order the resolver works through them -/
def v1Groups (conflicted : List Event) : List ((Bytes × Bytes) × List Event) :=
  (List.range 6).flatMap (fun n => (groupByKey conflicted).filter (fun g => fibre n g.1))

theorem mem_v1Groups {conflicted : List Event} {g : (Bytes × Bytes) × List Event} :
    g ∈ v1Groups conflicted ↔ g ∈ groupByKey conflicted := by
  unfold v1Groups
  rw [List.mem_flatMap]
  constructor
  · rintro ⟨n, _, hg⟩; exact (List.mem_filter.mp hg).1
  · intro h
    exact ⟨StateResSpec.v1Phase g.1, List.mem_range.mpr (v1Phase_lt g.1), List.mem_filter.mpr ⟨h, beq_self_eq_true _⟩⟩

theorem v1Groups_keys_nodup (conflicted : List Event) : ((v1Groups conflicted).map (·.1)).Nodup := by
  have h := (nodup_flatMap_fibres (groupByKey_keys_nodup conflicted) StateResSpec.v1Phase 6).1
  unfold v1Groups
  rw [List.map_flatMap]
  have e : ∀ n, ((groupByKey conflicted).filter (fun g => fibre n g.1)).map (·.1) =
      ((groupByKey conflicted).map (·.1)).filter (fun K => StateResSpec.v1Phase K == n) := by
    intro n; rw [List.filter_map]; rfl
  simpa only [e] using h

theorem runPhases_picks (sha : ID → Bytes) (valid : Bool) (conflicted : List Event) (ps : List (Bytes × Bytes → Bool))
    (s : V1State) : Picks (ps.flatMap (phaseBlocks conflicted)) (runPhases sha valid conflicted ps s).2 := by
  induction ps generalizing s with
  | nil => exact .nil
  | cons p ps ih => exact (resolveAndAddAuthBlocks_picks _ _ _ _).append (ih _)

theorem resolveV1_picks (sha : ID → Bytes) (conflicted auth : List Event) :
    Picks ((v1Groups conflicted).map (·.2)) (resolveV1 sha conflicted auth) := by
  have h : (v1Groups conflicted).map (·.2) =
      ((List.range 5).map fibre).flatMap (phaseBlocks conflicted) ++ phaseBlocks conflicted (fibre 5) := by
    simp only [v1Groups, phaseBlocks, show List.range 6 = [0, 1, 2, 3, 4, 5] from rfl, show List.range 5 = [0, 1, 2, 3, 4] from rfl,
      List.map, List.flatMap_cons, List.flatMap_nil, List.append_nil, List.map_append, List.append_assoc]
  rw [resolveV1_eq, h]
  exact (runPhases_picks ..).append (resolveNormal_picks ..)

theorem resolveV1_keys (sha : ID → Bytes) (conflicted auth : List Event) :
    (resolveV1 sha conflicted auth).map keyOf = (v1Groups conflicted).map (·.1) := by
  refine Picks.map_key ?_ (resolveV1_picks sha conflicted auth)
  intro g hg
  have hg' := mem_v1Groups.mp hg
  exact ⟨(groupByKey_group hg').2, fun e he => ((groupByKey_mem hg').mp he).2.2⟩

theorem v1_result_subset_inputs {sha : ID → Bytes} {conflicted auth : List Event} {e : Event}
    (h : e ∈ resolveV1 sha conflicted auth) : e ∈ conflicted ∧ e.stateKey.isSome := by
  obtain ⟨b, hb, heb⟩ := (resolveV1_picks sha conflicted auth).mem h
  obtain ⟨g, hg, rfl⟩ := List.mem_map.mp hb
  have := (groupByKey_mem (mem_v1Groups.mp hg)).mp heb
  exact ⟨this.1, this.2.1⟩

theorem v1_result_unique_keys (sha : ID → Bytes) (conflicted auth : List Event) :
    ((resolveV1 sha conflicted auth).map keyOf).Nodup := by
  rw [resolveV1_keys]; exact v1Groups_keys_nodup conflicted

theorem v1_result_keys_complete (sha : ID → Bytes) (conflicted auth : List Event) (K : Bytes × Bytes) :
    K ∈ (resolveV1 sha conflicted auth).map keyOf ↔ ∃ e ∈ conflicted, e.stateKey.isSome ∧ keyOf e = K := by
  rw [resolveV1_keys]
  simp only [List.mem_map]
  constructor
  · rintro ⟨g, hg, rfl⟩
    have hg' := mem_v1Groups.mp hg
    obtain ⟨e, he⟩ := List.exists_mem_of_ne_nil _ (groupByKey_group hg').2
    exact ⟨e, (groupByKey_mem hg').mp he⟩
  · rintro ⟨e, he, hs, rfl⟩
    obtain ⟨g, hg, hk⟩ := groupByKey_complete he hs
    exact ⟨g, mem_v1Groups.mpr hg, hk⟩

end V.StateRes
