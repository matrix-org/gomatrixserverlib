/-
  The guards of the model (room-ID comparison with the create content, the regenerated
  version table) dominate every panic site reachable from `Allowed` (also used by C18).

  `NoPanic` is pushed through a check by the simp set `np` (`np_bind_iff`, `np_ite_iff` and the leaf rules): a call
  `simp only [np, …]` names, besides the set, the facts about the guarded sites this check needs, and leaves the
  `match`es of the check, which `split` enters.
-/
import VProofs.AuthRulesMember
import VProofs.AuthRulesEvents
import VModel.AuthQuerier
import VProofs.NpAttr
namespace V.AuthRules
open V V.Json V.GoJson V.Auth

/-- the computation does not end in a (modelled) Go panic -/
structure NoPanic {α} (r : R α) : Prop where
  h : ∀ site, r ≠ .error (.panic site)

theorem np_ok {α} (x : α) : NoPanic (.ok x : R α) := ⟨fun _ h => by cases h⟩
theorem np_pure {α} (x : α) : NoPanic (pure x : R α) := ⟨fun _ h => by cases h⟩
theorem np_na {α} : NoPanic (notAllowed : R α) := ⟨fun _ h => by cases h⟩
theorem np_fail {α} : NoPanic (failErr : R α) := ⟨fun _ h => by cases h⟩
theorem np_unm {α} (w : String) : NoPanic (.error (.unmodelled w) : R α) := ⟨fun _ h => by cases h⟩
theorem np_bind {α β} {x : R α} {f : α → R β} (hx : NoPanic x) (hf : ∀ a, x = .ok a → NoPanic (f a)) : NoPanic (x >>= f) := by
  cases x with
  | ok a => exact hf a rfl
  | error v => exact ⟨fun s h => hx.h s (by cases h; rfl)⟩
theorem np_ite {α} {c : Prop} [Decidable c] {a b : R α} (ha : NoPanic a) (hb : NoPanic b) : NoPanic (if c then a else b) := by
  split <;> assumption

@[np] theorem np_bind_iff {α β} {x : R α} {f : α → R β} : NoPanic (x >>= f) ↔ NoPanic x ∧ ∀ a, x = .ok a → NoPanic (f a) := by
  refine ⟨fun h => ?_, fun h => np_bind h.1 h.2⟩
  cases x with
  | ok a => exact ⟨np_ok _, fun a' ha => by cases ha; exact h⟩
  | error v => exact ⟨⟨fun s hs => h.h s (by cases hs; rfl)⟩, nofun⟩
@[np] theorem np_ite_iff {α} {c : Prop} [Decidable c] {a b : R α} : NoPanic (if c then a else b) ↔ (c → NoPanic a) ∧ (¬ c → NoPanic b) := by
  split <;> simp [*]

attribute [np] np_ok np_pure np_na np_fail np_unm implies_true and_self true_and

/-- an error handed on unchanged (`| .error v => .error v`) -/
theorem np_error_of {α β} {x : R α} {v : Verdict} (hx : NoPanic x) (h : x = .error v) : NoPanic (.error v : R β) :=
  ⟨fun site hs => hx.h site (by cases hs; exact h)⟩

theorem verdictOf_ne_panic {r : R Unit} (h : NoPanic r) (site : String) : verdictOf r ≠ .panic site := by
  cases r with
  | ok u => intro h'; cases h'
  | error v => exact fun h' => h.h site (congrArg Except.error h')

theorem np_resolveUser (s : Bytes) : NoPanic (resolveUser s) := by
  unfold resolveUser
  split <;> simp only [np]

theorem np_domainAllowed (c : CreateContent) (d : Bytes) : NoPanic (c.domainAllowed d) := by
  unfold CreateContent.domainAllowed
  refine np_ite (np_ok _) ?_
  split <;> simp only [np]

theorem np_userPowerLevel (c : Ctx) (u : Bytes) (h : c.createEvent.isSome = true) : NoPanic (c.userPowerLevel u) := by
  rw [userPowerLevel_eq c u h]; exact np_ok _

theorem commonChecks_mismatch (c : Ctx) (m : MemberContent) (e : Event) (h : (e.roomID != c.create.roomID) = true) :
    c.commonChecks m e = notAllowed := by
  unfold Ctx.commonChecks
  simp only [h, if_true, notAllowed_bind]

/-- a room-ID mismatch is refused first; past it the create event is there, so the sender's level can be read -/
theorem np_commonChecks (c : Ctx) (p : Provider) (hf : Fresh p c) (m : MemberContent) (e : Event) (hr : e.roomID ≠ []) :
    NoPanic (c.commonChecks m e) := by
  by_cases hroom : (e.roomID != c.create.roomID) = true
  · rw [commonChecks_mismatch c m e hroom]; exact np_na
  · unfold Ctx.commonChecks
    have hroom' : (e.roomID != c.create.roomID) = false := Bool.eq_false_iff.mpr hroom
    have := np_userPowerLevel c e.sender (createPresent_of hf hr hroom')
    simp only [hroom', Bool.false_eq_true, if_false, notAllowed_bind]
    refine np_bind (np_resolveUser _) fun _ _ => np_bind (np_domainAllowed _ _) fun _ _ => ?_
    simp only [np, this]
    intros
    split <;> simp only [np]

theorem np_decodeMemberContent (cnt : Option JVal) : NoPanic (decodeMemberContent cnt) := by
  unfold decodeMemberContent
  split <;> simp only [np]

theorem np_memberFromProvider (p : Provider) (u : Bytes) : NoPanic (memberFromProvider p u) := by
  unfold memberFromProvider
  split <;> simp only [np, np_decodeMemberContent]

theorem np_parsePowerLevels (cnt : Option JVal) (d : PowerLevels) : NoPanic (parsePowerLevels cnt d) :=
  ⟨fun _ h => by rcases parsePowerLevels_error h with h | ⟨_, h⟩ <;> cases h⟩

theorem np_powerLevelsFromEvent (e : Event) : NoPanic (powerLevelsFromEvent e) :=
  ⟨fun _ h => by rcases powerLevelsFromEvent_error h with h | h | ⟨_, h⟩ <;> cases h⟩

theorem np_checkPowerLevelEvent (c : Ctx) (e : Event) (old new : PowerLevels) (h : c.createEvent.isSome = true) :
    NoPanic (c.checkPowerLevelEvent e old new) := by
  unfold Ctx.checkPowerLevelEvent
  cases hce : c.createEvent with
  | none => simp [hce] at h
  | some ce =>
    simp only
    split <;> simp only [np]
    intros
    split <;> simp only [np]

theorem np_default (c : Ctx) (p : Provider) (hf : Fresh p c) (e : Event) (hr : e.roomID ≠ []) :
    NoPanic (c.defaultEventAllowed e) :=
  np_bind (np_memberFromProvider _ _) fun _ _ => np_commonChecks c p hf _ e hr

/-- the checks that follow `commonChecks` in the power-levels and redaction checks run only when the room IDs agree, so
    with the create event present -/
theorem np_afterCommon (c : Ctx) (p : Provider) (hf : Fresh p c) (e : Event) (hr : e.roomID ≠ []) {k : Unit → R Unit}
    (hk : c.createEvent.isSome = true → ∀ u, NoPanic (k u)) :
    NoPanic (memberFromProvider c.provider e.sender >>= fun member => c.commonChecks member e >>= k) := by
  refine np_bind (np_memberFromProvider _ _) fun m _ => ?_
  by_cases hroom : (e.roomID != c.create.roomID) = true
  · rw [commonChecks_mismatch c m e hroom]; exact np_na
  · exact np_bind (np_commonChecks c p hf m e hr) fun u _ => hk (createPresent_of hf hr (by simpa using hroom)) u

theorem np_powerLevels (c : Ctx) (p : Provider) (hf : Fresh p c) (e : Event) (hr : e.roomID ≠ []) :
    NoPanic (c.powerLevelsEventAllowed e) := by
  unfold Ctx.powerLevelsEventAllowed
  refine np_afterCommon c p hf e hr fun hce _ => ?_
  simp only [np, np_powerLevelsFromEvent e, np_userPowerLevel c e.sender hce, np_checkPowerLevelEvent c e _ _ hce]

theorem np_redact (c : Ctx) (p : Provider) (hf : Fresh p c) (e : Event) (hr : e.roomID ≠ []) :
    NoPanic (c.redactEventAllowed e) := by
  unfold Ctx.redactEventAllowed
  refine np_afterCommon c p hf e hr fun hce _ => ?_
  split <;> split <;> simp only [np, np_resolveUser, np_userPowerLevel c e.sender hce]

/-- the room ID of a create event has a domain part unless the version's room IDs are domainless (what the event
    constructors guarantee) -/
def RoomIDWellFormed (e : Event) : Prop :=
  ∀ row, e.row = some row → row.checkCreateEvent ≠ "checkCreateEventV3" → (domainFromID (e.roomID.drop 1)).isSome = true

theorem np_checkCreateEvent (e : Event) (u : UserID) (hw : RoomIDWellFormed e) : NoPanic (checkCreateEvent e u) := by
  unfold checkCreateEvent
  cases hrow : e.row with
  | none => exact np_ok _
  | some row =>
    simp only
    by_cases h3 : row.checkCreateEvent = "checkCreateEventV3"
    · -- the version whose room IDs have no domain part: its check does not ask for it
      have e1 : ("checkCreateEventV3" == "checkCreateEventV1") = false := by decide
      have e2 : ("checkCreateEventV3" == "checkCreateEventV2") = false := by decide
      simp only [h3, e1, e2, Bool.false_eq_true, if_false, beq_self_eq_true, if_true]
      split
      · exact np_na
      · split <;> simp only [np]
    · -- every other version: the room ID has one, so the site in `domainCheck` is not reached
      obtain ⟨dom, hd⟩ := Option.isSome_iff_exists.mp (hw row hrow h3)
      have h3' : (row.checkCreateEvent == "checkCreateEventV3") = false := by simpa using h3
      simp only [np, hd, h3', and_true, Bool.false_eq_true, false_implies]
      refine ⟨fun _ _ _ => ?_, fun _ _ _ _ => ?_⟩
      · split <;> simp only [np]
        intros
        split <;> simp only [np]
      · split <;> simp only [np]
        intros
        split <;> simp only [np]

theorem np_checkKnocking (row : VGen.VersionRow) (jr old : Bytes) : NoPanic (checkKnockingAllowed row jr old) := by
  unfold checkKnockingAllowed
  simp only [np]

theorem np_restrictedJoin (m : MembershipAllower) (sv : SpecVersion) (hri : RowIs m.row sv)
    (hce : m.ctx.createEvent.isSome = true) : NoPanic m.restrictedJoin := by
  unfold MembershipAllower.restrictedJoin
  have e1 : ("allowRestrictedJoins" == "") = false := by decide
  have e2 : ("disallowRestrictedJoins" == "") = false := by decide
  have hne : (m.row.checkRestrictedJoinAllowedFunc == "") = false := by
    rw [hri.restricted]; cases sv.restricted <;> simp [e1, e2]
  simp only [hne, Bool.false_eq_true, if_false, notAllowed_bind, error_bind]
  -- the lookup of the authorising user comes twice: behind the user-ID test and, in pseudo-ID rooms, without it
  refine np_ite np_na (np_ite (np_unm _) (np_ite (np_pure _) (np_ite (np_ite np_na ?_) ?_)))
  all_goals
    split
    · exact np_na
    · split
      · exact np_na
      · exact np_ite np_na (np_bind (np_userPowerLevel _ _ hce) fun _ _ => np_ite np_na (np_pure _))

theorem np_allowedSelf (m : MembershipAllower) (sv : SpecVersion) (hri : RowIs m.row sv)
    (hce : m.ctx.createEvent.isSome = true) : NoPanic m.allowedSelf := by
  rw [allowedSelf_model]
  simp only [np, np_checkKnocking, np_restrictedJoin m sv hri hce]

theorem np_allowedOther (m : MembershipAllower) (hce : m.ctx.createEvent.isSome = true) : NoPanic m.allowedOther := by
  unfold MembershipAllower.allowedOther
  simp only [np, notAllowed_bind, np_userPowerLevel _ _ hce]

theorem np_member (c : Ctx) (p : Provider) (hf : Fresh p c) (e : Event) (sig : Bool) (hr : e.roomID ≠ []) :
    NoPanic (c.memberEventAllowed e sig) := by
  unfold Ctx.memberEventAllowed
  refine np_bind (by split; exact np_pure _; exact np_fail) fun row hrow => np_bind (by split; exact np_pure _; exact np_na) fun target _ =>
    np_bind (np_decodeMemberContent _) fun nm _ => np_bind (np_memberFromProvider _ _) fun om _ =>
    np_bind (np_memberFromProvider _ _) fun sm _ => np_bind (by split; exact np_pure _; refine np_ite (np_pure _) (np_ite np_na ?_); split; exact np_na; split; exact np_na; exact np_pure _) fun tk _ => ?_
  dsimp only
  by_cases hroom : (c.create.roomID != e.roomID) = true
  · simp only [hroom, if_true, notAllowed_bind]; exact np_na
  · -- the room IDs agree: the create event is there
    have hce : c.createEvent.isSome = true := by
      refine createPresent_of hf hr ?_
      have : c.create.roomID = e.roomID := by simpa using hroom
      simp [this]
    have hrow' : e.row = some row := by
      cases h : e.row with
      | none => rw [h] at hrow; cases hrow
      | some r => rw [h] at hrow; cases hrow; rfl
    obtain ⟨sv, _, hri⟩ := rowIs_of (ver := e.ver) (row := row) hrow'
    simp only [hroom, if_false, Bool.false_eq_true]
    refine np_bind (by
      split
      · refine np_ite ?_ (np_resolveUser _)
        split <;> simp only [np]
      · exact np_resolveUser _) fun sender _ =>
      np_bind (np_domainAllowed _ _) fun _ _ => ?_
    cases hcev : c.createEvent with
    | none => simp [hcev] at hce
    | some ce =>
      simp only [notAllowed_bind]
      refine np_ite (np_pure _) (np_ite ?_ (np_ite (np_allowedSelf _ sv hri hce) (np_allowedOther _ hce)))
      split
      · exact np_na
      · exact np_ite np_na (np_ite (np_pure _) np_na)

/-- the dispatch by event type behind the `Valid()` test, whatever the create and aliases checks are: `Ctx.allowed` and
    `Ctx.allowedNilQ` unfold to this, with their two checks for `x` and `y` -/
theorem np_gates (c : Ctx) (p : Provider) (hf : Fresh p c) (e : Event) (sig : Bool) (hr : e.roomID ≠ []) {x y : R Unit}
    (hx : NoPanic x) (hy : NoPanic y) :
    NoPanic (if !c.provider.valid then notAllowed
      else if e.type == b!"m.room.create" then x
      else if e.type == b!"m.room.aliases" then y
      else match c.plErr with
        | some v => .error v
        | none => c.dispatchPL e sig) := by
  refine np_ite np_na (np_ite hx (np_ite hy ?_))
  cases hpe : c.plErr with
  | some v =>
    rcases (plErr_spec hf).2 v hpe with rfl | rfl
    · exact np_na
    · exact np_fail
  | none =>
    exact np_ite (np_member c p hf e sig hr) (np_ite (np_powerLevels c p hf e hr) (np_ite (np_redact c p hf e hr)
      (np_default c p hf e hr)))

/-! ## The sender lookup with any querier

`Ctx.createEventAllowedQ q` / `Ctx.aliasEventAllowedQ q` are the two checks with the context's querier as a parameter; the
`(nil, nil)` answer is the `none` branch, refused since the fix (before it: a nil dereference).  With the standard
querier they are the functions every other theorem is about; with ANY querier that does not itself panic they do not
panic; `Ctx.allowedNilQ` is the whole check with the querier that answers `(nil, nil)` for a sender that is no user ID. -/

theorem createEventAllowedQ_std (c : Ctx) (e : Event) : c.createEventAllowedQ stdQuerier e = c.createEventAllowed e := by
  unfold Ctx.createEventAllowedQ Ctx.createEventAllowed stdQuerier
  cases resolveUser e.sender <;> rfl

theorem aliasEventAllowedQ_std (c : Ctx) (e : Event) : c.aliasEventAllowedQ stdQuerier e = c.aliasEventAllowed e := by
  unfold Ctx.aliasEventAllowedQ Ctx.aliasEventAllowed stdQuerier
  cases resolveUser e.sender <;> rfl

theorem np_stdQuerier (s : Bytes) : NoPanic (stdQuerier s) := by
  unfold stdQuerier
  split
  · exact np_ok _
  · exact np_error_of (np_resolveUser s) ‹_›

theorem np_nilQuerier (s : Bytes) : NoPanic (nilQuerier s) := by
  unfold nilQuerier
  split
  · exact np_ok _
  · exact np_ok _
  · exact np_error_of (np_resolveUser s) ‹_›

/-- the create check: no querier answer — `(nil, nil)` included — reaches a panic site -/
theorem np_createQ (q : Querier) (hq : ∀ s, NoPanic (q s)) (c : Ctx) (e : Event) (hw : RoomIDWellFormed e) :
    NoPanic (c.createEventAllowedQ q e) := by
  unfold Ctx.createEventAllowedQ
  simp only [np, notAllowed_bind, hq]
  intro _ _ o _
  split
  · exact np_na
  · exact np_checkCreateEvent e _ hw

theorem np_aliasesQ (q : Querier) (hq : ∀ s, NoPanic (q s)) (c : Ctx) (e : Event) : NoPanic (c.aliasEventAllowedQ q e) := by
  unfold Ctx.aliasEventAllowedQ
  refine np_bind (hq _) fun o _ => ?_
  split
  · exact np_na
  · simp only [np, notAllowed_bind, np_domainAllowed]

/-- a `(nil, nil)` answer refuses the event in both checks (what the repaired code does; the unrepaired code
    dereferenced the nil pointer here) -/
theorem createQ_nil_refused (q : Querier) (c : Ctx) (e : Event) (hq : q e.sender = .ok none)
    (h1 : e.stateKeyEquals [] = true) (h2 : ¬ e.prevEventIDs.length > 0) :
    c.createEventAllowedQ q e = notAllowed := by
  unfold Ctx.createEventAllowedQ
  simp [h1, h2, hq, bind, Except.bind]

theorem aliasesQ_nil_refused (q : Querier) (c : Ctx) (e : Event) (hq : q e.sender = .ok none) :
    c.aliasEventAllowedQ q e = notAllowed := by
  unfold Ctx.aliasEventAllowedQ
  simp [hq, bind, Except.bind]

theorem np_create (c : Ctx) (e : Event) (hw : RoomIDWellFormed e) : NoPanic (c.createEventAllowed e) :=
  createEventAllowedQ_std c e ▸ np_createQ stdQuerier np_stdQuerier c e hw

theorem np_aliases (c : Ctx) (e : Event) : NoPanic (c.aliasEventAllowed e) :=
  aliasEventAllowedQ_std c e ▸ np_aliasesQ stdQuerier np_stdQuerier c e

theorem np_allowed (c : Ctx) (p : Provider) (hf : Fresh p c) (e : Event) (sig : Bool) (hr : e.roomID ≠ [])
    (hw : RoomIDWellFormed e) : NoPanic (c.allowed e sig) :=
  np_gates c p hf e sig hr (np_create c e hw) (np_aliases c e)

theorem np_allowedNilQ (c : Ctx) (p : Provider) (hf : Fresh p c) (e : Event) (sig : Bool) (hr : e.roomID ≠ [])
    (hw : RoomIDWellFormed e) : NoPanic (c.allowedNilQ e sig) :=
  np_gates c p hf e sig hr (np_createQ nilQuerier np_nilQuerier c e hw) (np_aliasesQ nilQuerier np_nilQuerier c e)

/-- the verdict of a check run on the context `update` builds for a provider: `update` fails with `unmodelled` only -/
theorem freshVerdict_np {p : Provider} {k : Ctx → R Unit} (hk : ∀ c, Fresh p c → NoPanic (k c)) (site : String) :
    (match C09.freshOf p with
      | .error v => v
      | .ok c => verdictOf (k c)) ≠ .panic site := by
  cases hfo : C09.freshOf p with
  | error v => obtain ⟨w, rfl⟩ := freshOf_error hfo; nofun
  | ok c => exact verdictOf_ne_panic (hk c (fresh_of hfo)) site

theorem allowedFreshNoValid_np {e : Event} (hr : e.roomID ≠ []) (hw : RoomIDWellFormed e) (p : Provider) (sig : Bool) (site : String) :
    allowedFreshNoValid e p sig ≠ .panic site := by
  rw [allowedFreshNoValid_freshOf]
  exact freshVerdict_np (fun c hf => np_allowed c p hf e sig hr hw) site

theorem allowedFresh_np {e : Event} (hr : e.roomID ≠ []) (hw : RoomIDWellFormed e) (p : Provider) (sig : Bool) (site : String) :
    allowedFresh e p sig ≠ .panic site := by
  rw [allowedFresh_eq]
  split
  · nofun
  · exact allowedFreshNoValid_np hr hw p sig site

end V.AuthRules
