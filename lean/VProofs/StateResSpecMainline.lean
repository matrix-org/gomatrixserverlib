/-
  C10, mainline stages: the model (`createMainline`, `mainlinePos`, `firstMainline`, `otherKey`,
  `mainlineOrdering` of VModel.StateRes) computes what VModel.StateResSpec defines (`IsMainline`, `posOf`,
  `MainlinePosSteps`, `IsMainlineOrder`), for an acyclic auth map; each of the definitions determines its
  output.  The fuel of the model's loops is justified by a depth bound obtained from acyclicity (pigeonhole).
  The model's two recursions carry the cycle guard of the code (`path` = the events the iterator is inside of); on an
  acyclic auth map the guard never fires (`guard_silent`), so they equal the plain recursions `mainlineIterU` /
  `firstMainlineU` the definition describes, about which the rest of the file reasons.
-/
import VModel.StateResSpec
import VProofs.StateResSort
import VProofs.StateResBasic
import VProofs.StateResSpecClosure
import VProofs.StateResSpecOrder
namespace V.StateResSpec
open V.StateRes (ID findByID isPLEvent mainlineIter createMainline mainlinePos firstMainline otherKey otherLt
  OtherKey mainlineOrdering findByID_some SortedBy KeyInj sorted_unique otherLt_strictTotal)

/-- `StateRes.mainlineIter` without the `path` guard -/
def mainlineIterU (authMap : List Event) : Nat → Event → List Event → List Event
  | 0, _, acc => acc
  | fuel + 1, e, acc =>
    (e.authEventIDs.filterMap (findByID authMap)).foldl
      (fun a p => if isPLEvent p then mainlineIterU authMap fuel p a else a) (e :: acc)

/-- `StateRes.firstMainline` without the `path` guard -/
def firstMainlineU (authMap mainline : List Event) : Nat → Event → Nat × Nat → Nat × Nat
  | 0, _, st => st
  | fuel + 1, e, st =>
    let rec go (ps : List Event) (st : Nat × Nat) : Nat × Nat :=
      match ps with
      | [] => st
      | p :: rest =>
        if !isPLEvent p then go rest st
        else match mainlinePos mainline p.eventID with
          | some pos => (pos, st.2)
          | none => go rest (firstMainlineU authMap mainline fuel p (st.1, st.2 + 1))
    go (e.authEventIDs.filterMap (findByID authMap)) st

variable {m ml : List Event}

theorem authEventsOf_eq (m : List Event) (e : Event) :
    authEventsOf m e = e.authEventIDs.filterMap (findByID m) := rfl

theorem plParents_eq (m : List Event) (e : Event) :
    plParents m e = (e.authEventIDs.filterMap (findByID m)).filter isPLEvent := rfl

theorem mem_plParents {e p : Event} (h : p ∈ plParents m e) : AuthEdge (· ∈ m) e p ∧ isPLEvent p = true := by
  unfold plParents at h
  rw [List.mem_filter] at h
  exact ⟨edge_of_authParents h.1, h.2⟩

/-- every chain of power-levels auth events starting at `e` has fewer than `n` links after `e` -/
inductive DepthLE (m : List Event) : Event → Nat → Prop
  | mk {e : Event} {n : Nat} : (∀ p ∈ plParents m e, DepthLE m p n) → DepthLE m e (n + 1)

theorem DepthLE.mono {e : Event} {n n' : Nat} (h : DepthLE m e n) (hn : n ≤ n') : DepthLE m e n' := by
  induction h generalizing n' with
  | mk _ ih =>
    cases n' with
    | zero => omega
    | succ k => exact .mk (fun p hp => ih p hp (by omega))

theorem DepthLE.parents {e : Event} {n : Nat} (h : DepthLE m e (n + 1)) : ∀ p ∈ plParents m e, DepthLE m p n := by
  cases h with
  | mk h => exact h

theorem DepthLE.not_zero {e : Event} (h : DepthLE m e 0) : False := by cases h

theorem visited_extend (hac : Acyclic (· ∈ m)) {vis : List Event} {e p : Event} (hnd : vis.Nodup)
    (hsub : ∀ v ∈ vis, v ∈ m) (hreach : ∀ v ∈ vis, Reach (· ∈ m) v e) (hp : p ∈ plParents m e) :
    (p :: vis).Nodup ∧ (∀ v ∈ p :: vis, v ∈ m) ∧ (∀ v ∈ p :: vis, Reach (· ∈ m) v p) ∧
      vis.length + 1 ≤ m.length := by
  have hedge : AuthEdge (· ∈ m) e p := (mem_plParents hp).1
  have hnotin : p ∉ vis := fun hv => hac p ((hreach p hv).snoc hedge)
  have hnd' : (p :: vis).Nodup := List.nodup_cons.mpr ⟨hnotin, hnd⟩
  have hsub' : ∀ v ∈ p :: vis, v ∈ m := by
    intro v hv
    rcases List.mem_cons.mp hv with rfl | hv
    · exact hedge.1
    · exact hsub v hv
  refine ⟨hnd', hsub', ?_, ?_⟩
  · intro v hv
    rcases List.mem_cons.mp hv with rfl | hv
    · exact Or.inl rfl
    · exact Or.inr ((hreach v hv).snoc hedge)
  · have := List.Nodup.length_le_of_subset hnd' (fun v hv => hsub' v hv)
    simpa using this

theorem depthLE_aux (hac : Acyclic (· ∈ m)) : ∀ (n : Nat) (vis : List Event) (e : Event), vis.Nodup →
    (∀ v ∈ vis, v ∈ m) → (∀ v ∈ vis, Reach (· ∈ m) v e) → m.length - vis.length ≤ n → DepthLE m e (n + 1) := by
  intro n
  induction n with
  | zero =>
    intro vis e hnd hsub hreach hlen
    refine .mk (fun p hp => ?_)
    have := (visited_extend hac hnd hsub hreach hp).2.2.2
    omega
  | succ n ih =>
    intro vis e hnd hsub hreach hlen
    refine .mk (fun p hp => ?_)
    obtain ⟨h1, h2, h3, h4⟩ := visited_extend hac hnd hsub hreach hp
    exact ih (p :: vis) p h1 h2 h3 (by simp only [List.length_cons]; omega)

theorem depthLE_of_acyclic (hac : Acyclic (· ∈ m)) (e : Event) : DepthLE m e (m.length + 1) :=
  depthLE_aux hac m.length [] e List.nodup_nil (fun _ h => by cases h) (fun _ h => by cases h) (by simp)

/-! ## On an acyclic auth map the cycle guard of the model never fires -/

/-- every ID on the path names an event of the map that reaches `e` -/
def PathOK (m : List Event) (path : List ID) (e : Event) : Prop :=
  ∀ id ∈ path, ∃ v, findByID m id = some v ∧ Reach (· ∈ m) v e

theorem pathOK_nil (e : Event) : PathOK m [] e := fun _ h => by cases h

/-- a parent of `e` found in the map is not on the path (that would close a cycle), and the path extended by it is
    again a path of ancestors -/
theorem guard_silent (hac : Acyclic (· ∈ m)) {path : List ID} {e p : Event}
    (hp : p ∈ e.authEventIDs.filterMap (findByID m)) (hok : PathOK m path e) :
    path.contains p.eventID = false ∧ PathOK m (p.eventID :: path) p := by
  obtain ⟨pid, hpid, hf⟩ := List.mem_filterMap.mp hp
  obtain ⟨hpm, hpe⟩ := findByID_some hf
  have hedge : AuthEdge (· ∈ m) e p := ⟨hpm, hpe ▸ hpid⟩
  have hfp : findByID m p.eventID = some p := by rw [hpe]; exact hf
  constructor
  · cases hc : path.contains p.eventID with
    | false => rfl
    | true =>
      have hmem : p.eventID ∈ path := List.contains_iff_mem.mp hc
      obtain ⟨v, hv, hr⟩ := hok _ hmem
      rw [hfp] at hv
      cases hv
      exact (hac p (hr.snoc hedge)).elim
  · intro id hid
    rcases List.mem_cons.mp hid with rfl | hid
    · exact ⟨p, hfp, Or.inl rfl⟩
    · obtain ⟨v, hv, hr⟩ := hok id hid
      exact ⟨v, hv, Or.inr (hr.snoc hedge)⟩

/-- `createPowerLevelMainline`'s guarded iterator is the plain recursion on an acyclic auth map -/
theorem mainlineIter_eq_U (hac : Acyclic (· ∈ m)) : ∀ (fuel : Nat) (path : List ID) (e : Event) (acc : List Event),
    PathOK m path e → mainlineIter m fuel path e acc = mainlineIterU m fuel e acc := by
  intro fuel
  induction fuel with
  | zero => intro path e acc _; rfl
  | succ fuel ih =>
    intro path e acc hok
    show List.foldl _ _ _ = List.foldl _ _ _
    apply Lists.foldl_congr_mem
    intro a p hp
    obtain ⟨hc, hok'⟩ := guard_silent hac hp hok
    simp only [hc, Bool.not_false, Bool.and_true]
    split
    · exact ih _ _ _ hok'
    · rfl

theorem firstMainline_go_eq_U (hac : Acyclic (· ∈ m)) {fuel : Nat}
    (ih : ∀ path e st, PathOK m path e → firstMainline m ml fuel path e st = firstMainlineU m ml fuel e st)
    {path : List ID} {e : Event} (hok : PathOK m path e) : ∀ (ps : List Event) (st : Nat × Nat),
    (∀ p ∈ ps, p ∈ e.authEventIDs.filterMap (findByID m)) →
    V.StateRes.firstMainline.go m ml fuel path ps st = firstMainlineU.go m ml fuel ps st := by
  intro ps
  induction ps with
  | nil => intro st _; rw [V.StateRes.firstMainline.go.eq_1, firstMainlineU.go.eq_1]
  | cons p rest ihr =>
    intro st hsub
    have hrest := fun st' => ihr st' (fun q hq => hsub q (List.mem_cons_of_mem _ hq))
    obtain ⟨hc, hok'⟩ := guard_silent hac (hsub p List.mem_cons_self) hok
    rw [V.StateRes.firstMainline.go.eq_2, firstMainlineU.go.eq_2, hc]
    by_cases hpl : (!isPLEvent p) = true
    · rw [if_pos hpl, if_pos hpl]
      exact hrest st
    · rw [if_neg hpl, if_neg hpl]
      cases hpos : mainlinePos ml p.eventID with
      | some pos => rfl
      | none =>
        simp only [Bool.false_eq_true, if_false]
        rw [ih _ _ _ hok']
        exact hrest _

/-- `getFirstPowerLevelMainlineEvent`'s guarded iterator is the plain recursion on an acyclic auth map -/
theorem firstMainline_eq_U (hac : Acyclic (· ∈ m)) : ∀ (fuel : Nat) (path : List ID) (e : Event) (st : Nat × Nat),
    PathOK m path e → firstMainline m ml fuel path e st = firstMainlineU m ml fuel e st := by
  intro fuel
  induction fuel with
  | zero => intro path e st _; rw [V.StateRes.firstMainline.eq_1, firstMainlineU.eq_1]
  | succ fuel ih =>
    intro path e st hok
    rw [V.StateRes.firstMainline.eq_2, firstMainlineU.eq_2]
    exact firstMainline_go_eq_U hac ih hok _ st (fun _ h => h)

theorem MainlineOf.unique {ps l₁ l₂ : List Event} (h1 : MainlineOf m ps l₁) (h2 : MainlineOf m ps l₂) : l₁ = l₂ := by
  induction h1 generalizing l₂ with
  | nil => cases h2; rfl
  | cons _ _ ihp ihps =>
    cases h2 with
    | cons hp' hps' => rw [ihp hp', ihps hps']

/-- the model's loop tests `isPLEvent` inside a fold over all auth events: same as folding over `plParents` -/
theorem mainlineIterU_succ (m : List Event) (fuel : Nat) (e : Event) (acc : List Event) :
    mainlineIterU m (fuel + 1) e acc = (plParents m e).foldl (fun a p => mainlineIterU m fuel p a) (e :: acc) := by
  rw [plParents_eq, List.foldl_filter]
  rfl

theorem mainline_fold {fuel : Nat}
    (ih : ∀ e, DepthLE m e fuel → ∃ lp, MainlineOf m (plParents m e) lp ∧ ∀ acc, mainlineIterU m fuel e acc = lp ++ e :: acc) :
    ∀ ps : List Event, (∀ p ∈ ps, DepthLE m p fuel) →
      ∃ l, MainlineOf m ps l ∧ ∀ acc, ps.foldl (fun a p => mainlineIterU m fuel p a) acc = l ++ acc := by
  intro ps
  induction ps with
  | nil => intro _; exact ⟨[], .nil, fun acc => rfl⟩
  | cons p ps ihps =>
    intro hd
    obtain ⟨lp, hlp, hiter⟩ := ih p (hd p List.mem_cons_self)
    obtain ⟨l, hl, hfold⟩ := ihps (fun q hq => hd q (List.mem_cons_of_mem _ hq))
    refine ⟨l ++ (lp ++ [p]), .cons hlp hl, fun acc => ?_⟩
    rw [List.foldl_cons, hiter, hfold]
    simp only [List.append_assoc, List.cons_append, List.nil_append]

theorem mainlineIter_spec : ∀ (fuel : Nat) (e : Event), DepthLE m e fuel →
    ∃ lp, MainlineOf m (plParents m e) lp ∧ ∀ acc, mainlineIterU m fuel e acc = lp ++ e :: acc := by
  intro fuel
  induction fuel with
  | zero => intro e h; exact h.not_zero.elim
  | succ fuel ih =>
    intro e h
    obtain ⟨l, hl, hfold⟩ := mainline_fold ih (plParents m e) h.parents
    exact ⟨l, hl, fun acc => by rw [mainlineIterU_succ, hfold]⟩

theorem mainlineOf_singleton {e : Event} {lp : List Event} (h : MainlineOf m (plParents m e) lp) :
    MainlineOf m [e] (lp ++ [e]) := by
  have := MainlineOf.cons h (MainlineOf.nil (m := m))
  simpa using this

theorem mainline_eq_spec (hac : Acyclic (· ∈ m)) (pl : Option Event) : IsMainline m pl (createMainline m pl) := by
  cases pl with
  | none => rfl
  | some e =>
    obtain ⟨lp, hlp, hiter⟩ := mainlineIter_spec (m.length + 2) e ((depthLE_of_acyclic hac e).mono (by omega))
    show MainlineOf m [e] (mainlineIter m (m.length + 2) [] e [])
    rw [mainlineIter_eq_U hac _ _ _ _ (pathOK_nil e), hiter]
    exact mainlineOf_singleton hlp

theorem IsMainline.unique {pl : Option Event} {l₁ l₂ : List Event} (h1 : IsMainline m pl l₁) (h2 : IsMainline m pl l₂) :
    l₁ = l₂ := by
  cases pl with
  | none => rw [show l₁ = [] from h1, show l₂ = [] from h2]
  | some e => exact MainlineOf.unique h1 h2

/-- normal case: the mainline is the chain of power-levels ancestors, oldest first -/
theorem mainline_of_chain {e : Event} {c : List Event} (h : PLChain m e c) : MainlineOf m [e] c.reverse := by
  induction h with
  | @root e h0 =>
    have : MainlineOf m (plParents m e) [] := by rw [h0]; exact .nil
    simpa using mainlineOf_singleton this
  | @step e p c h1 _ ih =>
    have : MainlineOf m (plParents m e) c.reverse := by rw [h1]; exact ih
    simpa using mainlineOf_singleton this

/-- the model's position map (later entries overwrite) is "index of the last entry with that ID" -/
theorem mainlinePos_eq_posOf (ml : List Event) (id : ID) : mainlinePos ml id = posOf ml id := by
  unfold mainlinePos posOf
  rw [Lists.foldl_write (get := fun a => a) (q := fun (x : Event × Nat) => x.1.eventID == id) (v := fun x => x.2) (fun _ _ => rfl),
    List.getLast?_filter]
  exact Option.or_none

theorem Walk.unique {ps : List Event} {st r₁ r₂ : Nat × Nat} (h1 : Walk m ml ps st r₁) (h2 : Walk m ml ps st r₂) :
    r₁ = r₂ := by
  induction h1 generalizing r₂ with
  | nil => cases h2; rfl
  | hit hp =>
    cases h2 with
    | hit hp' => rw [hp] at hp'; cases hp'; rfl
    | miss hn _ _ => rw [hp] at hn; cases hn
  | miss hn _ _ ih1 ih2 =>
    cases h2 with
    | hit hp' => rw [hn] at hp'; cases hp'
    | miss _ hw1' hw2' =>
      have := ih1 hw1'
      subst this
      exact ih2 hw2'

/-- the inner loop over all auth events (with the `isPLEvent` test inside) against `Walk` over the filtered list -/
theorem firstMainline_go {fuel : Nat}
    (ih : ∀ e st, DepthLE m e fuel → Walk m ml (plParents m e) st (firstMainlineU m ml fuel e st)) :
    ∀ (ps : List Event) (st : Nat × Nat), (∀ p ∈ ps.filter isPLEvent, DepthLE m p fuel) →
      Walk m ml (ps.filter isPLEvent) st (firstMainlineU.go m ml fuel ps st) := by
  intro ps
  induction ps with
  | nil => intro st _; rw [firstMainlineU.go.eq_1]; exact .nil
  | cons p rest ihr =>
    intro st hd
    rw [firstMainlineU.go.eq_2, List.filter_cons]
    by_cases hpl : isPLEvent p = true
    · simp only [hpl, Bool.not_true, Bool.false_eq_true, if_false, if_true]
      rw [List.filter_cons, if_pos hpl] at hd
      rw [mainlinePos_eq_posOf]
      cases hpos : posOf ml p.eventID with
      | some pos => exact .hit hpos
      | none =>
        exact .miss hpos (ih p _ (hd p List.mem_cons_self))
          (ihr _ (fun q hq => hd q (List.mem_cons_of_mem _ hq)))
    · have hpl' : isPLEvent p = false := by simpa using hpl
      rw [List.filter_cons, if_neg hpl] at hd
      simp only [hpl', Bool.not_false, if_true, Bool.false_eq_true, if_false]
      exact ihr st hd

theorem firstMainline_spec : ∀ (fuel : Nat) (e : Event) (st : Nat × Nat), DepthLE m e fuel →
    Walk m ml (plParents m e) st (firstMainlineU m ml fuel e st) := by
  intro fuel
  induction fuel with
  | zero => intro e st h; exact h.not_zero.elim
  | succ fuel ih =>
    intro e st h
    rw [firstMainlineU.eq_2, plParents_eq]
    exact firstMainline_go ih _ st h.parents

theorem posSteps_eq_spec (hac : Acyclic (· ∈ m)) (e : Event) :
    MainlinePosSteps m ml e (firstMainline m ml (m.length + 2) [] e (0, 0)) := by
  rw [firstMainline_eq_U hac _ _ _ _ (pathOK_nil e)]
  exact firstMainline_spec (m.length + 2) e (0, 0) ((depthLE_of_acyclic hac e).mono (by omega))

theorem MainlinePosSteps.unique {e : Event} {r₁ r₂ : Nat × Nat} (h1 : MainlinePosSteps m ml e r₁)
    (h2 : MainlinePosSteps m ml e r₂) : r₁ = r₂ := Walk.unique h1 h2

/-- normal case: the walk follows the chain of power-levels ancestors -/
theorem walk_of_chainWalk {e : Event} {n : Nat} {r : Nat × Nat} (h : ChainWalk m ml e n r) :
    Walk m ml (plParents m e) (0, n) r := by
  induction h with
  | none h0 => rw [h0]; exact .nil
  | hit h1 hp => rw [h1]; exact Walk.hit (st := (0, _)) hp
  | miss h1 hn _ ih => rw [h1]; exact Walk.miss (st := (0, _)) hn ih .nil

theorem otherKey_eq (m ml : List Event) (e : Event) :
    otherKey m ml e = otherKeyOf e (firstMainline m ml (m.length + 2) [] e (0, 0)) := rfl

theorem isSortedBy_iff_sortedBy {α κ : Type} (lt : κ → κ → Bool) (key : α → κ) (l : List α) :
    IsSortedBy lt key l ↔ SortedBy lt key l := Iff.rfl

theorem mainlineOrdering_eq_spec (hac : Acyclic (· ∈ m)) (ml evs : List Event) :
    IsMainlineOrder m ml evs (mainlineOrdering m ml evs) :=
  ⟨V.StateRes.sortOn_perm otherLt (otherKey m ml) evs, otherKey m ml,
    fun e _ => ⟨_, posSteps_eq_spec hac e, otherKey_eq m ml e⟩, V.StateRes.sortOn_sorted _ otherLt_strictTotal evs⟩

theorem IsMainlineOrder.congr_input {input input' out : List Event} (hp : input'.Perm input)
    (h : IsMainlineOrder m ml input out) : IsMainlineOrder m ml input' out := by
  obtain ⟨h1, key, hk, hs⟩ := h
  exact ⟨h1.trans hp.symm, key, fun e he => hk e (hp.mem_iff.mp he), hs⟩

theorem IsMainlineOrder.unique {input out₁ out₂ : List Event}
    (hid : ∀ a ∈ input, ∀ b ∈ input, a.eventID = b.eventID → a = b)
    (h1 : IsMainlineOrder m ml input out₁) (h2 : IsMainlineOrder m ml input out₂) : out₁ = out₂ := by
  obtain ⟨hp1, k1, hk1, hs1⟩ := h1
  obtain ⟨hp2, k2, hk2, hs2⟩ := h2
  have hagree : ∀ e ∈ input, k2 e = k1 e := by
    intro e he
    obtain ⟨r1, hw1, e1⟩ := hk1 e he
    obtain ⟨r2, hw2, e2⟩ := hk2 e he
    rw [e1, e2, MainlinePosSteps.unique hw1 hw2]
  have hs2' : SortedBy otherLt k1 out₂ := by
    refine List.Pairwise.imp_of_mem ?_ hs2
    intro a b ha hb hab
    rw [← hagree a (hp2.mem_iff.mp ha), ← hagree b (hp2.mem_iff.mp hb)]
    exact hab
  have hinj : KeyInj k1 out₁ := by
    intro a ha b hb hab
    have ha' := hp1.mem_iff.mp ha
    have hb' := hp1.mem_iff.mp hb
    obtain ⟨ra, _, ea⟩ := hk1 a ha'
    obtain ⟨rb, _, eb⟩ := hk1 b hb'
    rw [ea, eb] at hab
    exact hid a ha' b hb' (congrArg OtherKey.id hab)
  exact sorted_unique k1 otherLt_strictTotal (hp1.trans hp2.symm) hinj hs1 hs2'

end V.StateResSpec
