/-
  From equal reference bytes to equal `hashes` members (C03, injectivity of the event ID).

  * the canonical form of an object holds under a key the canonical form of the FIRST member the text has under it
    (`BuildProofs.lookupExact_canonFirst`, no hypothesis about duplicate keys);
  * hence `gjson.Get(json, "hashes.sha256")` (`claimedHash`) is a function of the canonical form of the
    `hashes` member;
  * a redaction keeps every raw field of the keep struct verbatim (`RedactProofs.redactWith_raw`: no hypothesis on
    `type` / `content`) and keeps number literals grammatical (`redactWith_numsOk`);
  * so two objects with the same reference bytes carry the same `hashes` member up to canonical form
    (`hashes_of_referenceBytes`);
  * what the struct marshalling of `Build` holds under each hashed key (`membersOf_lookups`), and that the values are
    determined by their canonical forms.
-/
import VProofs.EventBuildRoundtrip
import VProps.C05
namespace V.IdInj
open V V.Json V.GoJson V.Redact V.EventParse V.RedactProofs V.EventProofs V.BuildProofs

theorem lookupExact_filter (P : Bytes × JVal → Bool) (k : Bytes) (hP : ∀ kv : Bytes × JVal, kv.1 = k → P kv = true)
    (l : EventParse.Obj) : lookupExact (l.filter P) k = lookupExact l k := by
  rw [lookupExact_eq_lookup_reverse, lookupExact_eq_lookup_reverse, ← List.filter_reverse, Assoc.lookup_filter P hP]

/-! ## `hashes.sha256` is a function of the canonical form of `hashes` -/

/-- `hashes.sha256` read from the canonical form of the `hashes` member (`none` = no such member) -/
def hashOfCanon (ov : Option JVal) : Bytes :=
  match ov with
  | some (.obj m) =>
    match lookupExact m b!"sha256" with
    | some (.str s) => s
    | _ => []
  | _ => []

theorem claimedHash_canon (k : EventParse.Obj) :
    claimedHash k = hashOfCanon ((getFirst k b!"hashes").map (fun v => v.sorted.normNums)) := by
  unfold claimedHash hashOfCanon
  cases getFirst k b!"hashes" with
  | none => rfl
  | some v =>
    cases v with
    | obj m =>
      simp only [Option.map_some]
      rw [canon_obj]
      simp only
      rw [lookupExact_canonFirst]
      cases getFirst m b!"sha256" with
      | none => rfl
      | some w => cases w <;> simp [JVal.sorted, JVal.normNums]
    | _ => simp [JVal.sorted, JVal.normNums]

/-- the redaction of a value whose number literals follow the JSON grammar has that property too -/
theorem redactWith_numsOk {a : Algo} (hd : foldDistinct a.fields = true) {kvs rk : EventParse.Obj} (hn : (JVal.obj kvs).numsOk = true)
    (h : redactWith a (.obj kvs) = .ok (.obj rk)) : (JVal.obj rk).numsOk = true :=
  numsOk_obj_of_forall (redactWith_vals numsOk_valProp hd (numsOk_obj_forall hn) h)

/-! ## Equal reference bytes ⇒ equal `hashes` members -/

theorem referenceBytes_ok {ver : Bytes} {j : JVal} {b : Bytes} (h : referenceBytes ver j = .ok b) :
    ∃ r, redactJSON ver j = .ok (.obj r) ∧ b = encodeCanon (.obj (stripSigs r)) := by
  unfold referenceBytes at h
  split at h
  · cases h
  · rename_i r hr
    exact ⟨r, hr, (Except.ok.inj h).symm⟩
  · cases h

/-- the `hashes` member of a redaction without `signatures` / `unsigned` is the event's -/
theorem hashes_of_redaction {ver : Bytes} {kvs r : EventParse.Obj} (h : redactJSON ver (.obj kvs) = .ok (.obj r)) :
    getFirst (stripSigs r) b!"hashes" = lookupExact kvs b!"hashes" := by
  obtain ⟨a, ha, h'⟩ := redactJSON_algo h
  obtain ⟨hT, hS⟩ := C05.algoOf_ok ha
  obtain ⟨f, hf, hfn⟩ := List.any_eq_true.mp (C05.shape_has hS b!"hashes" (by simp))
  simp only [Bool.and_eq_true, beq_iff_eq] at hfn
  unfold stripSigs
  rw [getFirst_eq_lookupExact (((List.filter_sublist (l := _)).map _).nodup (redactWith_wf hT h').nodup),
    lookupExact_filter _ _ (fun kv hk => by rw [hk]; decide), ← hfn.1]
  exact redactWith_raw hT h' hf hfn.2

/-- **Equal canonical bytes, equal members**: two objects with the same canonical encoding hold under every key the same
    (first) member, up to canonical form.  The step from bytes to fields of every injectivity argument below. -/
theorem getFirst_of_encodeCanon_eq {A B : EventParse.Obj} (hA : (JVal.obj A).numsOk = true) (hB : (JVal.obj B).numsOk = true)
    (h : encodeCanon (.obj A) = encodeCanon (.obj B)) (k : Bytes) :
    (getFirst A k).map (fun v => v.sorted.normNums) = (getFirst B k).map (fun v => v.sorted.normNums) := by
  have := C01.encodeCanon_injective _ _ hA hB h
  rw [canon_obj, canon_obj] at this
  rw [← lookupExact_canonFirst, ← lookupExact_canonFirst, JVal.obj.inj this]

/-- **Two objects with the same reference bytes carry the same `hashes` member, up to canonical form** (of several
    `hashes` members of one object the last one is meant — what redaction keeps). -/
theorem hashes_of_referenceBytes {ver : Bytes} {k1 k2 : EventParse.Obj}
    (hn1 : (JVal.obj k1).numsOk = true) (hn2 : (JVal.obj k2).numsOk = true) {b : Bytes}
    (h1 : referenceBytes ver (.obj k1) = .ok b) (h2 : referenceBytes ver (.obj k2) = .ok b) :
    (lookupExact k1 b!"hashes").map (fun v => v.sorted.normNums) = (lookupExact k2 b!"hashes").map (fun v => v.sorted.normNums) := by
  obtain ⟨r1, hr1, hb1⟩ := referenceBytes_ok h1
  obtain ⟨r2, hr2, hb2⟩ := referenceBytes_ok h2
  have numsOf : ∀ {k r : EventParse.Obj}, (JVal.obj k).numsOk = true → redactJSON ver (.obj k) = .ok (.obj r) →
      (JVal.obj (stripSigs r)).numsOk = true := by
    intro k r hn hr
    obtain ⟨a, ha, h'⟩ := redactJSON_algo hr
    have := numsOk_obj_forall (redactWith_numsOk (tablesOk_parts (C05.algoOf_ok ha).1).1 hn h')
    exact numsOk_obj_of_forall (fun kv hkv => this kv (List.mem_filter.mp hkv).1)
  have := getFirst_of_encodeCanon_eq (numsOf hn1 hr1) (numsOf hn2 hr2) (by rw [← hb1, ← hb2]) b!"hashes"
  rwa [hashes_of_redaction hr1, hashes_of_redaction hr2] at this

/-! ## The members of what `Build` returns, field by field (for `C03.build_eventID_injective_proto`) -/

open V.EventBuild in
/-- what the struct marshalling writes under each hashed key -/
structure Lookups (pe : Proto) (content : JVal) (prev auth : List JVal) (now : Nat) (origin : Bytes) (M : EventParse.Obj) : Prop where
  sender : lookupExact M b!"sender" = some (.str pe.sender)
  roomID : lookupExact M b!"room_id" = if pe.roomID.isEmpty then none else some (.str pe.roomID)
  type : lookupExact M b!"type" = some (.str pe.type)
  stateKey : lookupExact M b!"state_key" = pe.stateKey.map JVal.str
  prev : lookupExact M b!"prev_events" = some (.arr prev)
  auth : lookupExact M b!"auth_events" = some (.arr auth)
  redacts : lookupExact M b!"redacts" = if pe.redacts.isEmpty then none else some (.str pe.redacts)
  depth : lookupExact M b!"depth" = some (.num (intLit pe.depth))
  content : lookupExact M b!"content" = some content
  ts : lookupExact M b!"origin_server_ts" = some (.num (natDigits now))
  origin : lookupExact M b!"origin" = some (.str origin)

open V.EventBuild in
theorem membersOf_lookups (pe : Proto) (content : JVal) (prev auth : List JVal) (eid : Bytes) (now : Nat) (origin : Bytes) :
    Lookups pe content prev auth now origin (membersOf pe content prev auth eid now origin) := by
  unfold membersOf
  have field : ∀ (i : Nat) {k : Bytes} {o : Option JVal}, (structFields pe content prev auth eid now origin)[i]? = some (k, o) →
      lookupExact (optMembers (structFields pe content prev auth eid now origin)) k = o :=
    fun i _ _ h => lookupExact_optMembers (by rw [structFields_keys]; exact buildKeys_nodup) (List.mem_of_getElem? h)
  exact ⟨field 0 rfl, field 1 rfl, field 2 rfl, field 3 rfl, field 4 rfl, field 5 rfl, field 6 rfl, field 7 rfl, field 9 rfl,
    field 12 rfl, field 13 rfl⟩

/-- the hashed members hold, under a hashed key other than `event_id`, what the struct marshalling wrote -/
theorem hashed_lookup {M : EventParse.Obj} (hn : (keysOf M).Nodup) (k : Bytes) (hk : hashP (k, .null) = true)
    (hke : b!"event_id" ≠ k) :
    getFirst ((deleteFirst b!"event_id" M).filter hashP) k = lookupExact M k := by
  have hnd : (keysOf ((deleteFirst b!"event_id" M).filter hashP)).Nodup :=
    ((List.filter_sublist (l := _)).map _).nodup (deleteFirst_keys_nodup _ _ hn)
  rw [getFirst_eq_lookupExact hnd, lookupExact_filter hashP k (fun kv h => by
    show hashP (kv.1, JVal.null) = true
    rw [h]; exact hk), lookupExact_deleteFirst_other M hke]

/-! ### the values are determined by their canonical forms -/

theorem digit_val : ∀ d, d < 10 → (digitByte d - 0x30).toNat = d := by decide +kernel

open V.EventBuild in
theorem natOfDigits_natDigits (n : Nat) : natOfDigits (natDigits n) = n := by
  induction n using Nat.strongRecOn with
  | _ n ih =>
    rw [natDigits_eq]
    by_cases h : n < 10
    · rw [if_pos h]
      simp only [natOfDigits, List.foldl_cons, List.foldl_nil, digit_val n h]
      omega
    · rw [if_neg h]
      have := ih (n / 10) (by omega)
      simp only [natOfDigits, List.foldl_append, List.foldl_cons, List.foldl_nil] at this ⊢
      rw [this, digit_val _ (Nat.mod_lt _ (by decide))]
      omega

open V.EventBuild in
theorem natDigits_inj {n m : Nat} (h : natDigits n = natDigits m) : n = m := by
  rw [← natOfDigits_natDigits n, ← natOfDigits_natDigits m, h]

open V.EventBuild in
theorem natDigits_no_minus (n : Nat) (rest : Bytes) : natDigits n ≠ 0x2D :: rest := by
  intro h
  have := (natDigits_shape n).1 0x2D (by rw [h]; exact List.mem_cons_self)
  revert this; decide

open V.EventBuild in
theorem intLit_inj {i j : Int} (h : intLit i = intLit j) : i = j := by
  cases i with
  | ofNat n =>
    cases j with
    | ofNat m => rw [natDigits_inj (show natDigits n = natDigits m from h)]
    | negSucc m => exact absurd (show natDigits n = 0x2D :: natDigits (m + 1) from h) (natDigits_no_minus _ _)
  | negSucc n =>
    cases j with
    | ofNat m => exact absurd (show natDigits m = 0x2D :: natDigits (n + 1) from h.symm) (natDigits_no_minus _ _)
    | negSucc m =>
      have h' : (0x2D : UInt8) :: natDigits (n + 1) = 0x2D :: natDigits (m + 1) := h
      have := natDigits_inj (List.cons.inj h').2
      have e : n = m := by omega
      rw [e]

open V.EventBuild in
theorem encodeNum_natDigits (n : Nat) : encodeNum (natDigits n) = natDigits n := by
  unfold encodeNum
  rw [if_neg]
  intro h
  exact natDigits_no_minus n _ (beq_iff_eq.mp h)

open V.EventBuild in
theorem encodeNum_intLit (i : Int) : encodeNum (intLit i) = intLit i := by
  cases i with
  | ofNat n => exact encodeNum_natDigits n
  | negSucc n =>
    unfold encodeNum
    rw [if_neg]
    intro h
    have h' : (0x2D : UInt8) :: natDigits (n + 1) = [0x2D, 0x30] := beq_iff_eq.mp h
    have h0 : natDigits (n + 1) = natDigits 0 := (List.cons.inj h').2
    have := natDigits_inj h0
    omega

theorem canon_strs (l : List Bytes) : (JVal.arr (l.map JVal.str)).sorted.normNums = .arr (l.map JVal.str) := by
  have h1 : sortedList (l.map JVal.str) = l.map JVal.str := by
    induction l with
    | nil => rfl
    | cons x xs ih => simp only [List.map_cons, sortedList, JVal.sorted, ih]
  have h2 : normNumsList (l.map JVal.str) = l.map JVal.str := by
    clear h1
    induction l with
    | nil => rfl
    | cons x xs ih => simp only [List.map_cons, normNumsList, JVal.normNums, ih]
  simp only [JVal.sorted, JVal.normNums, h1, h2]

theorem str_canon_inj {a b : Bytes}
    (h : (some (JVal.str a)).map (fun v => v.sorted.normNums) = (some (JVal.str b)).map (fun v => v.sorted.normNums)) : a = b := by
  simpa [JVal.sorted, JVal.normNums] using h

theorem strs_canon_inj {a b : List Bytes}
    (h : (some (JVal.arr (a.map JVal.str))).map (fun v => v.sorted.normNums) =
         (some (JVal.arr (b.map JVal.str))).map (fun v => v.sorted.normNums)) : a = b := by
  simp only [Option.map_some, canon_strs, Option.some.injEq, JVal.arr.injEq] at h
  exact (List.map_inj_right fun _ _ => JVal.str.inj).mp h

/-- a string member that is omitted when empty -/
theorem optStr_inj {a b : Bytes}
    (h : (if a.isEmpty then none else some (JVal.str a)).map (fun v => v.sorted.normNums) =
         (if b.isEmpty then none else some (JVal.str b)).map (fun v => v.sorted.normNums)) : a = b := by
  cases a with
  | nil => cases b with
    | nil => rfl
    | cons y ys => simp at h
  | cons x xs => cases b with
    | nil => simp at h
    | cons y ys => simpa [JVal.sorted, JVal.normNums] using h

end V.IdInj
