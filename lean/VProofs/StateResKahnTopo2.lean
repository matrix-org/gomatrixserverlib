/-
  Kahn's algorithm of VModel.StateRes (`kahn`): the output is a permutation of the distinct input events (always);
  for acyclic input nothing is left over and no event comes before one of its parents / ancestors; for a strict total
  order on keys that end with the event ID the output does not depend on the order or duplication of the input.
  Instances: `reverseTopoAuth`, `reverseTopoPrev` (input order: `reverseTopoAuth` here, `reverseTopoPrev` in VProps/C11.lean).
-/
import VProofs.StateResKahnTopo
namespace V.StateRes
open List

section
variable {κ : Type}

/-- no acyclicity needed: the output is a permutation of the distinct input events
    (strays included; the fuel never runs out) -/
theorem kahn_perm (lt : κ → κ → Bool) (parents : Event → List ID) (nodes0 : List (KNode κ)) :
    kahn lt parents nodes0 ~ (kNodes nodes0).map (·.ev) := by
  rw [kahn_eq]
  obtain ⟨d', h⟩ := kahnLoop_final lt parents nodes0
  unfold kahnOut
  refine List.Perm.map _ ?_
  have := h.perm
  simp only [List.append_nil] at this
  exact ((sortBy_perm _ _).append_right _).trans this

theorem kahn_subset (lt : κ → κ → Bool) (parents : Event → List ID) (nodes0 : List (KNode κ)) {e : Event}
    (h : e ∈ kahn lt parents nodes0) : ∃ n ∈ nodes0, n.ev = e := by
  obtain ⟨n, hn, rfl⟩ := List.mem_map.mp ((kahn_perm lt parents nodes0).mem_iff.mp h)
  exact ⟨n, mem_kNodes hn, rfl⟩

theorem kahn_idNodup (lt : κ → κ → Bool) (parents : Event → List ID) (nodes0 : List (KNode κ)) :
    IdNodup (kahn lt parents nodes0) := by
  unfold IdNodup
  have h := (kahn_perm lt parents nodes0).map (·.eventID)
  rw [List.map_map] at h
  exact h.nodup_iff.mpr (kNodes_idNodup nodes0)

/-- always: the output is `strays ++ graph`, the `graph` part is topologically ordered and no placed event is a
    parent of a stray (so an event comes before one of its parents only if it is a stray) -/
theorem kahn_split (lt : κ → κ → Bool) (parents : Event → List ID) (nodes0 : List (KNode κ)) :
    ∃ strays graph : List Event, kahn lt parents nodes0 = strays ++ graph ∧
      graph.Pairwise (fun a b => b.eventID ∉ parents a) ∧
      (∀ g ∈ graph, ∀ s ∈ strays, g.eventID ∉ parents s) := by
  rw [kahn_eq]
  obtain ⟨d', h⟩ := kahnLoop_final lt parents nodes0
  unfold kahnOut
  refine ⟨_, _, List.map_append, ?_, ?_⟩
  · rw [List.pairwise_map]; exact h.topo
  · intro g hg s hs
    obtain ⟨g', hg', rfl⟩ := List.mem_map.mp hg
    obtain ⟨s', hs', rfl⟩ := List.mem_map.mp hs
    exact h.placed g' hg' s' (by simpa using (mem_sortBy _).mp hs')

/-- acyclic on the input: some rank strictly increases from every parent present in the input to its child -/
def KAcyclic (parents : Event → List ID) (nodes : List (KNode κ)) : Prop :=
  ∃ rk : ID → Nat, ∀ n ∈ nodes, ∀ p ∈ parents n.ev, p ∈ nodes.map (·.ev.eventID) → rk p < rk n.ev.eventID

theorem KAcyclic.dedup {parents : Event → List ID} {nodes0 : List (KNode κ)} (h : KAcyclic parents nodes0) :
    KAcyclic parents (kNodes nodes0) := by
  obtain ⟨rk, hrk⟩ := h
  refine ⟨rk, fun n hn p hp hpn => hrk n (mem_kNodes hn) p hp ?_⟩
  obtain ⟨m, hm, rfl⟩ := List.mem_map.mp hpn
  exact List.mem_map.mpr ⟨m, mem_kNodes hm, rfl⟩

theorem KLoopInv.no_strays {parents : Event → List ID} {nodes rem graph : List (KNode κ)} {d : List (ID × Nat)}
    (h : KLoopInv parents nodes rem d [] graph) (hac : KAcyclic parents nodes) : rem = [] := by
  obtain ⟨rk, hrk⟩ := hac
  false_or_by_contra
  rename_i hne
  have hmem : ∀ n ∈ rem, n ∈ nodes := fun n hn => h.perm.mem_iff.mp (by simp [hn])
  -- a waiting node without a waiting child would be ready
  obtain ⟨r, hr, hfree⟩ := Lists.exists_no_child (child := fun a x : KNode κ => x.ev.eventID ∈ parents a.ev)
    (fun n => rk n.ev.eventID) hne
    fun a ha x hx hc => hrk a (hmem a ha) _ hc (List.mem_map.mpr ⟨x, hmem x hx, rfl⟩)
  exact List.not_mem_nil (h.mem_ready_iff.mpr ⟨by simpa using hr, cnt_eq_zero.mpr (by simpa using hfree)⟩)

theorem kahn_loop_no_strays (lt : κ → κ → Bool) (parents : Event → List ID) (nodes0 : List (KNode κ))
    (hac : KAcyclic parents nodes0) :
    (kahnRun lt parents nodes0).1 = [] := by
  obtain ⟨d', h⟩ := kahnLoop_final lt parents nodes0
  exact h.no_strays hac.dedup

theorem kahn_topological (lt : κ → κ → Bool) (parents : Event → List ID) (nodes0 : List (KNode κ))
    (hac : KAcyclic parents nodes0) :
    (kahn lt parents nodes0).Pairwise (fun a b => b.eventID ∉ parents a) := by
  rw [kahn_eq]
  obtain ⟨d', h⟩ := kahnLoop_final lt parents nodes0
  unfold kahnOut
  rw [kahn_loop_no_strays lt parents nodes0 hac]
  rw [List.pairwise_map]
  simpa [sortBy] using h.topo

theorem kahn_no_self (lt : κ → κ → Bool) (parents : Event → List ID) (nodes0 : List (KNode κ))
    (hac : KAcyclic parents nodes0) : ∀ a ∈ kahn lt parents nodes0, a.eventID ∉ parents a := by
  intro a ha hpar
  obtain ⟨n, hn, rfl⟩ := kahn_subset lt parents nodes0 ha
  obtain ⟨rk, hrk⟩ := hac
  exact Nat.lt_irrefl _ (hrk n hn _ hpar (List.mem_map.mpr ⟨n, hn, rfl⟩))

/-- Same ID ⇒ same node within the two inputs; the key determines the ID (keys contain the ID as last tie-break). -/
theorem kahn_input_order_irrelevant (lt : κ → κ → Bool) (hlt : StrictTotal lt) (parents : Event → List ID)
    (n1 n2 : List (KNode κ))
    (hids : ∀ a ∈ n1 ++ n2, ∀ b ∈ n1 ++ n2, a.ev.eventID = b.ev.eventID → a = b)
    (hkey : ∀ a ∈ n1, ∀ b ∈ n1, a.key = b.key → a.ev.eventID = b.ev.eventID)
    (hset : SameSet n1 n2) :
    kahn lt parents n1 = kahn lt parents n2 := by
  have hl1 : ∀ n ∈ n1, n ∈ n1 ++ n2 := fun n hn => List.mem_append_left _ hn
  have hp : kNodes n1 ~ kNodes n2 :=
    kNodes_perm (U := (· ∈ n1 ++ n2)) (fun a b ha hb => hids a ha b hb) hl1 (fun n hn => List.mem_append_right _ hn) hset
  have hk : KeyInj KNode.key (kNodes n1) := fun a ha b hb e =>
    hids a (hl1 a (mem_kNodes ha)) b (hl1 b (mem_kNodes hb)) (hkey a (mem_kNodes ha) b (mem_kNodes hb) e)
  obtain ⟨h1, h2⟩ := kahnLoop_determined lt hlt parents (kNodes_idNodup n1) hk hp ((kNodes n1).length + 1) _ _ _ _ _ _ []
    (kahn_init _ parents _) (kahn_init _ parents _) (sortBy_sorted KNode.key hlt _) (sortBy_sorted KNode.key hlt _)
  obtain ⟨_, hfin⟩ := kahnLoop_final lt parents n1
  rw [kahn_eq, kahn_eq]
  unfold kahnOut kahnRun
  rw [← hp.length_eq, h2, sortBy_unique KNode.key hlt h1 (fun a ha b hb =>
    hk a (hfin.perm.mem_iff.mp (List.mem_append_left _ (List.mem_append_left _ ha)))
      b (hfin.perm.mem_iff.mp (List.mem_append_left _ (List.mem_append_left _ hb))))]

end

/-- `p` is a parent of `c`, both in `l` -/
def ParentIn (parents : Event → List ID) (l : List Event) (p c : Event) : Prop :=
  p ∈ l ∧ c ∈ l ∧ p.eventID ∈ parents c

theorem idx_getElem {l : List Event} (hnd : IdNodup l) (i : Nat) (hi : i < l.length) :
    (l.map (·.eventID)).idxOf (l[i]).eventID = i := by
  have := List.Nodup.idxOf_getElem hnd i (by simpa using hi)
  simpa using this

theorem parent_idx_lt {parents : Event → List ID} {l : List Event} (hnd : IdNodup l)
    (hself : ∀ a ∈ l, a.eventID ∉ parents a) (hp : l.Pairwise (fun a b => b.eventID ∉ parents a))
    {p c : Event} (h : ParentIn parents l p c) :
    (l.map (·.eventID)).idxOf p.eventID < (l.map (·.eventID)).idxOf c.eventID := by
  obtain ⟨hpm, hcm, hpar⟩ := h
  obtain ⟨i, hi, rfl⟩ := List.getElem_of_mem hpm
  obtain ⟨j, hj, rfl⟩ := List.getElem_of_mem hcm
  rw [idx_getElem hnd, idx_getElem hnd]
  rcases Nat.lt_trichotomy i j with hlt | heq | hgt
  · exact hlt
  · subst heq; exact absurd hpar (hself _ hcm)
  · exact absurd hpar (List.pairwise_iff_getElem.mp hp j i hj hi hgt)

theorem ancestor_idx_lt {parents : Event → List ID} {l : List Event} (hnd : IdNodup l)
    (hself : ∀ a ∈ l, a.eventID ∉ parents a) (hp : l.Pairwise (fun a b => b.eventID ∉ parents a))
    {x y : Event} (h : Relation.TransGen (ParentIn parents l) x y) :
    (l.map (·.eventID)).idxOf x.eventID < (l.map (·.eventID)).idxOf y.eventID := by
  induction h with
  | single h => exact parent_idx_lt hnd hself hp h
  | tail _ h ih => exact Nat.lt_trans ih (parent_idx_lt hnd hself hp h)

theorem pairwise_ancestors {parents : Event → List ID} {l : List Event} (hnd : IdNodup l)
    (hself : ∀ a ∈ l, a.eventID ∉ parents a) (hp : l.Pairwise (fun a b => b.eventID ∉ parents a)) :
    l.Pairwise (fun a b => ¬ Relation.TransGen (ParentIn parents l) b a) := by
  rw [List.pairwise_iff_getElem]
  intro i j hi hj hij hT
  have := ancestor_idx_lt hnd hself hp hT
  rw [idx_getElem hnd, idx_getElem hnd] at this
  omega

/-- every event comes after each of its ancestors present in the input
    (ancestor = transitive closure of "is a parent, both in the output = both among the distinct input events") -/
theorem kahn_topological_ancestors {κ : Type} (lt : κ → κ → Bool) (parents : Event → List ID) (nodes0 : List (KNode κ))
    (hac : KAcyclic parents nodes0) :
    (kahn lt parents nodes0).Pairwise
      (fun a b => ¬ Relation.TransGen (ParentIn parents (kahn lt parents nodes0)) b a) :=
  pairwise_ancestors (kahn_idNodup lt parents nodes0) (kahn_no_self lt parents nodes0 hac)
    (kahn_topological lt parents nodes0 hac)

/-! ## The two instances used by the library -/

/-- the Kahn node of an event for the power ordering -/
def powerNode (authMap : List Event) (createEv : Option Event) (e : Event) : KNode PowerKey :=
  { ev := e, key := { power := senderPower authMap createEv e, ts := e.originServerTS, id := e.eventID } }

def prevNode (e : Event) : KNode OtherKey :=
  { ev := e, key := ({ pos := 0, steps := 0, ts := e.originServerTS, id := e.eventID } : OtherKey) }

theorem reverseTopoAuth_eq_kahn (authMap : List Event) (createEv : Option Event) (evs : List Event) :
    reverseTopoAuth authMap createEv evs = kahn powerLt (fun e => e.authEventIDs) (evs.map (powerNode authMap createEv)) := rfl

theorem reverseTopoPrev_eq_kahn (evs : List Event) :
    reverseTopoPrev evs = kahn otherLt (fun e => e.prevEventIDs) (evs.map prevNode) := rfl

theorem mapNode_ids {κ : Type} (mk : Event → KNode κ) (hmk : ∀ e, (mk e).ev = e) {l1 l2 : List Event} (hU : IdsIn (l1 ++ l2)) :
    ∀ a ∈ l1.map mk ++ l2.map mk, ∀ b ∈ l1.map mk ++ l2.map mk, a.ev.eventID = b.ev.eventID → a = b := by
  intro a ha b hb hab
  rw [← List.map_append] at ha hb
  obtain ⟨x, hx, rfl⟩ := List.mem_map.mp ha
  obtain ⟨y, hy, rfl⟩ := List.mem_map.mp hb
  rw [hmk, hmk] at hab
  rw [hU x y hx hy hab]

theorem kNodes_map_ev {κ : Type} (mk : Event → KNode κ) (hmk : ∀ e, (mk e).ev = e) (l : List Event) :
    (kNodes (l.map mk)).map (·.ev) = eventMapFromEvents l := by
  have hmap : ∀ acc : List Event, (acc.map mk).map (·.ev) = acc := by
    intro acc; rw [List.map_map]; simp [Function.comp_def, hmk]
  suffices ∀ acc : List Event, (l.map mk).foldl kahnDedupStep (acc.map mk) = (l.foldl dedupStep acc).map mk by
    unfold kNodes
    have h := this []
    rw [List.map_nil] at h
    rw [h, hmap, eventMapFromEvents_eq]
  induction l with
  | nil => intro acc; rfl
  | cons a as ih =>
    intro acc
    rw [List.map_cons, List.foldl_cons, List.foldl_cons]
    have : kahnDedupStep (acc.map mk) (mk a) = (dedupStep acc a).map mk := by
      unfold kahnDedupStep dedupStep
      have hc : (acc.map mk).any (fun m => m.ev.eventID == (mk a).ev.eventID) = (findByID acc a.eventID).isSome := by
        unfold findByID
        rw [Bool.eq_iff_iff]
        simp [hmk]
      rw [hc]
      split
      · rfl
      · simp
    rw [this]; exact ih _

theorem KAcyclic.of_events {κ : Type} (mk : Event → KNode κ) (hmk : ∀ e, (mk e).ev = e) {parents : Event → List ID}
    {l : List Event}
    (h : ∃ rk : ID → Nat, ∀ e ∈ l, ∀ p ∈ parents e, p ∈ l.map (·.eventID) → rk p < rk e.eventID) :
    KAcyclic parents (l.map mk) := by
  obtain ⟨rk, hrk⟩ := h
  refine ⟨rk, ?_⟩
  intro n hn p hp hpm
  obtain ⟨e, he, rfl⟩ := List.mem_map.mp hn
  rw [hmk] at hp ⊢
  refine hrk e he p hp ?_
  obtain ⟨m, hm, rfl⟩ := List.mem_map.mp hpm
  obtain ⟨e', he', rfl⟩ := List.mem_map.mp hm
  rw [hmk]; exact List.mem_map.mpr ⟨e', he', rfl⟩

theorem reverseTopoAuth_perm (am : List Event) (ce : Option Event) (l : List Event) :
    reverseTopoAuth am ce l ~ eventMapFromEvents l := by
  rw [reverseTopoAuth_eq_kahn, ← kNodes_map_ev (powerNode am ce) (fun _ => rfl) l]
  exact kahn_perm _ _ _

theorem reverseTopoAuth_topological (am : List Event) (ce : Option Event) (l : List Event)
    (hac : ∃ rk : ID → Nat, ∀ e ∈ l, ∀ p ∈ e.authEventIDs, p ∈ l.map (·.eventID) → rk p < rk e.eventID) :
    (reverseTopoAuth am ce l).Pairwise (fun a b => b.eventID ∉ a.authEventIDs) := by
  rw [reverseTopoAuth_eq_kahn]
  exact kahn_topological _ _ _ (KAcyclic.of_events (powerNode am ce) (fun _ => rfl) hac)

theorem reverseTopoPrev_perm (l : List Event) : reverseTopoPrev l ~ eventMapFromEvents l := by
  rw [reverseTopoPrev_eq_kahn, ← kNodes_map_ev prevNode (fun _ => rfl) l]
  exact kahn_perm _ _ _

theorem reverseTopoPrev_topological (l : List Event)
    (hac : ∃ rk : ID → Nat, ∀ e ∈ l, ∀ p ∈ e.prevEventIDs, p ∈ l.map (·.eventID) → rk p < rk e.eventID) :
    (reverseTopoPrev l).Pairwise (fun a b => b.eventID ∉ a.prevEventIDs) := by
  rw [reverseTopoPrev_eq_kahn]
  exact kahn_topological _ _ _ (KAcyclic.of_events prevNode (fun _ => rfl) hac)

theorem reverseTopoAuth_subset (authMap : List Event) (createEv : Option Event) {l : List Event} {e : Event}
    (h : e ∈ reverseTopoAuth authMap createEv l) : e ∈ l :=
  mem_eventMap ((reverseTopoAuth_perm authMap createEv l).mem_iff.mp h)

theorem reverseTopoPrev_subset {l : List Event} {e : Event} (h : e ∈ reverseTopoPrev l) : e ∈ l :=
  mem_eventMap ((reverseTopoPrev_perm l).mem_iff.mp h)

theorem reverseTopoAuth_input_order_irrelevant (authMap : List Event) (createEv : Option Event) {l1 l2 : List Event}
    (hU : IdsIn (l1 ++ l2)) (h : SameSet l1 l2) :
    reverseTopoAuth authMap createEv l1 = reverseTopoAuth authMap createEv l2 := by
  rw [reverseTopoAuth_eq_kahn, reverseTopoAuth_eq_kahn]
  refine kahn_input_order_irrelevant powerLt powerLt_strictTotal _ _ _
    (mapNode_ids (powerNode authMap createEv) (fun _ => rfl) hU) ?_ (h.map _)
  intro a ha b hb hk
  obtain ⟨x, _, rfl⟩ := List.mem_map.mp ha
  obtain ⟨y, _, rfl⟩ := List.mem_map.mp hb
  exact congrArg PowerKey.id hk

end V.StateRes
