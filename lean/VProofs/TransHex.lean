/-
  readHexDigits (json.go) is SWAR code: the four ASCII hex digits sit in the four byte lanes of a `uint32`, the first
  steps turn each byte into its nibble without any lane disturbing another, and two shift-or steps pack the four
  nibbles into 16 bits. The proof follows the lanes. For the first steps the word is built one byte lane at a time under
  an invariant (`Nibs`: the steps computed in ℕ, nothing borrowed or carried; `Nibs.lane`: a further lane ends as its
  `nib`; `Nibs.u32`: below 2^32 the `uint32` steps are those); for the packing `&` and `|` act lane by lane on lists of
  4-bit lanes (`lanes_land`, `lanes_lor`); one digit is a fact about one byte (`digit_lane`).
-/
import VModel.GoSem
import VModel.Json
namespace V.Trans.Hex
open V.Json GoSem

/-- big-endian lanes of width `w`: `lanes 8 [a, b, c, d] = ((a * 256 + b) * 256 + c) * 256 + d` -/
def lanes (w : Nat) (xs : List Nat) : Nat := xs.foldl (fun acc x => acc * 2 ^ w + x) 0

/-- a bitwise operation (one that commutes with `/ 2^k` and `% 2^k`) acts separately above and below bit `k` -/
theorem split_lane {f : Nat → Nat → Nat} (hdiv : ∀ x y n, f x y / 2 ^ n = f (x / 2 ^ n) (y / 2 ^ n))
    (hmod : ∀ x y n, f x y % 2 ^ n = f (x % 2 ^ n) (y % 2 ^ n)) (k a b c d : Nat) (hb : b < 2 ^ k) (hd : d < 2 ^ k) :
    f (a * 2 ^ k + b) (c * 2 ^ k + d) = f a c * 2 ^ k + f b d := by
  have hi : ∀ a b, b < 2 ^ k → (a * 2 ^ k + b) / 2 ^ k = a := fun a b hb => by
    rw [Nat.mul_comm, Nat.mul_add_div (Nat.two_pow_pos k), Nat.div_eq_of_lt hb, Nat.add_zero]
  have h := Nat.div_add_mod (f (a * 2 ^ k + b) (c * 2 ^ k + d)) (2 ^ k)
  rw [hdiv, hmod, hi a b hb, hi c d hd, Nat.mul_add_mod_of_lt hb, Nat.mul_add_mod_of_lt hd] at h
  rw [← h, Nat.mul_comm]

theorem lanes_zipWith {f : Nat → Nat → Nat} (hdiv : ∀ x y n, f x y / 2 ^ n = f (x / 2 ^ n) (y / 2 ^ n))
    (hmod : ∀ x y n, f x y % 2 ^ n = f (x % 2 ^ n) (y % 2 ^ n)) (h0 : f 0 0 = 0) (w : Nat) (xs ys : List Nat)
    (hl : xs.length = ys.length) (hx : ∀ x ∈ xs, x < 2 ^ w) (hy : ∀ y ∈ ys, y < 2 ^ w) :
    f (lanes w xs) (lanes w ys) = lanes w (List.zipWith f xs ys) := by
  suffices ∀ (xs ys : List Nat) (a c : Nat), xs.length = ys.length → (∀ x ∈ xs, x < 2 ^ w) → (∀ y ∈ ys, y < 2 ^ w) →
      f (xs.foldl (fun acc x => acc * 2 ^ w + x) a) (ys.foldl (fun acc x => acc * 2 ^ w + x) c)
        = (List.zipWith f xs ys).foldl (fun acc x => acc * 2 ^ w + x) (f a c) by
    have h := this xs ys 0 0 hl hx hy
    rwa [h0] at h
  intro xs
  induction xs with
  | nil => intro ys a c hl _ _; cases ys with
    | nil => rfl
    | cons _ _ => simp at hl
  | cons x xs ih => intro ys a c hl hx hy; cases ys with
    | nil => simp at hl
    | cons y ys =>
      simp only [List.foldl_cons, List.zipWith_cons_cons]
      rw [ih ys _ _ (by simpa using hl) (fun z hz => hx z (List.mem_cons_of_mem _ hz))
        (fun z hz => hy z (List.mem_cons_of_mem _ hz)),
        split_lane hdiv hmod w a x c y (hx x List.mem_cons_self) (hy y List.mem_cons_self)]

theorem lanes_land (w : Nat) (xs ys : List Nat) (hl : xs.length = ys.length) (hx : ∀ x ∈ xs, x < 2 ^ w)
    (hy : ∀ y ∈ ys, y < 2 ^ w) : Nat.land (lanes w xs) (lanes w ys) = lanes w (List.zipWith (· &&& ·) xs ys) :=
  lanes_zipWith (f := (· &&& ·)) (fun _ _ _ => Nat.and_div_two_pow) (fun _ _ _ => Nat.and_mod_two_pow) rfl w xs ys hl hx hy

theorem lanes_lor (w : Nat) (xs ys : List Nat) (hl : xs.length = ys.length) (hx : ∀ x ∈ xs, x < 2 ^ w)
    (hy : ∀ y ∈ ys, y < 2 ^ w) : Nat.lor (lanes w xs) (lanes w ys) = lanes w (List.zipWith (· ||| ·) xs ys) :=
  lanes_zipWith (f := (· ||| ·)) (fun _ _ _ => Nat.or_div_two_pow) (fun _ _ _ => Nat.or_mod_two_pow) rfl w xs ys hl hx hy

/-- one byte lane through the first five steps: subtract `'0'`, keep five bits (this folds the lower-case letters onto
    the upper-case ones), then move the letters down from 17.. to 10.. using the letter bit `t &&& 16` -/
def nib (x : Nat) : Nat := ((x - 48) &&& 31) - ((x - 48) &&& 31 &&& 16) / 2 + ((x - 48) &&& 31 &&& 16) / 16

theorem digit_lane : ∀ c : UInt8, isHex c = true → 48 ≤ c.toNat ∧ hexVal c < 16 ∧ nib c.toNat = hexVal c := by
  apply GoSem.forall_uint8
  decide +kernel

theorem u32sub_of_le {x y : Nat} (h : y ≤ x) (hx : x < 4294967296) : u32sub x y = x - y := by
  simp only [u32sub, u32mod]; omega

theorem u32add_of_lt {x y : Nat} (h : x + y < 4294967296) : u32add x y = x + y := by
  simp only [u32add, u32mod]; omega

/-- The first five steps on a word of byte lanes, with the three constants `k48`, `k31`, `k16` (the same byte in every
    lane), computed in ℕ without wrapping: the word is `k48 + d`, `q` holds the letter bits of `d &&& k31` (so the mask is
    `16 * q`), the subtractions lose nothing and the result is `r`. -/
def Nibs (a k48 k31 k16 r : Nat) : Prop :=
  ∃ d q, a = k48 + d ∧ d &&& k31 &&& k16 = 16 * q ∧ 8 * q ≤ d &&& k31 ∧ r + 8 * q = (d &&& k31) + q

/-- one more byte lane below: it goes through the steps on its own and ends as its `nib` -/
theorem Nibs.lane {a k48 k31 k16 r b : Nat} (h : Nibs a k48 k31 k16 r) (l : 48 ≤ b) (u : b < 256) :
    Nibs (a * 256 + b) (k48 * 256 + 48) (k31 * 256 + 31) (k16 * 256 + 16) (r * 256 + nib b) := by
  obtain ⟨d, q, rfl, hq, h3, h4⟩ := h
  have and8 := fun a b c d hb hd => split_lane (f := (· &&& ·)) (fun _ _ _ => Nat.and_div_two_pow)
    (fun _ _ _ => Nat.and_mod_two_pow) 8 a b c d hb hd
  have ht : (b - 48) &&& 31 < 32 := Nat.and_lt_two_pow _ (n := 5) (by decide)
  obtain ⟨p, hp⟩ : 16 ∣ (b - 48) &&& 31 &&& 16 :=
    Nat.dvd_of_mod_eq_zero (by rw [Nat.and_mod_two_pow (n := 4)]; exact Nat.and_zero _)
  have hle : (b - 48) &&& 31 &&& 16 ≤ (b - 48) &&& 31 := Nat.and_le_left
  have e2 := and8 d (b - 48) k31 31 (by omega) (by decide)
  have e3 := and8 (d &&& k31) ((b - 48) &&& 31) k16 16 (by omega) (by decide)
  refine ⟨d * 256 + (b - 48), q * 256 + p, by omega, ?_⟩
  unfold nib
  rw [e2, e3, hq, hp, show 16 * p / 2 = 8 * p by omega, Nat.mul_div_cancel_left p (by decide : 0 < 16)]
  rw [hp] at hle
  clear e2 e3 and8 hp hq u l
  generalize d &&& k31 = H at *
  generalize (b - 48) &&& 31 = t at *
  exact ⟨by omega, by omega, by omega⟩

/-- below 2^32 the `uint32` steps are the steps in ℕ -/
theorem Nibs.u32 {a k48 k31 k16 r : Nat} (n : Nibs a k48 k31 k16 r) (ha : a < 4294967296) :
    let h := Nat.land (u32sub a k48) k31
    let m := Nat.land h k16
    u32add (u32sub h (Nat.shiftRight m 1)) (Nat.shiftRight m 4) = r := by
  obtain ⟨d, q, rfl, hq, h3, h4⟩ := n
  intro h m
  have eh : h = d &&& k31 := congrArg (Nat.land · k31) ((u32sub_of_le (Nat.le_add_right _ _) ha).trans (Nat.add_sub_cancel_left ..))
  have em : m = 16 * q := by rw [← hq, ← eh]; rfl
  have hd : d &&& k31 ≤ d := Nat.and_le_left
  have e1 : Nat.shiftRight m 1 = 8 * q := by rw [em]; exact (Nat.shiftRight_eq_div_pow _ 1).trans (by omega)
  have e4 : Nat.shiftRight m 4 = q := by rw [em]; exact (Nat.shiftRight_eq_div_pow _ 4).trans (by omega)
  rw [e1, e4, eh, u32sub_of_le h3 (by omega), u32add_of_lt (by omega)]
  omega

/-- the first five steps turn four bytes `≥ '0'` into their `nib`s: four lanes added to the empty word -/
theorem nibbles (x3 x2 x1 x0 : Nat) (l3 : 48 ≤ x3) (l2 : 48 ≤ x2) (l1 : 48 ≤ x1) (l0 : 48 ≤ x0)
    (u3 : x3 < 256) (u2 : x2 < 256) (u1 : x1 < 256) (u0 : x0 < 256) :
    let h := Nat.land (u32sub (((x3 * 256 + x2) * 256 + x1) * 256 + x0) 808464432) 522133279
    let m := Nat.land h 269488144
    u32add (u32sub h (Nat.shiftRight m 1)) (Nat.shiftRight m 4) = lanes 8 [nib x3, nib x2, nib x1, nib x0] := by
  have n : Nibs ((((0 * 256 + x3) * 256 + x2) * 256 + x1) * 256 + x0) 808464432 522133279 269488144
      (lanes 8 [nib x3, nib x2, nib x1, nib x0]) :=
    ((((show Nibs 0 0 0 0 0 from ⟨0, 0, rfl, rfl, Nat.le_refl 0, rfl⟩).lane l3 u3).lane l2 u2).lane l1 u1).lane l0 u0
  rw [Nat.zero_mul, Nat.zero_add] at n
  exact n.u32 (by omega)

/-- `hex |= hex >> 4; hex &= 0x00FF00FF; hex |= hex >> 8; hex & 0xFFFF` packs four nibbles, one per byte, into 16 bits:
    seen as eight 4-bit lanes, every step is a lane shift, a lane-wise `|` or a lane mask -/
theorem pack (v3 v2 v1 v0 : Nat) (h3 : v3 < 16) (h2 : v2 < 16) (h1 : v1 < 16) (h0 : v0 < 16) :
    let h := lanes 8 [v3, v2, v1, v0]
    let h := Nat.land (Nat.lor h (Nat.shiftRight h 4)) 16711935
    Nat.land (Nat.lor h (Nat.shiftRight h 8)) 65535 = ((v3 * 16 + v2) * 16 + v1) * 16 + v0 := by
  have e0 : lanes 8 [v3, v2, v1, v0] = lanes 4 [0, v3, 0, v2, 0, v1, 0, v0] := by
    simp only [lanes, List.foldl]; omega
  have e1 : Nat.shiftRight (lanes 4 [0, v3, 0, v2, 0, v1, 0, v0]) 4 = lanes 4 [0, 0, v3, 0, v2, 0, v1, 0] := by
    show _ >>> 4 = _
    simp only [lanes, List.foldl, Nat.shiftRight_eq_div_pow]; omega
  have e2 := lanes_lor 4 [0, v3, 0, v2, 0, v1, 0, v0] [0, 0, v3, 0, v2, 0, v1, 0] rfl (by simp; omega) (by simp; omega)
  have e3 := lanes_land 4 [0, v3, v3, v2, v2, v1, v1, v0] [0, 0, 15, 15, 0, 0, 15, 15] rfl (by simp; omega) (by decide)
  have e4 : Nat.shiftRight (lanes 4 [0, 0, v3, v2, 0, 0, v1, v0]) 8 = lanes 4 [0, 0, 0, 0, v3, v2, 0, 0] := by
    show _ >>> 8 = _
    simp only [lanes, List.foldl, Nat.shiftRight_eq_div_pow]; omega
  have e5 := lanes_lor 4 [0, 0, v3, v2, 0, 0, v1, v0] [0, 0, 0, 0, v3, v2, 0, 0] rfl (by simp; omega) (by simp; omega)
  have e6 := lanes_land 4 [0, 0, v3, v2, v3, v2, v1, v0] [0, 0, 0, 0, 15, 15, 15, 15] rfl (by simp; omega) (by decide)
  have low : ∀ v, v < 16 → v &&& 15 = v := fun v hv => Nat.and_two_pow_sub_one_of_lt_two_pow (n := 4) hv
  simp only [List.zipWith, Nat.zero_or, Nat.or_zero, Nat.and_zero, low _ h3, low _ h2, low _ h1, low _ h0] at e2 e3 e5 e6
  intro h h'
  have eh' : h' = lanes 4 [0, 0, v3, v2, 0, 0, v1, v0] := by
    show Nat.land (Nat.lor (lanes 8 _) (Nat.shiftRight (lanes 8 _) 4)) (lanes 4 [0, 0, 15, 15, 0, 0, 15, 15]) = _
    rw [e0, e1, e2, e3]
  show Nat.land (Nat.lor h' (Nat.shiftRight h' 8)) (lanes 4 [0, 0, 0, 0, 15, 15, 15, 15]) = _
  rw [eh', e4, e5, e6]
  simp only [lanes, List.foldl]; omega

end V.Trans.Hex
