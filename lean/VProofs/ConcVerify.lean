import VModel.ConcVerify
import VProofs.KeyRing
namespace V.Conc.Verify
open V.KeyRing List

theorem dbAnswer_nil (db : KeyMap) : dbAnswer db [] = [] := by
  unfold dbAnswer
  induction db with
  | nil => rfl
  | cons e rest ih => simp [List.filter, AList.contains, AList.lookup]

theorem dbStore_nil (db : KeyMap) : dbStore db [] = db := rfl

theorem mem_dbStore {db m : KeyMap} {e : KeyReq × KeyRes} (h : e ∈ dbStore db m) : e ∈ db ∨ e ∈ m := by
  unfold dbStore at h
  induction m generalizing db with
  | nil => exact Or.inl h
  | cons x rest ih =>
    simp only [foldl_cons] at h
    rcases ih h with h1 | h1
    · rcases AList.mem_insert h1 with h2 | h2
      · right; rw [h2]; simp
      · exact Or.inl h2
    · exact Or.inr (List.mem_cons_of_mem _ h1)

theorem lookup_dbStore (db m : KeyMap) (q : KeyReq) :
    AList.lookup q (dbStore db m) = AList.lookup q db ∨ ∃ v, (q, v) ∈ m ∧ AList.lookup q (dbStore db m) = some v := by
  unfold dbStore
  induction m generalizing db with
  | nil => exact Or.inl rfl
  | cons x rest ih =>
    simp only [foldl_cons]
    rcases ih (AList.insert x.1 x.2 db) with h1 | ⟨v, hv, h1⟩
    · by_cases hx : x.1 = q
      · right
        refine ⟨x.2, by rw [← hx]; simp, ?_⟩
        rw [h1, ← hx]; exact AList.lookup_insert_self _ _ _
      · left; rw [h1]; exact AList.lookup_insert_ne _ _ (fun h => hx h.symm)
    · exact Or.inr ⟨v, List.mem_cons_of_mem _ hv, h1⟩

/-- a move of caller `c` as two functions of its program counter: where it goes (the database is read at `atRead` only) and,
    `nextDB`, what becomes of the database -/
def nextPC (c : Caller) (now : Nat) (db : KeyMap) : PC → PC
  | .idle => if (asked c).isEmpty then .done (localRun c now []).1 else .atRead
  | .atRead => (afterRead c now (dbAnswer db (asked c))).1
  | .atFetch snap => (afterFetch c now snap).1
  | .atStore out _ => .done out
  | .done r => .done r

def nextDB (db : KeyMap) : PC → KeyMap
  | .atStore _ m => dbStore db m
  | _ => db

/-- a move does nothing (no such caller, or it has returned), or it advances the caller's program counter and writes its
    pending store -/
theorem poke_cases (cs : List Caller) (now : Nat) (s : State) (g : Nat) :
    (poke cs now s g).1 = s ∨ ∃ c pc, cs[g]? = some c ∧ s.pcs[g]? = some pc ∧ isDone pc = false ∧
      (poke cs now s g).1 = ⟨nextDB s.db pc, s.pcs.set g (nextPC c now s.db pc)⟩ := by
  unfold poke
  cases hc : cs[g]? with
  | none => exact .inl rfl
  | some c =>
  cases hp : s.pcs[g]? with
  | none => exact .inl rfl
  | some pc =>
  cases pc with
  | done r => exact .inl rfl
  | idle =>
    refine .inr ⟨c, _, rfl, rfl, rfl, ?_⟩
    simp only [nextPC, nextDB]
    split <;> rfl
  | _ => exact .inr ⟨c, _, rfl, rfl, rfl, rfl⟩

/-- no key requests: the call returns before it reads the database; the sequential model says the same whatever the database -/
theorem localRun_of_asked_empty {c : Caller} {now : Nat} (h : (asked c).isEmpty = true) (snap : KeyMap) :
    localRun c now snap = (.ok (results0 c.reqs), {}) := by
  unfold localRun
  rw [verifyJSONs_eq]
  have : (keyRequests0 c.reqs).isEmpty = true := h  -- `asked c` unfolds to `keyRequests0 c.reqs`
  simp [this]

theorem runAlone_fst (c : Caller) (now : Nat) (db : KeyMap) :
    (runAlone c now db).1 = (localRun c now (dbAnswer db (asked c))).1 := rfl

theorem runAlone_snd (c : Caller) (now : Nat) (db : KeyMap) :
    (runAlone c now db).2 = match (localRun c now (dbAnswer db (asked c))).2.stored with
      | some m => dbStore db m
      | none => db := rfl

/-- the shapes of a caller's program counter when its database read saw `dv` -/
def PCInv (c : Caller) (now : Nat) (dv : KeyMap) : PC → Prop
  | .idle => True
  | .atRead => True
  | .atFetch snap => snap = dbAnswer dv (asked c)
  | .atStore r m => r = (localRun c now (dbAnswer dv (asked c))).1 ∧ (localRun c now (dbAnswer dv (asked c))).2.stored = some m
  | .done r => r = (runAlone c now dv).1

theorem toStoreBarrier_inv (c : Caller) (now : Nat) (dv : KeyMap) :
    PCInv c now dv (toStoreBarrier (localRun c now (dbAnswer dv (asked c))).1 (localRun c now (dbAnswer dv (asked c))).2).1 := by
  unfold toStoreBarrier
  split
  · rename_i m hm; exact ⟨rfl, hm⟩
  · exact runAlone_fst c now dv

theorem toStoreBarrier_done {out : Except CallErr (List Bool)} {tr : Trace} (h : isDone (toStoreBarrier out tr).1 = true) :
    tr.stored = none := by
  unfold toStoreBarrier at h
  split at h
  · cases h
  · assumption

/-- one move of a caller that saw `dv`: its program counter stays that of a run on `dv`, and if the move lets it return,
    what the move did to the database is what running the caller alone on `dv` does.  `hr`: a caller about to read reads `dv`. -/
theorem next_spec {c : Caller} {now : Nat} {dv db : KeyMap} {pc : PC} (h : PCInv c now dv pc) (hr : pc = .atRead → db = dv) :
    PCInv c now dv (nextPC c now db pc) ∧
      (isDone pc = false → isDone (nextPC c now db pc) = true → nextDB dv pc = (runAlone c now dv).2) := by
  have fin : ∀ {out}, isDone (toStoreBarrier out (localRun c now (dbAnswer dv (asked c))).2).1 = true →
      dv = (runAlone c now dv).2 := fun hd => by rw [runAlone_snd, toStoreBarrier_done hd]
  cases pc with
  | idle =>
    simp only [nextPC]
    split
    · next he =>
      refine ⟨?_, fun _ _ => ?_⟩
      · show _ = (runAlone c now dv).1
        rw [runAlone_fst, localRun_of_asked_empty he, localRun_of_asked_empty he]
      · rw [runAlone_snd, localRun_of_asked_empty he]; rfl
    · exact ⟨trivial, fun _ hd => nomatch hd⟩
  | atRead =>
    rw [hr rfl]
    simp only [nextPC, afterRead]
    split
    · exact ⟨rfl, fun _ hd => nomatch hd⟩
    · exact ⟨toStoreBarrier_inv c now dv, fun _ => fin⟩
  | atFetch snap =>
    simp only [PCInv] at h
    subst h
    simp only [nextPC, afterFetch]
    exact ⟨toStoreBarrier_inv c now dv, fun _ => fin⟩
  | atStore r m =>
    simp only [PCInv] at h
    exact ⟨h.1, fun _ _ => by rw [runAlone_snd, h.2]; rfl⟩
  | done r => exact ⟨h, fun hnd => nomatch hnd⟩

theorem init_pc {db : KeyMap} {k g : Nat} {pc : PC} (h : (init db k).pcs[g]? = some pc) : pc = .idle := by
  simp only [init, List.getElem?_replicate] at h
  split at h <;> cases h
  rfl

/-! ## every caller computes what the sequential model computes on the database answer it read -/

/-- each caller's program counter is that of a run of the sequential model on some database `dv` (nothing ties `dv` to the
    states the shared database went through) -/
def WF (cs : List Caller) (now : Nat) (s : State) : Prop :=
  ∀ (g : Nat) (pc : PC), s.pcs[g]? = some pc → ∀ c, cs[g]? = some c → ∃ dv, PCInv c now dv pc

theorem wf_poke {cs : List Caller} {now : Nat} {s : State} (h : WF cs now s) (g : Nat) : WF cs now (poke cs now s g).1 := by
  rcases poke_cases cs now s g with e | ⟨c, pc, hc, hp, -, e⟩ <;> rw [e]
  · exact h
  refine Lists.forall_getElem?_set hp h fun c' hc' => ?_
  cases hc.symm.trans hc'
  obtain ⟨dv, hdv⟩ := h g pc hp c hc
  cases pc with
  | atRead => exact ⟨s.db, (next_spec (pc := .atRead) trivial (fun _ => rfl)).1⟩  -- the read fixes the database state the caller sees
  | _ => exact ⟨dv, (next_spec hdv nofun).1⟩

theorem wf_of_reachable {cs : List Caller} {now : Nat} {db0 : KeyMap} {s : State} (h : Reachable cs now db0 s) : WF cs now s := by
  induction h with
  | init =>
    intro g pc hpc c _
    exact ⟨db0, init_pc hpc ▸ trivial⟩
  | step g _ ih => exact wf_poke ih g

/-- what one move does to the shared database: nothing, or it stores a map that came out of the mover's own fetchers -/
theorem db_poke_fetched {cs : List Caller} {now : Nat} {db0 : KeyMap} {s : State} (h : Reachable cs now db0 s) (g : Nat) :
    (poke cs now s g).1.db = s.db ∨
      ∃ c m, cs[g]? = some c ∧ (poke cs now s g).1.db = dbStore s.db m ∧ ∀ e ∈ m, ∃ m', some m' ∈ c.fetchers ∧ e ∈ m' := by
  rcases poke_cases cs now s g with e | ⟨c, pc, hc, hp, -, e⟩ <;> rw [e]
  · exact .inl rfl
  · cases pc with
    | atStore r m =>
      refine .inr ⟨c, m, hc, rfl, fun e he => ?_⟩
      -- what a caller is about to store is `stored` of a sequential run
      obtain ⟨dv, -, hst⟩ := wf_of_reachable h g _ hp c hc
      obtain ⟨_, _, m', hm', hem⟩ := verifyJSONs_stored_mem (rfl : localRun c now _ = (_, _)) m hst e he
      exact ⟨m', List.mem_of_getElem? hm', hem⟩
    | _ => exact .inl rfl

/-! ## at most one caller ever has something to store: every interleaving is a sequential execution -/

/-- the database once caller `x` has run alone on `db0` (`db0` itself if there is no caller `x`) -/
def dbAfter (cs : List Caller) (now : Nat) (db0 : KeyMap) (x : Nat) : KeyMap :=
  match cs[x]? with
  | some c => (runAlone c now db0).2
  | none => db0

/-- caller `x`, the one that may write, has finished -/
def xDone (x : Nat) (s : State) : Prop := ∃ pc, s.pcs[x]? = some pc ∧ isDone pc = true

/-- the callers other than `x` never have anything to store, whatever they read (`some []`: a call whose fetchers answered
    nothing still calls `StoreKeys`, with an empty map) -/
def Silent (cs : List Caller) (now : Nat) (x : Nat) : Prop :=
  ∀ (g : Nat) (c : Caller), g ≠ x → cs[g]? = some c →
    ∀ snap, (localRun c now snap).2.stored = none ∨ (localRun c now snap).2.stored = some []

theorem xDone_iff {x : Nat} {s : State} {pc : PC} (hp : s.pcs[x]? = some pc) : xDone x s ↔ isDone pc = true :=
  ⟨fun ⟨_, h1, h2⟩ => by rw [hp] at h1; cases h1; exact h2, fun h => ⟨pc, hp, h⟩⟩

theorem Silent.store_nil {cs : List Caller} {now : Nat} {x g : Nat} {c : Caller} (hsil : Silent cs now x) (hg : g ≠ x)
    (hc : cs[g]? = some c) {dv : KeyMap} {r : Except CallErr (List Bool)} {m : KeyMap} (h : PCInv c now dv (.atStore r m)) : m = [] := by
  obtain ⟨-, hst⟩ := h
  rcases hsil g c hg hc (dbAnswer dv (asked c)) with h2 | h2 <;> rw [h2] at hst
  · cases hst
  · exact (Option.some.inj hst).symm

/-- With `x` the one caller that stores anything (`Silent`): the database is `db0` until `x` has finished and `dbAfter`
    from then on; `x` computes on `db0`; every other caller computes on whichever of the two it read. -/
structure Inv (cs : List Caller) (now : Nat) (db0 : KeyMap) (x : Nat) (s : State) : Prop where
  len : s.pcs.length = cs.length
  dbDone : xDone x s → s.db = dbAfter cs now db0 x
  dbNot : ¬ xDone x s → s.db = db0
  writer : ∀ (c : Caller) (pc : PC), cs[x]? = some c → s.pcs[x]? = some pc → PCInv c now db0 pc
  silent : ∀ (g : Nat) (c : Caller) (pc : PC), g ≠ x → cs[g]? = some c → s.pcs[g]? = some pc →
      PCInv c now db0 pc ∨ (xDone x s ∧ PCInv c now (dbAfter cs now db0 x) pc)

theorem inv_init (cs : List Caller) (now : Nat) (db0 : KeyMap) (x : Nat) : Inv cs now db0 x (init db0 cs.length) := by
  refine ⟨by simp [init], ?_, fun _ => rfl, ?_, ?_⟩
  · rintro ⟨pc, hpc, hd⟩
    rw [init_pc hpc] at hd; cases hd
  · intro c pc _ hpc; rw [init_pc hpc]; trivial
  · intro g c pc _ _ hpc; rw [init_pc hpc]; exact Or.inl trivial

theorem inv_poke {cs : List Caller} {now : Nat} {db0 : KeyMap} {x : Nat} (hsil : Silent cs now x) {s : State}
    (h : Inv cs now db0 x s) (g : Nat) : Inv cs now db0 x (poke cs now s g).1 := by
  rcases poke_cases cs now s g with e | ⟨c, pc, hc, hp, hd, e⟩ <;> rw [e]
  · exact h
  have hself : (s.pcs.set g (nextPC c now s.db pc))[g]? = some (nextPC c now s.db pc) :=
    List.getElem?_set_self (List.getElem?_eq_some_iff.1 hp).1
  have hlen : (s.pcs.set g (nextPC c now s.db pc)).length = cs.length := List.length_set.trans h.len
  by_cases hgx : g = x
  · -- the writer moves: it has not returned, so the database is still the initial one
    subst hgx
    have hnx : ¬ xDone g s := fun hx => by rw [(xDone_iff hp).1 hx] at hd; cases hd
    have hdb0 : s.db = db0 := h.dbNot hnx
    have hinv := h.writer c pc hc hp
    refine ⟨hlen, fun hx' => ?_, fun hnx' => ?_, fun c' pc' hc' hpc' => ?_, fun g' c' pc' hg' hc' hpc' => ?_⟩
    · show nextDB s.db pc = dbAfter cs now db0 g
      rw [hdb0, (next_spec hinv (fun _ => hdb0)).2 hd ((xDone_iff hself).1 hx')]
      simp only [dbAfter, hc]
    · show nextDB s.db pc = db0
      -- a pending store is written by the move that lets its caller return
      cases pc with
      | atStore r m => exact absurd ((xDone_iff hself).2 rfl) hnx'
      | _ => exact hdb0
    · rw [hself] at hpc'; cases hpc'
      rw [hc] at hc'; cases hc'
      exact (next_spec hinv (fun _ => hdb0)).1
    · rw [List.getElem?_set_ne (Ne.symm hg')] at hpc'
      exact (h.silent g' c' pc' hg' hc' hpc').imp_right fun hx => absurd hx.1 hnx
  · -- a silent caller moves: the database stays as it is
    have hxd' : xDone x ⟨nextDB s.db pc, s.pcs.set g (nextPC c now s.db pc)⟩ ↔ xDone x s := by
      unfold xDone; rw [show (State.mk _ _).pcs[x]? = s.pcs[x]? from List.getElem?_set_ne hgx]
    have hview := h.silent g c pc hgx hc hp
    have hdbs : nextDB s.db pc = s.db := by
      cases pc with
      | atStore r m =>
        have hm : m = [] := hview.elim (hsil.store_nil hgx hc) (fun h1 => hsil.store_nil hgx hc h1.2)
        subst hm; rfl
      | _ => rfl
    rw [hdbs]
    refine ⟨hlen, fun hx => h.dbDone (hxd'.1 hx), fun hn => h.dbNot (fun hx => hn (hxd'.2 hx)), fun c' pc' hc' hpc' => ?_,
      fun g' c' pc' hg' hc' hpc' => ?_⟩
    · rw [show (State.mk _ _).pcs[x]? = s.pcs[x]? from List.getElem?_set_ne hgx] at hpc'
      exact h.writer c' pc' hc' hpc'
    · by_cases hgg : g = g'
      · subst hgg
        rw [hself] at hpc'; cases hpc'
        rw [hc] at hc'; cases hc'
        by_cases hread : pc = .atRead
        · -- the read fixes the view: the database as it is now
          by_cases hx : xDone x s
          · exact Or.inr ⟨hxd'.2 hx, (next_spec (by rw [hread]; trivial) (fun _ => h.dbDone hx)).1⟩
          · exact Or.inl (next_spec (by rw [hread]; trivial) (fun _ => h.dbNot hx)).1
        · exact hview.imp (fun h1 => (next_spec h1 (fun he => absurd he hread)).1)
            (fun ⟨hx, h1⟩ => ⟨hxd'.2 hx, (next_spec h1 (fun he => absurd he hread)).1⟩)
      · rw [show (State.mk _ _).pcs[g']? = s.pcs[g']? from List.getElem?_set_ne hgg] at hpc'
        exact (h.silent g' c' pc' hg' hc' hpc').imp_right fun ⟨hx, h1⟩ => ⟨hxd'.2 hx, h1⟩

theorem inv_of_reachable {cs : List Caller} {now : Nat} {db0 : KeyMap} {x : Nat} (hsil : Silent cs now x) {s : State}
    (h : Reachable cs now db0 s) : Inv cs now db0 x s := by
  induction h with
  | init => exact inv_init cs now db0 x
  | step g _ ih => exact inv_poke hsil ih g

theorem reachable_run {cs : List Caller} {now : Nat} {db0 : KeyMap} {s : State} (h : Reachable cs now db0 s) (sched : List Nat) :
    Reachable cs now db0 (run cs now s sched) := by
  induction sched generalizing s with
  | nil => exact h
  | cons g rest ih => exact ih (Reachable.step g h)

theorem serial_append (cs : List Caller) (now : Nat) (l1 l2 : List Nat) (db : KeyMap) :
    serial cs now (l1 ++ l2) db =
      ((serial cs now l1 db).1 ++ (serial cs now l2 (serial cs now l1 db).2).1, (serial cs now l2 (serial cs now l1 db).2).2) := by
  induction l1 generalizing db with
  | nil => simp [serial]
  | cons g rest ih =>
    simp only [List.cons_append, serial]
    cases cs[g]? with
    | none => exact ih db
    | some c => simp only [ih, List.cons_append]

/-- what caller `g` gets when it runs alone on `db` -/
def resAt (cs : List Caller) (now : Nat) (db : KeyMap) (g : Nat) : Option (Nat × Except CallErr (List Bool)) :=
  match cs[g]? with
  | some c => some (g, (runAlone c now db).1)
  | none => none

theorem runAlone_silent {cs : List Caller} {now : Nat} {x : Nat} (hsil : Silent cs now x) {g : Nat} {c : Caller}
    (hg : g ≠ x) (hc : cs[g]? = some c) (db : KeyMap) : (runAlone c now db).2 = db := by
  rw [runAlone_snd]
  rcases hsil g c hg hc (dbAnswer db (asked c)) with h | h <;> rw [h]
  rfl

/-- what the callers hold in `s`, listed in the given order -/
def heldIn (s : State) (order : List Nat) : List (Nat × Except CallErr (List Bool)) :=
  order.filterMap (fun g => (resultOf s g).map (fun r => (g, r)))

/-- callers that have nothing to store, one after the other: the database stays as it is, each gets what it gets alone -/
theorem serial_silent {cs : List Caller} {now : Nat} {x : Nat} (hsil : Silent cs now x) {s : State} (l : List Nat)
    (hl : ∀ g ∈ l, g ≠ x) (db : KeyMap) (hres : ∀ g ∈ l, resAt cs now db g = (resultOf s g).map (fun r => (g, r))) :
    serial cs now l db = (heldIn s l, db) := by
  induction l with
  | nil => rfl
  | cons g rest ih =>
    have hrest := ih (fun g' hg' => hl g' (List.mem_cons_of_mem _ hg')) (fun g' hg' => hres g' (List.mem_cons_of_mem _ hg'))
    unfold heldIn at hrest ⊢
    rw [List.filterMap_cons, ← hres g List.mem_cons_self]
    simp only [serial, resAt]
    cases hc : cs[g]? with
    | none => exact hrest
    | some c => simp only; rw [runAlone_silent hsil (hl g List.mem_cons_self) hc db, hrest]

theorem resultOf_done {s : State} {g : Nat} {r : Except CallErr (List Bool)} (h : s.pcs[g]? = some (PC.done r)) : resultOf s g = some r := by
  unfold resultOf; rw [h]

theorem resAt_of_view {cs : List Caller} {now : Nat} {s : State} {g : Nat} {c : Caller} {r : Except CallErr (List Bool)} {dv : KeyMap}
    (hc : cs[g]? = some c) (hr : s.pcs[g]? = some (PC.done r)) (h : PCInv c now dv (.done r)) :
    resAt cs now dv g = (resultOf s g).map (fun r => (g, r)) := by
  unfold resAt
  rw [hc, resultOf_done hr, show r = _ from h]
  rfl

/-- **Every interleaving is a sequential execution** when at most one caller (`x`) ever has something to store: in a state
    in which every caller has returned, the callers' results and the database are those of running the calls one after
    the other in some order: the silent callers that hold what they get on `db0`, then `x`, then the other silent callers, who
    read after the store of `x`. -/
theorem serializable_of_inv {cs : List Caller} {now : Nat} {db0 : KeyMap} {x : Nat} (hsil : Silent cs now x) {s : State}
    (h : Inv cs now db0 x s) (hall : ∀ g, g < cs.length → ∃ r, s.pcs[g]? = some (PC.done r)) :
    ∃ order : List Nat, order.Perm (List.range cs.length) ∧ serial cs now order db0 = (heldIn s order, s.db) := by
  classical
  -- the callers who hold what they get alone on the initial database
  let A : Nat → Bool := fun g => decide (resAt cs now db0 g = (resultOf s g).map (fun r => (g, r)))
  let L := (List.range cs.length).filter (fun g => decide (g ≠ x))
  let X := (List.range cs.length).filter (fun g => !decide (g ≠ x))
  let LA := L.filter A
  let LB := L.filter (fun g => !A g)
  have hL : ∀ g ∈ L, g ≠ x ∧ g < cs.length := fun g hg =>
    ⟨by simpa using (List.mem_filter.1 hg).2, List.mem_range.1 (List.mem_filter.1 hg).1⟩
  have hXx : ∀ g ∈ X, g = x := fun g hg => by simpa using (List.mem_filter.1 hg).2
  have hXn : X.Nodup := List.Pairwise.filter _ List.nodup_range
  refine ⟨LA ++ (X ++ LB), ?_, ?_⟩
  · have h1 : (LA ++ LB).Perm L := List.filter_append_perm A L
    have h2 : (L ++ X).Perm (List.range cs.length) := List.filter_append_perm (fun g => decide (g ≠ x)) (List.range cs.length)
    have h3 : (LA ++ (X ++ LB)).Perm (LA ++ (LB ++ X)) := List.Perm.append_left LA List.perm_append_comm
    have h4 : (LA ++ (LB ++ X)).Perm (L ++ X) := by
      rw [← List.append_assoc]; exact List.Perm.append_right X h1
    exact h3.trans (h4.trans h2)
  · have hLAx : ∀ g ∈ LA, g ≠ x := fun g hg => (hL g (List.mem_filter.1 hg).1).1
    have hLBx : ∀ g ∈ LB, g ≠ x := fun g hg => (hL g (List.mem_filter.1 hg).1).1
    have hA : serial cs now LA db0 = (heldIn s LA, db0) :=
      serial_silent hsil LA hLAx db0 (fun g hg => of_decide_eq_true (List.mem_filter.1 hg).2)
    -- the other silent callers read the database after caller x's store
    have hB : ∀ g ∈ LB, xDone x s ∧ resAt cs now (dbAfter cs now db0 x) g = (resultOf s g).map (fun r => (g, r)) := by
      intro g hg
      obtain ⟨hgx, hlt⟩ := hL g (List.mem_filter.1 hg).1
      obtain ⟨r, hr⟩ := hall g hlt
      have hc : cs[g]? = some cs[g] := List.getElem?_eq_getElem hlt
      have hnA : ¬ resAt cs now db0 g = (resultOf s g).map (fun r => (g, r)) := by simpa [A] using (List.mem_filter.1 hg).2
      rcases h.silent g _ _ hgx hc hr with h1 | ⟨hx, h1⟩
      · exact absurd (resAt_of_view hc hr h1) hnA
      · exact ⟨hx, resAt_of_view hc hr h1⟩
    rw [serial_append, hA]
    simp only
    rcases Lists.eq_nil_or_singleton hXn hXx with hX | hX
    · -- there is no caller x: nobody stores anything
      have hnx : ¬ xDone x s := fun ⟨pc, hpc, _⟩ => by
        have hxl : x < cs.length := h.len ▸ (List.getElem?_eq_some_iff.1 hpc).1
        have : x ∈ X := List.mem_filter.2 ⟨List.mem_range.2 hxl, by simp⟩
        rw [hX] at this; cases this
      have hLBnil : LB = [] := List.eq_nil_iff_forall_not_mem.2 fun g hg => hnx (hB g hg).1
      rw [hX, hLBnil]
      simp only [List.append_nil, serial, h.dbNot hnx]
    · -- caller x runs between the two groups
      have hxl : x < cs.length := List.mem_range.1 (List.mem_filter.1 (hX ▸ List.mem_singleton_self x : x ∈ X)).1
      obtain ⟨c, hc⟩ : ∃ c, cs[x]? = some c := ⟨cs[x], List.getElem?_eq_getElem hxl⟩
      obtain ⟨r, hr⟩ := hall x hxl
      have hx : xDone x s := ⟨_, hr, rfl⟩
      have hw := h.writer c _ hc hr
      simp only [PCInv] at hw
      have hafter : dbAfter cs now db0 x = (runAlone c now db0).2 := by simp only [dbAfter, hc]
      have hLB : serial cs now LB (dbAfter cs now db0 x) = (heldIn s LB, dbAfter cs now db0 x) :=
        serial_silent hsil LB hLBx _ (fun g hg => (hB g hg).2)
      rw [hX]
      simp only [List.singleton_append, serial, hc, ← hafter, hLB]
      unfold heldIn
      simp only [List.filterMap_append, List.filterMap_cons, resultOf_done hr, Option.map_some, ← hw, h.dbDone hx]

end V.Conc.Verify
