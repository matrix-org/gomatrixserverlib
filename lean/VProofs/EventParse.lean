/-
  What the event constructors of VModel.EventParse return, stage by stage; the event ID of the hashed formats
  (`referenceID_hashed`, `eventID_ok_iff`); what `deleteFirst` / `deleteKeys` / `dedupLast` leave of a member list; what the
  accessor proofs know of a constructed event (`AccProofs.Inv`, `TInv`, `Intact`).
-/
import VModel.EventParse
import VProofs.Guard
import VProofs.RedactExact
namespace V.EventProofs
open V V.Json V.GoJson V.Redact V.EventParse V.RedactProofs

/-- members of the value an event text denotes (`[]` for `null`) -/
def objOf : JVal → EventParse.Obj
  | .obj kvs => kvs
  | _ => []

/-- everything the accessors report, except the stored event ID, is what the struct decoding of
    format `sfmt` reads from `e.obj` -/
def FieldsFrom (sfmt : Fmt) (e : PDU) : Prop :=
  e.f = { (decodeFields sfmt e.obj).f with eventIDRaw := e.f.eventIDRaw }

/-- everything the accessors report, except the stored event ID, is decoded from `e.obj` -/
def FieldsFromJSON (e : PDU) : Prop := ∃ sfmt, FieldsFrom sfmt e

theorem decodeFields_nil (fmt : Fmt) : (decodeFields fmt []).f = {} := by
  cases fmt <;> rfl

theorem checkRoom_default (fmt : Fmt) : ∃ x, checkRoom fmt {} = .error x := by
  cases fmt <;> exact ⟨errOther, rfl⟩

/-! ### The constructors, stage by stage

Every constructor returns `mkEvent ver fmt red text kvs id` for an object `kvs` that `Decodes`, with the `StoredID`; the stages
differ in which object, flag, text and ID they pass on. -/

/-- the event a constructor returns for the object `kvs`: the fields decoded from it, and the stored ID `id` -/
def mkEvent (ver : Bytes) (fmt : Fmt) (red : Bool) (text : Bytes) (kvs : EventParse.Obj) (id : Bytes) : PDU :=
  { ver := ver, fmt := fmt, redacted := red, json := text, obj := kvs, f := { (decodeFields fmt kvs).f with eventIDRaw := id } }

theorem mkEvent_obj (ver : Bytes) (fmt : Fmt) (red : Bool) (text : Bytes) (kvs : EventParse.Obj) (id : Bytes) :
    (mkEvent ver fmt red text kvs id).obj = kvs := rfl

/-- the struct decoding of `construct` reports no error on the object, and the room ID it reads passes the check -/
structure Decodes (fmt : Fmt) (kvs : EventParse.Obj) : Prop where
  err : (decodeFields fmt kvs).err = false
  unm : (decodeFields fmt kvs).unmodelled = false
  room : checkRoom fmt (decodeFields fmt kvs).f = .ok ()

/-- the ID the constructors store: the decoded one (format 1), the reference hash of the object (later formats) -/
def StoredID (H : Bytes → Bytes) (row : VGen.VersionRow) (ver : Bytes) (fmt : Fmt) (kvs : EventParse.Obj) (id : Bytes) : Prop :=
  (fmt = .v1 → id = (decodeFields fmt kvs).f.eventIDRaw) ∧ (fmt ≠ .v1 → referenceID H row ver (.obj kvs) = .ok id)

/-- A constructor only succeeds on a JSON object (the text `null` leaves the zero struct, whose room ID is refused)
    whose struct decoding reports no error and yields a room ID that passes the check; the event holds the given
    text, the object's members and the fields decoded from them. -/
theorem construct_ok_iff {fmt : Fmt} {ver : Bytes} {red : Bool} {text : Bytes} {j : JVal} {e : PDU} :
    construct fmt ver red text j = .ok e ↔
      ∃ kvs, j = .obj kvs ∧ Decodes fmt kvs ∧ e = mkEvent ver fmt red text kvs (decodeFields fmt kvs).f.eventIDRaw := by
  constructor
  · intro h
    unfold construct at h
    split at h
    · rename_i kvs
      simp only at h
      split at h
      · cases h
      · rename_i h1
        split at h
        · cases h
        · rename_i h2
          split at h
          · cases h
          · rename_i hc
            cases h
            exact ⟨kvs, rfl, ⟨by simpa using h1, by simpa using h2, hc⟩, rfl⟩
    · obtain ⟨x, hx⟩ := checkRoom_default fmt
      rw [hx] at h
      cases h
    · cases h
  · rintro ⟨kvs, rfl, ⟨h1, h2, h3⟩, rfl⟩
    simp only [construct, h1, h2, h3, Bool.false_eq_true, if_false]
    rfl

theorem resetID_obj (fmt : Fmt) (e : PDU) : (resetID fmt e).obj = e.obj := by
  unfold resetID; split <;> rfl

theorem resetID_redacted (fmt : Fmt) (e : PDU) (r : Bool) :
    { resetID fmt e with redacted := r } = resetID fmt { e with redacted := r } := by
  unfold resetID; split <;> rfl

theorem resetID_empty {fmt : Fmt} (hv : fmt ≠ .v1) (e : PDU) : (resetID fmt e).f.eventIDRaw = [] := by
  unfold resetID
  rw [if_neg (by simpa using hv)]

/-- `populateEventID` after `resetID`, on a freshly constructed event -/
theorem populate_reset_iff {H : Bytes → Bytes} {row : VGen.VersionRow} {ver text : Bytes} {fmt : Fmt} {red : Bool}
    {kvs : EventParse.Obj} {e : PDU} :
    populateEventID H row (resetID fmt (mkEvent ver fmt red text kvs (decodeFields fmt kvs).f.eventIDRaw)) = .ok e ↔
      ∃ id, StoredID H row ver fmt kvs id ∧ e = mkEvent ver fmt red text kvs id := by
  by_cases hf : fmt = .v1
  · subst hf
    constructor
    · intro h; cases h; exact ⟨_, ⟨fun _ => rfl, fun h => absurd rfl h⟩, rfl⟩
    · rintro ⟨id, ⟨h1, _⟩, rfl⟩; cases h1 rfl; rfl
  · have hb : (fmt == Fmt.v1) = false := by simp [hf]
    simp only [resetID, populateEventID, mkEvent, hb, Bool.false_eq_true, if_false, List.isEmpty_nil, Bool.not_true]
    constructor
    · intro h
      split at h
      · cases h
      · cases h
      · rename_i id hid
        cases h
        exact ⟨id, ⟨fun h => absurd h hf, fun _ => hid⟩, rfl⟩
    · rintro ⟨id, ⟨_, h2⟩, rfl⟩
      rw [h2 hf]

theorem idAndChecks_iff {H : Bytes → Bytes} {row : VGen.VersionRow} {e1 e : PDU} :
    idAndChecks H row e1 = .ok e ↔ populateEventID H row e1 = .ok e ∧ checkFields e = .ok () := by
  unfold idAndChecks
  split
  · rename_i hp; simp [hp]
  · rename_i e' hp
    rw [hp]
    split
    · rename_i hc; simp only [Except.ok.injEq, reduceCtorEq, false_iff, not_and]; rintro rfl; simp [hc]
    · rename_i hc; simp only [Except.ok.injEq]; exact ⟨fun h => ⟨h, h ▸ hc⟩, fun h => h.1⟩

theorem idAndChecks_reset_iff {H : Bytes → Bytes} {row : VGen.VersionRow} {ver text : Bytes} {fmt : Fmt} {red : Bool}
    {kvs : EventParse.Obj} {e : PDU} :
    idAndChecks H row (resetID fmt (mkEvent ver fmt red text kvs (decodeFields fmt kvs).f.eventIDRaw)) = .ok e ↔
      ∃ id, StoredID H row ver fmt kvs id ∧ e = mkEvent ver fmt red text kvs id ∧ checkFields e = .ok () := by
  rw [idAndChecks_iff, populate_reset_iff]
  constructor
  · rintro ⟨⟨id, h1, h2⟩, h3⟩; exact ⟨id, h1, h2, h3⟩
  · rintro ⟨id, h1, h2, h3⟩; exact ⟨⟨id, h1, h2⟩, h3⟩

/-- The trusted constructors: the struct decoding and the room-ID check of `construct`; the V2 / V3 constructors then
    drop whatever the decoding put into the stored ID and compute it (the reference hash of the event). -/
theorem trustedCore_ok_iff {H : Bytes → Bytes} {row : VGen.VersionRow} {ver : Bytes} {red : Bool} {text : Bytes} {j : JVal} {e : PDU} :
    trustedCore H row ver red text j = .ok e ↔
      ∃ fmt kvs id, fmtOfName row.newEventFromTrustedJSONFunc = some fmt ∧ j = .obj kvs ∧ Decodes fmt kvs ∧
        StoredID H row ver fmt kvs id ∧ e = mkEvent ver fmt red text kvs id := by
  unfold trustedCore
  cases hf : fmtOfName row.newEventFromTrustedJSONFunc with
  | none => simp
  | some fmt =>
    simp only [Option.some.injEq]
    cases hc : construct fmt ver red text j with
    | error x =>
      refine ⟨fun h => (by cases h), ?_⟩
      rintro ⟨fmt', kvs, id, rfl, rfl, D, _, _⟩
      rw [construct_ok_iff.mpr ⟨kvs, rfl, D, rfl⟩] at hc
      cases hc
    | ok e0 =>
      obtain ⟨kvs, rfl, D, rfl⟩ := construct_ok_iff.mp hc
      simp only [populate_reset_iff, JVal.obj.injEq]
      constructor
      · rintro ⟨id, hid, rfl⟩; exact ⟨fmt, kvs, id, rfl, rfl, D, hid, rfl⟩
      · rintro ⟨_, _, id, rfl, rfl, _, hid, rfl⟩; exact ⟨id, hid, rfl⟩

theorem parseTrusted_ok_iff {H : Bytes → Bytes} {ver text : Bytes} {red : Bool} {e : PDU} :
    parseTrusted H ver red text = .ok e ↔
      ∃ row p, rowOf ver = some row ∧ parse text = some p ∧ trustedCore H row ver red text p.toJVal = .ok e := by
  unfold parseTrusted
  cases rowOf ver <;> cases parse text <;> simp

/-- the event ID of the hashed formats, once the redaction is known -/
theorem referenceID_hashed (H : Bytes → Bytes) (row : VGen.VersionRow) (ver : Bytes) (hfmt : row.eventFormat = 2)
    {j : JVal} {r : EventParse.Obj} (hr : redactJSON ver j = .ok (.obj r)) :
    referenceID H row ver j =
      if row.eventIDFormat = 2 then .ok (0x24 :: B64.encodeWith B64.stdAlphabet (H (encodeCanon (.obj (stripSigs r)))))
      else if row.eventIDFormat = 3 then .ok (0x24 :: B64.encodeWith B64.urlAlphabet (H (encodeCanon (.obj (stripSigs r)))))
      else .error errOther := by
  simp [referenceID, hr, hfmt]

/-- `EventID()` returns the stored ID, or — eventV2 / eventV3 with an empty one — the reference hash of the event -/
theorem eventID_ok_iff {H : Bytes → Bytes} {e : PDU} {id : Bytes} :
    eventID H e = .ok id ↔
      if (e.fmt == .v1 || !e.f.eventIDRaw.isEmpty) = true then id = e.f.eventIDRaw
      else ∃ row, rowOf e.ver = some row ∧ referenceID H row e.ver (.obj e.obj) = .ok id := by
  unfold eventID
  split
  · exact ⟨fun h => (Except.ok.inj h).symm, fun h => h ▸ rfl⟩
  · cases rowOf e.ver with
    | none => simp
    | some row =>
      simp only [Option.some.injEq, exists_eq_left']
      cases hr : referenceID H row e.ver (.obj e.obj) with
      | ok i => rfl
      | error x =>
        cases x with
        | other w => simp only [reduceCtorEq, iff_false]; split <;> nofun
        | _ => simp

/-- an event that stores its reference hash (later formats) reports the stored ID -/
theorem eventID_stored {H : Bytes → Bytes} {e : PDU} {row : VGen.VersionRow} (hrow : rowOf e.ver = some row)
    (hid : e.fmt ≠ .v1 → referenceID H row e.ver (.obj e.obj) = .ok e.f.eventIDRaw) : eventID H e = .ok e.f.eventIDRaw := by
  rw [eventID_ok_iff]
  split
  · rfl
  · rename_i hc
    exact ⟨row, hrow, hid (by intro h; simp [h] at hc)⟩

theorem referenceID_redactable {H : Bytes → Bytes} {row : VGen.VersionRow} {ver : Bytes} {j : JVal} {id : Bytes}
    (h : referenceID H row ver j = .ok id) : ∃ rk, redactJSON ver j = .ok (.obj rk) := by
  unfold referenceID at h
  split at h
  · cases h
  · rename_i r hr; exact ⟨r, hr⟩
  · cases h

/-- the event ID of the hashed formats, inverted: the redaction succeeded, and the ID is `$` followed by the base64, in the
    alphabet of the ID format, of the hash of the reference bytes -/
theorem referenceID_hashed_ok (H : Bytes → Bytes) (row : VGen.VersionRow) (ver : Bytes) (hfmt : row.eventFormat = 2)
    {j : JVal} {id : Bytes} (h : referenceID H row ver j = .ok id) :
    ∃ r, redactJSON ver j = .ok (.obj r) ∧ (row.eventIDFormat = 2 ∨ row.eventIDFormat = 3) ∧
      id = 0x24 :: B64.encodeWith (if row.eventIDFormat = 2 then B64.stdAlphabet else B64.urlAlphabet)
        (H (encodeCanon (.obj (stripSigs r)))) := by
  obtain ⟨r, hr⟩ := referenceID_redactable h
  refine ⟨r, hr, ?_⟩
  rw [referenceID_hashed H row ver hfmt hr] at h
  split at h
  · rename_i hf2; rw [if_pos hf2]; exact ⟨Or.inl hf2, (Except.ok.inj h).symm⟩
  · rename_i hf2
    rw [if_neg hf2]
    split at h
    · rename_i hf3; exact ⟨Or.inr hf3, (Except.ok.inj h).symm⟩
    · cases h

theorem deleteFirst_absent (k : Bytes) (kvs : EventParse.Obj) (h : lookupExact kvs k = none) : deleteFirst k kvs = kvs := by
  rw [lookupExact_eq, lastSome_none_iff] at h
  induction kvs with
  | nil => rfl
  | cons kv rest ih =>
    have hk := h kv List.mem_cons_self
    simp only [deleteFirst, hk, Bool.false_eq_true, if_false]
    rw [ih (fun x hx => h x (List.mem_cons_of_mem _ hx))]

theorem deleteFirst_removes (k : Bytes) (l : EventParse.Obj) (h : (keysOf l).Nodup) : ∀ kv ∈ deleteFirst k l, kv.1 ≠ k := by
  induction l with
  | nil => intro kv hkv; cases hkv
  | cons x rest ih =>
    have hnd := List.nodup_cons.mp (show (x.1 :: keysOf rest).Nodup from h)
    intro kv hkv
    unfold deleteFirst at hkv
    split at hkv
    · rename_i hx
      -- the first member is dropped, and its key does not occur again
      intro hk
      exact hnd.1 (beq_iff_eq.mp hx ▸ hk ▸ List.mem_map_of_mem hkv)
    · rename_i hx
      rcases List.mem_cons.mp hkv with rfl | hm
      · exact fun hk => hx (beq_iff_eq.mpr hk)
      · exact ih hnd.2 kv hm

theorem deleteFirst_sublist (k : Bytes) : ∀ l : EventParse.Obj, List.Sublist (deleteFirst k l) l
  | [] => List.Sublist.refl _
  | x :: rest => by
    unfold deleteFirst
    split
    · exact List.sublist_cons_self _ _
    · exact (deleteFirst_sublist k rest).cons_cons _

theorem deleteKeys_sublist (ks : List Bytes) : ∀ l : EventParse.Obj, List.Sublist (deleteKeys ks l) l := by
  unfold deleteKeys
  induction ks with
  | nil => intro l; exact List.Sublist.refl _
  | cons k rest ih => intro l; exact (ih _).trans (deleteFirst_sublist k l)

theorem deleteFirst_keys_nodup (k : Bytes) (l : EventParse.Obj) (h : (keysOf l).Nodup) : (keysOf (deleteFirst k l)).Nodup :=
  ((deleteFirst_sublist k l).map _).nodup h

theorem lookupExact_deleteFirst_self (k : Bytes) (l : EventParse.Obj) (h : (keysOf l).Nodup) :
    lookupExact (deleteFirst k l) k = none := by
  rw [lookupExact_eq]
  apply lastSome_none_of_forall
  intro kv hkv
  simpa using deleteFirst_removes k l h kv hkv

theorem deleteKeys_keys_nodup (ks : List Bytes) : ∀ (l : EventParse.Obj), (keysOf l).Nodup → (keysOf (deleteKeys ks l)).Nodup := by
  induction ks with
  | nil => intro l h; exact h
  | cons k rest ih =>
    intro l h
    exact ih _ (deleteFirst_keys_nodup k l h)

theorem keys_nodup_of_noDupKeys {l : EventParse.Obj} (h : (JVal.obj l).noDupKeys = true) : (keysOf l).Nodup := by
  simp only [JVal.noDupKeys, Bool.and_eq_true] at h
  exact (noDupIn_iff_nodup _).mp h.1

/-- the keys removed on receipt in every format (the later formats also remove `event_id`) -/
def strip4 : List Bytes := [b!"outlier", b!"destinations", b!"age_ts", b!"unsigned"]

theorem stripped_obj {fmt : Fmt} {j : JVal} {kvs : EventParse.Obj} (h : stripped fmt j = .obj kvs) :
    ∃ kvs0, j = .obj kvs0 ∧ kvs = deleteKeys (stripKeys fmt) kvs0 := by
  cases j with
  | obj kvs0 => exact ⟨kvs0, rfl, (JVal.obj.inj h).symm⟩
  | _ => cases h

/-! ### `dedupLast` (what `SetUnsigned` / `Sign()` re-marshal): members of the input, and the input itself when no key repeats -/

theorem dedupLast_mem (l : EventParse.Obj) : ∀ kv ∈ dedupLast l, kv ∈ l := by
  unfold dedupLast
  refine List.foldlRecOn (motive := fun (acc : EventParse.Obj) => ∀ kv ∈ acc, kv ∈ l) l _ (fun kv h => by cases h) ?_
  intro acc ha x hx kv hkv
  rcases List.mem_append.mp hkv with h | h
  · exact ha kv (List.mem_filter.mp h).1
  · rw [List.mem_singleton.mp h]
    exact hx

theorem dedupLast_step_fresh (acc : EventParse.Obj) (kv : Bytes × JVal) (h : kv.1 ∉ keysOf acc) :
    acc.filter (fun x => x.1 != kv.1) ++ [kv] = acc ++ [kv] := by
  congr 1
  apply List.filter_eq_self.mpr
  intro x hx
  simp only [bne_iff_ne, ne_eq]
  intro hxe
  exact h (List.mem_map.mpr ⟨x, hx, hxe⟩)

theorem dedupLast_nodup (kvs : EventParse.Obj) (h : (keysOf kvs).Nodup) : dedupLast kvs = kvs :=
  Lists.foldl_eq_append_of_nodup Prod.fst (fun acc kv => dedupLast_step_fresh acc kv) kvs [] h

/-- **The stripped form has no `event_id`.**  For the formats whose ID is computed, the constructors
    delete `event_id` from the received text; the text has no duplicate keys (the model's domain), so
    no member with exactly that key is left. -/
theorem stripped_no_event_id {fmt : Fmt} (hv : fmt ≠ .v1) {j : JVal} {kvs : EventParse.Obj}
    (hnd : j.noDupKeys = true) (hs : stripped fmt j = .obj kvs) : lookupExact kvs b!"event_id" = none := by
  obtain ⟨kvs0, rfl, rfl⟩ := stripped_obj hs
  have hlast : deleteKeys (stripKeys fmt) kvs0 =
      deleteFirst b!"event_id" (deleteKeys strip4 kvs0) := by
    unfold stripKeys
    rw [if_neg (by simpa using hv)]
    rfl
  rw [hlast]
  exact lookupExact_deleteFirst_self _ _ (deleteKeys_keys_nodup _ _ (keys_nodup_of_noDupKeys hnd))

end V.EventProofs

namespace V.AccProofs
open V V.Json V.GoJson V.Redact V.EventParse

/-- What the accessors need to know about an event `NewEventFromUntrustedJSON` returned. -/
structure Inv (H : Bytes → Bytes) (ver : Bytes) (row : VGen.VersionRow) (e : PDU) : Prop where
  hrow : rowOf ver = some row
  hver : e.ver = ver
  hfmt : fmtOfName row.newEventFromUntrustedJSONFunc = some e.fmt
  room : checkRoom e.fmt e.f = .ok ()
  fields : checkFields e = .ok ()
  hid : e.fmt ≠ .v1 → referenceID H row ver (.obj e.obj) = .ok e.f.eventIDRaw

/-- The same without `CheckFields`: what holds of an event `NewEventFromTrustedJSON` returned as well (`hfmt` still names the
    untrusted constructor's column: the two columns of a registered row name the same format, `C05.ctorsOk`). -/
structure TInv (H : Bytes → Bytes) (ver : Bytes) (row : VGen.VersionRow) (e : PDU) : Prop where
  hrow : rowOf ver = some row
  hver : e.ver = ver
  hfmt : fmtOfName row.newEventFromUntrustedJSONFunc = some e.fmt
  room : checkRoom e.fmt e.f = .ok ()
  hid : e.fmt ≠ .v1 → referenceID H row ver (.obj e.obj) = .ok e.f.eventIDRaw

theorem Inv.toTInv {H : Bytes → Bytes} {ver : Bytes} {row : VGen.VersionRow} {e : PDU} (I : Inv H ver row e) : TInv H ver row e :=
  ⟨I.hrow, I.hver, I.hfmt, I.room, I.hid⟩

/-- what `Redact()` relies on when the event is not flagged as redacted -/
structure Intact (ver : Bytes) (row : VGen.VersionRow) (e : PDU) : Prop where
  err : (decodeFields e.fmt e.obj).err = false
  unm : (decodeFields e.fmt e.obj).unmodelled = false
  redactable : ∃ rk, redactJSON ver (.obj e.obj) = .ok (.obj rk)
  numbers : enforces row = some true → jNumbersOkMembers e.obj = true

end V.AccProofs
