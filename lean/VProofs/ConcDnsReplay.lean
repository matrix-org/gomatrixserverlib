/-
  VProofs.ConcDnsReplay — every model state the DRIVER's DNS replay (`V.Driver.ConcOps.dnsReplay`, hence `dnsModel`)
  passes through is a `V.C19Client.ClientReach` state, so the invariant theorems `size_bounded_with_injections`,
  `no_dup_keys_with_injections` (VProofs/ConcDnsClient.lean) literally cover what the driver prints.

  `dnsReplay` only returns the printed lines.  Two twins with the SAME recursion (same case analysis, same `poke` calls,
  same `injectOps` calls, same conditions, same next time / next `ReplaySt`):
    * `dnsReplayBoth`   accumulates (printed line, model state the line's key set was rendered from);
    * `dnsReplayStates` accumulates ALL states the replay moves through, including the three intermediate states of a
                        dial's delete-and-retry that are not printed.
  What one schedule character does to all three is said once (`replay_cons`), the induction over the schedule is done
  once (`replay_induct`); the theorems about the twins, and their corollaries for `dnsModel`, are instances.
-/
import VDriver.Conc
import VProofs.ConcDnsClient
namespace V.C19Replay
open V.Conc V.Driver.ConcOps
open V.C19Client hiding injectOps

theorem injectOps_eq : @V.Driver.ConcOps.injectOps = @V.C19Client.injectOps := rfl

/-- `dnsReplay`, accumulating next to each printed line the model state whose key set the line shows
    (for the final `H<g>` line, which shows no key set: the state `poke` returned) -/
def dnsReplayBoth (c : Dns.Cfg) (rg : Regime) (dials : List (List Bool)) :
    List Char → Dns.State → Int → ReplaySt → List (String × Dns.State) → List (String × Dns.State)
  | [], _, _, _, acc => acc.reverse
  | ch :: rest, s, t, rs, acc =>
    if ch == 'z' then
      dnsReplayBoth c rg dials rest s (t + rg.sleep) rs (("Z" ++ showKeys s, s) :: acc)
    else
      let g := ch.toNat - 'p'.toNat
      let t' := t + rg.tick
      let (s', o) := Dns.poke c 64 s g t'
      let i := (rs.idx[g]?).getD 0
      let isDial := (((dials[g]?).bind (·[i]?)).getD false)
      let adv (r : ReplaySt) : ReplaySt := ⟨r.idx.set g (i + 1), r.retry.set g false⟩
      match o with
      | .hang _ => ((showObs o, s') :: acc).reverse
      | .ret _ (.hit n _) =>
        if isDial && !((rs.retry[g]?).getD false) then
          let s1 := injectOps s' g [.del n, .lookup n 0]
          let (s2, _) := Dns.poke c 64 s1 g t'
          let (s3, o3) := Dns.poke c 64 s2 g t'
          dnsReplayBoth c rg dials rest s3 t' ⟨rs.idx, rs.retry.set g true⟩ ((showObs o3 ++ showKeys s3, s3) :: acc)
        else dnsReplayBoth c rg dials rest s' t' (adv rs) ((showObs o ++ showKeys s', s') :: acc)
      | .ret _ (.miss n _) =>
        if isDial then dnsReplayBoth c rg dials rest s' t' (adv rs) ((s!"X{g}:{n}" ++ showKeys s', s') :: acc)
        else dnsReplayBoth c rg dials rest s' t' (adv rs) ((showObs o ++ showKeys s', s') :: acc)
      | .ret _ (.fail n) =>
        if isDial then dnsReplayBoth c rg dials rest s' t' (adv rs) ((s!"X{g}:{n}" ++ showKeys s', s') :: acc)
        else dnsReplayBoth c rg dials rest s' t' (adv rs) ((showObs o ++ showKeys s', s') :: acc)
      | .ret _ _ => dnsReplayBoth c rg dials rest s' t' (adv rs) ((showObs o ++ showKeys s', s') :: acc)
      | _ => dnsReplayBoth c rg dials rest s' t' rs ((showObs o ++ showKeys s', s') :: acc)

/-- `dnsReplay`, accumulating EVERY model state it moves through (also the unprinted intermediate states of a dial's
    delete-and-retry: after the hit, after the injection, after the delete) -/
def dnsReplayStates (c : Dns.Cfg) (rg : Regime) (dials : List (List Bool)) :
    List Char → Dns.State → Int → ReplaySt → List Dns.State → List Dns.State
  | [], _, _, _, acc => acc.reverse
  | ch :: rest, s, t, rs, acc =>
    if ch == 'z' then
      dnsReplayStates c rg dials rest s (t + rg.sleep) rs (s :: acc)
    else
      let g := ch.toNat - 'p'.toNat
      let t' := t + rg.tick
      let (s', o) := Dns.poke c 64 s g t'
      let i := (rs.idx[g]?).getD 0
      let isDial := (((dials[g]?).bind (·[i]?)).getD false)
      let adv (r : ReplaySt) : ReplaySt := ⟨r.idx.set g (i + 1), r.retry.set g false⟩
      match o with
      | .hang _ => (s' :: acc).reverse
      | .ret _ (.hit n _) =>
        if isDial && !((rs.retry[g]?).getD false) then
          let s1 := injectOps s' g [.del n, .lookup n 0]
          let (s2, _) := Dns.poke c 64 s1 g t'
          let (s3, _) := Dns.poke c 64 s2 g t'
          dnsReplayStates c rg dials rest s3 t' ⟨rs.idx, rs.retry.set g true⟩ (s3 :: s2 :: s1 :: s' :: acc)
        else dnsReplayStates c rg dials rest s' t' (adv rs) (s' :: acc)
      -- the next two `if`s have equal branches: they are `dnsReplay`'s, kept so that the three recursions read alike
      | .ret _ (.miss _ _) =>
        if isDial then dnsReplayStates c rg dials rest s' t' (adv rs) (s' :: acc)
        else dnsReplayStates c rg dials rest s' t' (adv rs) (s' :: acc)
      | .ret _ (.fail _) =>
        if isDial then dnsReplayStates c rg dials rest s' t' (adv rs) (s' :: acc)
        else dnsReplayStates c rg dials rest s' t' (adv rs) (s' :: acc)
      | .ret _ _ => dnsReplayStates c rg dials rest s' t' (adv rs) (s' :: acc)
      | _ => dnsReplayStates c rg dials rest s' t' rs (s' :: acc)

/-- what a printed line is, relative to the state paired with it -/
def LineOf (p : String × Dns.State) : Prop :=
  (∃ obs : String, p.1 = obs ++ showKeys p.2) ∨ (∃ g, p.1 = showObs (.hang g))

/-- The three replays treat a schedule character alike: they print one line `l` over a state `s₁`, pass (unprinted) through
    the states `mid`, and either go on from `s₁` or stop (the hang).  `P` is any predicate closed under the moves a replay
    makes. -/
theorem replay_cons {c : Dns.Cfg} (rg : Regime) (dials : List (List Bool)) {P : Dns.State → Prop}
    (hpoke : ∀ s g t, P s → P (Dns.poke c 64 s g t).1) (hinj : ∀ s g ops, P s → P (injectOps s g ops))
    (ch : Char) (rest : List Char) {s : Dns.State} (hs : P s) (t : Int) (rs : ReplaySt) :
    ∃ (l : String) (s₁ : Dns.State) (mid : List Dns.State) (next : Option (Int × ReplaySt)),
      LineOf (l, s₁) ∧ (∀ x ∈ s₁ :: mid, P x) ∧
      (∀ acc, dnsReplay c rg dials (ch :: rest) s t rs acc =
        match next with
        | some (t', rs') => dnsReplay c rg dials rest s₁ t' rs' (l :: acc)
        | none => (l :: acc).reverse) ∧
      (∀ acc, dnsReplayBoth c rg dials (ch :: rest) s t rs acc =
        match next with
        | some (t', rs') => dnsReplayBoth c rg dials rest s₁ t' rs' ((l, s₁) :: acc)
        | none => ((l, s₁) :: acc).reverse) ∧
      (∀ acc, dnsReplayStates c rg dials (ch :: rest) s t rs acc =
        match next with
        | some (t', rs') => dnsReplayStates c rg dials rest s₁ t' rs' (s₁ :: mid ++ acc)
        | none => (s₁ :: mid ++ acc).reverse) := by
  have one : ∀ {x}, P x → ∀ y ∈ [x], P y := fun h y hy => by rw [List.mem_singleton.1 hy]; exact h
  simp only [dnsReplay, dnsReplayBoth, dnsReplayStates]
  cases hz : ch == 'z'
  · generalize ch.toNat - 'p'.toNat = g
    have hs' := hpoke s g (t + rg.tick) hs
    generalize Dns.poke c 64 s g (t + rg.tick) = p at hs'
    obtain ⟨s', o⟩ := p
    generalize (dials[g]?.bind fun x => x[rs.idx[g]?.getD 0]?).getD false = isDial
    generalize rs.retry[g]?.getD false = retry
    -- the hang stops the replay, a dial's first hit is followed by the delete and the retry;
    -- every other outcome prints over `s'` and goes on
    cases o with
    | hang g' => exact ⟨_, s', [], none, .inr ⟨g', rfl⟩, one hs', fun _ => rfl, fun _ => rfl, fun _ => rfl⟩
    | ret g' r =>
      cases r with
      | hit n e =>
        cases isDial
        · exact ⟨_, s', [], some (_, _), .inl ⟨_, rfl⟩, one hs', fun _ => rfl, fun _ => rfl, fun _ => rfl⟩
        · cases retry
          · have h1 := hinj s' g [.del n, .lookup n 0] hs'
            have h2 := hpoke _ g (t + rg.tick) h1
            have h3 := hpoke _ g (t + rg.tick) h2
            exact ⟨_, _, [_, _, s'], some (_, _), .inl ⟨_, rfl⟩,
              List.forall_mem_cons.2 ⟨h3, List.forall_mem_cons.2 ⟨h2, List.forall_mem_cons.2 ⟨h1, one hs'⟩⟩⟩,
              fun _ => rfl, fun _ => rfl, fun _ => rfl⟩
          · exact ⟨_, s', [], some (_, _), .inl ⟨_, rfl⟩, one hs', fun _ => rfl, fun _ => rfl, fun _ => rfl⟩
      | miss n e | fail n => cases isDial <;> exact ⟨_, s', [], some (_, _), .inl ⟨_, rfl⟩, one hs', fun _ => rfl, fun _ => rfl, fun _ => rfl⟩
      | deleted n => exact ⟨_, s', [], some (_, _), .inl ⟨_, rfl⟩, one hs', fun _ => rfl, fun _ => rfl, fun _ => rfl⟩
    | _ => exact ⟨_, s', [], some (_, _), .inl ⟨_, rfl⟩, one hs', fun _ => rfl, fun _ => rfl, fun _ => rfl⟩
  · exact ⟨_, s, [], some (_, _), .inl ⟨_, rfl⟩, one hs, fun _ => rfl, fun _ => rfl, fun _ => rfl⟩

/-- Induction over the schedule, once for the three replays: a property of their three accumulators that every schedule
    character keeps holds of the three results (which are the accumulators, reversed). -/
theorem replay_induct {c : Dns.Cfg} (rg : Regime) (dials : List (List Bool)) {P : Dns.State → Prop}
    (hpoke : ∀ s g t, P s → P (Dns.poke c 64 s g t).1) (hinj : ∀ s g ops, P s → P (injectOps s g ops))
    {I : List String → List (String × Dns.State) → List Dns.State → Prop}
    (hI : ∀ accR accB accS l s₁ mid, LineOf (l, s₁) → (∀ x ∈ s₁ :: mid, P x) → I accR accB accS →
      I (l :: accR) ((l, s₁) :: accB) (s₁ :: mid ++ accS)) :
    ∀ (sched : List Char) (s : Dns.State) (t : Int) (rs : ReplaySt) (accR : List String) (accB : List (String × Dns.State))
      (accS : List Dns.State), P s → I accR accB accS →
      I (dnsReplay c rg dials sched s t rs accR).reverse (dnsReplayBoth c rg dials sched s t rs accB).reverse
        (dnsReplayStates c rg dials sched s t rs accS).reverse := by
  intro sched
  induction sched with
  | nil =>
    intro s t rs accR accB accS _ h
    simpa only [dnsReplay, dnsReplayBoth, dnsReplayStates, List.reverse_reverse] using h
  | cons ch rest ih =>
    intro s t rs accR accB accS hs h
    obtain ⟨l, s₁, mid, next, hl, hP, hR, hB, hS⟩ := replay_cons rg dials hpoke hinj ch rest hs t rs
    rw [hR, hB, hS]
    have h' := hI _ _ _ l s₁ mid hl hP h
    match next with
    | none => simpa only [List.reverse_reverse] using h'
    | some (t', rs') => exact ih s₁ t' rs' _ _ _ (hP s₁ List.mem_cons_self) h'

/-- **faithfulness**: the lines of `dnsReplayBoth` are exactly the output of the driver's `dnsReplay` -/
theorem dnsReplayBoth_fst (c : Dns.Cfg) (rg : Regime) (dials : List (List Bool)) :
    ∀ (sched : List Char) (s : Dns.State) (t : Int) (rs : ReplaySt) (acc : List (String × Dns.State)),
      (dnsReplayBoth c rg dials sched s t rs acc).map (·.1) = dnsReplay c rg dials sched s t rs (acc.map (·.1)) := by
  intro sched s t rs acc
  have := replay_induct (c := c) rg dials (P := fun _ => True) (fun _ _ _ _ => trivial) (fun _ _ _ _ => trivial)
    (I := fun accR accB _ => accB.map (·.1) = accR) (fun _ _ _ _ _ _ _ _ h => by rw [List.map_cons, h])
    sched s t rs _ acc [] trivial rfl
  rw [List.map_reverse] at this
  exact List.reverse_inj.1 this

/-- every line of the replay is `<observation> ++ showKeys <paired state>`, or the final hang marker `H<g>` -/
theorem dnsReplayBoth_line (c : Dns.Cfg) (rg : Regime) (dials : List (List Bool)) :
    ∀ (sched : List Char) (s : Dns.State) (t : Int) (rs : ReplaySt) (acc : List (String × Dns.State)),
      (∀ p ∈ acc, LineOf p) → ∀ p ∈ dnsReplayBoth c rg dials sched s t rs acc, LineOf p := by
  intro sched s t rs acc hacc p hp
  exact replay_induct (c := c) rg dials (P := fun _ => True) (fun _ _ _ _ => trivial) (fun _ _ _ _ => trivial)
    (I := fun _ accB _ => ∀ p ∈ accB, LineOf p) (fun _ _ _ _ _ _ hl _ h => List.forall_mem_cons.2 ⟨hl, h⟩)
    sched s t rs [] acc [] trivial hacc p (List.mem_reverse.2 hp)

/-- the states paired with the printed lines are among the states of `dnsReplayStates` -/
theorem dnsReplayBoth_snd_mem (c : Dns.Cfg) (rg : Regime) (dials : List (List Bool)) :
    ∀ (sched : List Char) (s : Dns.State) (t : Int) (rs : ReplaySt) (acc : List (String × Dns.State))
      (accS : List Dns.State), (∀ p ∈ acc, p.2 ∈ accS) →
      ∀ p ∈ dnsReplayBoth c rg dials sched s t rs acc, p.2 ∈ dnsReplayStates c rg dials sched s t rs accS := by
  intro sched s t rs acc accS hacc p hp
  refine List.mem_reverse.1 (replay_induct (c := c) rg dials (P := fun _ => True) (fun _ _ _ _ => trivial) (fun _ _ _ _ => trivial)
    (I := fun _ accB accS => ∀ p ∈ accB, p.2 ∈ accS) (fun _ _ _ _ _ _ _ _ h => ?_)
    sched s t rs [] acc accS trivial hacc p (List.mem_reverse.2 hp))
  exact List.forall_mem_cons.2 ⟨List.mem_cons_self, fun q hq => List.mem_cons_of_mem _ (List.mem_append_right _ (h q hq))⟩

section reach
variable {c : Dns.Cfg} {todos : List (List Dns.Op)} {t0 : Int}

/-- every state the driver's replay moves through (printed or not) is a `ClientReach` state -/
theorem dnsReplayStates_clientReach (rg : Regime) (dials : List (List Bool)) (sched : List Char) (s : Dns.State)
    (t : Int) (rs : ReplaySt) (h : ClientReach c todos t0 s) :
    ∀ x ∈ dnsReplayStates c rg dials sched s t rs [], ClientReach c todos t0 x :=
  fun x hx => replay_induct rg dials (fun _ g t => clientReach_poke 64 g t) (fun _ g ops => ClientReach.inject g ops)
    (I := fun _ _ accS => ∀ x ∈ accS, ClientReach c todos t0 x)
    (fun _ _ _ _ _ _ _ hP h x hx => (List.mem_append.1 hx).elim (hP x) (h x))
    sched s t rs [] [] [] h (fun _ hx => nomatch hx) x (List.mem_reverse.2 hx)

/-- every state paired with a line printed by the driver's replay is a `ClientReach` state -/
theorem dnsReplayBoth_clientReach (rg : Regime) (dials : List (List Bool)) :
    ∀ (sched : List Char) (s : Dns.State) (t : Int) (rs : ReplaySt) (acc : List (String × Dns.State)),
      ClientReach c todos t0 s → (∀ p ∈ acc, ClientReach c todos t0 p.2) →
      ∀ p ∈ dnsReplayBoth c rg dials sched s t rs acc, ClientReach c todos t0 p.2 :=
  fun sched s t rs acc hs hacc p hp =>
    replay_induct rg dials (fun _ g t => clientReach_poke 64 g t) (fun _ g ops => ClientReach.inject g ops)
      (I := fun _ accB _ => ∀ p ∈ accB, ClientReach c todos t0 p.2)
      (fun _ _ _ _ _ _ _ hP h => List.forall_mem_cons.2 ⟨hP _ List.mem_cons_self, h⟩)
      sched s t rs [] acc [] hs hacc p (List.mem_reverse.2 hp)

end reach

/-- the replay `dnsModel` runs, with the states -/
def dnsModelBoth (cap : Int) (rg : Regime) (todosD : List (List (Dns.Op × Bool))) (sched : String) :
    List (String × Dns.State) :=
  let c : Dns.Cfg := ⟨cap, rg.dur, dnsResolver⟩
  let todos := todosD.map (·.map (·.1))
  let dials := todosD.map (·.map (·.2))
  dnsReplayBoth c rg dials sched.toList (Dns.init todos 0) 0 ⟨todos.map (fun _ => 0), todos.map (fun _ => false)⟩ []

/-- all states `dnsModel`'s replay moves through -/
def dnsModelStates (cap : Int) (rg : Regime) (todosD : List (List (Dns.Op × Bool))) (sched : String) : List Dns.State :=
  let c : Dns.Cfg := ⟨cap, rg.dur, dnsResolver⟩
  let todos := todosD.map (·.map (·.1))
  let dials := todosD.map (·.map (·.2))
  dnsReplayStates c rg dials sched.toList (Dns.init todos 0) 0 ⟨todos.map (fun _ => 0), todos.map (fun _ => false)⟩ []

/-- what the driver prints for a `conc.dns` op line is the `|`-joined list of the lines of `dnsModelBoth` -/
theorem dnsModel_eq (cap : Int) (rg : Regime) (todosD : List (List (Dns.Op × Bool))) (sched : String) :
    dnsModel cap rg todosD sched = String.intercalate "|" ((dnsModelBoth cap rg todosD sched).map (·.1)) := by
  unfold dnsModel dnsModelBoth
  simp only [dnsReplayBoth_fst, List.map_nil]

/-- every line `dnsModel` prints shows the key set of the state paired with it (or is the final `H<g>`) -/
theorem dnsModel_lines (cap : Int) (rg : Regime) (todosD : List (List (Dns.Op × Bool))) (sched : String) :
    ∀ p ∈ dnsModelBoth cap rg todosD sched, LineOf p :=
  dnsReplayBoth_line _ rg _ _ _ _ _ [] (fun _ hp => nomatch hp)

/-- the states behind `dnsModel`'s lines are runs-with-injections of the op lists of the op line -/
theorem dnsModel_states_clientReach (cap : Int) (rg : Regime) (todosD : List (List (Dns.Op × Bool))) (sched : String) :
    ∀ p ∈ dnsModelBoth cap rg todosD sched,
      ClientReach ⟨cap, rg.dur, dnsResolver⟩ (todosD.map (·.map (·.1))) 0 p.2 :=
  dnsReplayBoth_clientReach rg _ _ _ _ _ [] .init (fun _ hp => nomatch hp)

/-- the printed states are among all visited states -/
theorem dnsModelBoth_snd_mem (cap : Int) (rg : Regime) (todosD : List (List (Dns.Op × Bool))) (sched : String) :
    ∀ p ∈ dnsModelBoth cap rg todosD sched, p.2 ∈ dnsModelStates cap rg todosD sched :=
  dnsReplayBoth_snd_mem _ rg _ _ _ _ _ [] [] (fun _ hp => nomatch hp)

/-- the invariants hold in every state the replay of `dnsModel` moves through, printed or not: at most `max cap 0`
    entries, no duplicate keys -/
theorem dnsModel_allStates_bounded (cap : Int) (rg : Regime) (todosD : List (List (Dns.Op × Bool))) (sched : String) :
    ∀ x ∈ dnsModelStates cap rg todosD sched,
      (x.entries.length : Int) ≤ max cap 0 ∧ (x.entries.map (·.1)).Nodup := by
  intro x hx
  have h : ClientReach ⟨cap, rg.dur, dnsResolver⟩ (todosD.map (·.map (·.1))) 0 x :=
    dnsReplayStates_clientReach rg _ _ _ _ _ .init x hx
  -- elaborated on its own: checked against `max cap 0` the unifier unfolds `max`
  have hsize := size_bounded_with_injections h
  exact ⟨hsize, no_dup_keys_with_injections h⟩

/-- … in particular in every state whose key set `dnsModel` prints -/
theorem dnsModel_states_bounded (cap : Int) (rg : Regime) (todosD : List (List (Dns.Op × Bool))) (sched : String) :
    ∀ p ∈ dnsModelBoth cap rg todosD sched,
      (p.2.entries.length : Int) ≤ max cap 0 ∧ (p.2.entries.map (·.1)).Nodup :=
  fun p hp => dnsModel_allStates_bounded cap rg todosD sched p.2 (dnsModelBoth_snd_mem cap rg todosD sched p hp)

/-- non-trivial instance: cap 1, regime `h`, goroutine 0 dials `a` twice (`~a,~a`), schedule `pppp`: blocked in the resolver,
    stored (miss), then the second dial hits, deletes and retries (blocked again), stored again.  The key sets of the four
    paired states; seven states are visited in all (three unprinted ones inside the delete-and-retry). -/
example : (dnsModelBoth 1 ⟨1000000000, 1, 0⟩ [[(.lookup "a" 0, true), (.lookup "a" 0, true)]] "pppp").map
      (fun p => p.2.entries.map (·.1)) = [[], ["a"], [], ["a"]] ∧
    (dnsModelStates 1 ⟨1000000000, 1, 0⟩ [[(.lookup "a" 0, true), (.lookup "a" 0, true)]] "pppp").map
      (fun x => x.entries.map (·.1)) = [[], ["a"], ["a"], ["a"], [], [], ["a"]] := ⟨rfl, rfl⟩

#print axioms V.C19Replay.dnsReplayBoth_fst
#print axioms V.C19Replay.dnsReplayBoth_line
#print axioms V.C19Replay.dnsReplayBoth_clientReach
#print axioms V.C19Replay.dnsReplayStates_clientReach
#print axioms V.C19Replay.dnsReplayBoth_snd_mem
#print axioms V.C19Replay.dnsModel_eq
#print axioms V.C19Replay.dnsModel_lines
#print axioms V.C19Replay.dnsModel_states_clientReach
#print axioms V.C19Replay.dnsModel_states_bounded
#print axioms V.C19Replay.dnsModel_allStates_bounded
#print axioms V.C19Replay.dnsModelBoth_snd_mem
end V.C19Replay
