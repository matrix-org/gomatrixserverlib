/-
  Objects with at most one member per field of the keep struct, in field order (`pick`, the instance
  of `optMembers` for a keep struct): what `exactFields` leaves of an event, and what `redactObj` writes.  Every `pick` is
  well formed at top level (`WfTop`: no duplicate keys, no case variants of field names), where folded matching is exact
  matching (`sel_wf`), and has no two keys equal up to case folding, so that a field name selects one member at most
  (`sel_length_le_one`).
-/
import VProofs.RedactMaps
import VProofs.Sort
namespace V.RedactProofs
open V V.Json V.GoJson V.Redact

/-- the members `json.Marshal` writes for a list of fields in order, `none` = omitted (`omitempty`, an absent member) -/
def optMembers (l : List (Bytes × Option JVal)) : Obj :=
  l.filterMap (fun ko => ko.2.map (fun v => (ko.1, v)))

theorem mem_optMembers {l : List (Bytes × Option JVal)} {kv : Bytes × JVal} :
    kv ∈ optMembers l ↔ (kv.1, some kv.2) ∈ l := by
  unfold optMembers
  rw [List.mem_filterMap]
  constructor
  · rintro ⟨⟨k, o⟩, hm, he⟩
    cases o with
    | none => cases he
    | some v => cases he; exact hm
  · intro h; exact ⟨_, h, rfl⟩

theorem optMembers_keys : ∀ l : List (Bytes × Option JVal), (keysOf (optMembers l)).Sublist (l.map (·.1))
  | [] => .slnil
  | (_, none) :: l => (optMembers_keys l).cons _
  | (_, some _) :: l => (optMembers_keys l).cons_cons _

/-- a struct without repeated field names holds under a name what its field says, nothing if the field is omitted -/
theorem lookupExact_optMembers {l : List (Bytes × Option JVal)} (hn : (l.map (·.1)).Nodup) {k : Bytes} {o : Option JVal}
    (h : (k, o) ∈ l) : lookupExact (optMembers l) k = o := by
  apply Option.ext
  intro v
  rw [lookupExact_eq_some_iff ((optMembers_keys l).nodup hn), mem_optMembers]
  exact ⟨fun hv => (congrArg Prod.snd (Lists.eq_of_nodup_map _ hn h hv rfl)), fun hv => hv ▸ h⟩

/-- for each field in order, the member `E` gives it, under exactly the field's name -/
def pick (fs : List Field) (E : Field → Option JVal) : Obj := fs.filterMap fun f => (E f).map fun v => (f.name, v)

theorem pick_eq (fs : List Field) (E : Field → Option JVal) : pick fs E = optMembers (fs.map fun f => (f.name, E f)) := by
  rw [pick, optMembers, List.filterMap_map]; rfl

theorem exactFields_eq_pick (fs : List Field) (kvs : Obj) :
    exactFields fs kvs = pick fs fun f => lookupExact kvs f.name := rfl

theorem pick_congr {fs : List Field} {E E' : Field → Option JVal} (h : ∀ f ∈ fs, E f = E' f) : pick fs E = pick fs E' :=
  Lists.filterMap_congr_mem _ _ _ fun f hf => by rw [h f hf]

theorem mem_pick {fs : List Field} {E : Field → Option JVal} {kv : Bytes × JVal} :
    kv ∈ pick fs E ↔ ∃ f ∈ fs, kv.1 = f.name ∧ E f = some kv.2 := by
  simp only [pick, List.mem_filterMap, Option.map_eq_some_iff]
  constructor
  · rintro ⟨f, hf, v, hv, rfl⟩; exact ⟨f, hf, rfl, hv⟩
  · rintro ⟨f, hf, hk, hv⟩; exact ⟨f, hf, kv.2, hv, by rw [← hk]⟩

theorem keys_pick_sublist (fs : List Field) (E : Field → Option JVal) : List.Sublist (keysOf (pick fs E)) (fs.map (·.name)) := by
  have := optMembers_keys (fs.map fun f => (f.name, E f))
  rwa [← pick_eq, List.map_map] at this

theorem names_nodup {fs : List Field} (h : foldDistinct fs = true) : (fs.map (·.name)).Nodup := by
  refine Lists.nodup_of_nodup_map foldBytes ?_
  rw [List.map_map]
  exact (noDupIn_iff_nodup _).mp h

theorem lookupExact_pick {fs : List Field} (hn : (fs.map (·.name)).Nodup) (E : Field → Option JVal) {f : Field} (hf : f ∈ fs) :
    lookupExact (pick fs E) f.name = E f := by
  rw [pick_eq]
  exact lookupExact_optMembers (by rwa [List.map_map]) (List.mem_map_of_mem (f := fun f => (f.name, E f)) hf)

theorem lookupExact_pick_none {fs : List Field} (E : Field → Option JVal) {n : Bytes} (hn : ∀ f ∈ fs, f.name ≠ n) :
    lookupExact (pick fs E) n = none := by
  rw [lookupExact_eq]
  refine lastSome_none_of_forall _ _ fun kv hkv => ?_
  obtain ⟨f, hf, hk, _⟩ := mem_pick.mp hkv
  exact beq_false_of_ne (hk ▸ hn f hf)

theorem exactFields_pick {fs : List Field} (hn : (fs.map (·.name)).Nodup) (E : Field → Option JVal) :
    exactFields fs (pick fs E) = pick fs E :=
  pick_congr fun _ hf => lookupExact_pick hn E hf

/-! ## `WfTop`: folded matching is exact matching; every `pick` is `WfTop` -/

/-- top-level well-formedness of an event for a keep struct: no duplicate keys and no key that is
    a case variant of a struct field's name -/
structure WfTop (fs : List Field) (kvs : Obj) : Prop where
  nodup : (keysOf kvs).Nodup
  novar : ∀ kv ∈ kvs, ∀ f ∈ fs, foldBytes kv.1 = foldBytes f.name → kv.1 = f.name

theorem matchesField_eq_beq {k n : Bytes} (h : foldBytes k = foldBytes n → k = n) : matchesField k n = (k == n) := by
  unfold matchesField
  cases hkn : k == n
  · exact Bool.eq_false_iff.mpr fun hf => by simp [h (beq_iff_eq.mp hf)] at hkn
  · rfl

theorem matches_iff_eq {fs : List Field} {kvs : Obj} (W : WfTop fs kvs) {kv : Bytes × JVal} (hkv : kv ∈ kvs)
    {f : Field} (hf : f ∈ fs) : matchesField kv.1 f.name = (kv.1 == f.name) :=
  matchesField_eq_beq (W.novar kv hkv f hf)

theorem lookupField_eq_exact {fs : List Field} {kvs : Obj} (W : WfTop fs kvs) {f : Field} (hf : f ∈ fs) :
    lookupField kvs f.name = lookupExact kvs f.name := by
  rw [lookupField_eq, lookupExact_eq]
  exact lastSome_congr _ _ kvs (fun kv hkv => matches_iff_eq W hkv hf)

theorem filter_key_nodup (kvs : Obj) (n : Bytes) (h : (keysOf kvs).Nodup) :
    kvs.filter (fun kv => kv.1 == n) = match lookupExact kvs n with
      | some v => [(n, v)]
      | none => [] := by
  rw [lookupExact_eq, lastSome_filter]
  have hl := Lists.filter_key_length_le_one Prod.fst h n
  have hk : ∀ x ∈ kvs.filter (fun kv => kv.1 == n), x.1 = n := fun x hx => beq_iff_eq.mp (List.mem_filter.mp hx).2
  generalize kvs.filter (fun kv => kv.1 == n) = l at hl hk
  match l, hl, hk with
  | [], _, _ => rfl
  | [(k, v)], _, hk => cases hk (k, v) List.mem_cons_self; rfl

theorem sel_wf {fs : List Field} {kvs : Obj} (W : WfTop fs kvs) {f : Field} (hf : f ∈ fs) :
    sel f.name kvs = match lookupExact kvs f.name with
      | some v => [(f.name, v)]
      | none => [] := by
  rw [← filter_key_nodup kvs f.name W.nodup]
  unfold sel
  apply List.filter_congr
  intro kv hkv
  exact matches_iff_eq W hkv hf

theorem foldDistinct_inj {fs : List Field} (h : foldDistinct fs = true) {f g : Field} (hf : f ∈ fs) (hg : g ∈ fs)
    (he : foldBytes f.name = foldBytes g.name) : f = g :=
  Lists.eq_of_nodup_map (fun f : Field => foldBytes f.name) ((noDupIn_iff_nodup _).mp (show noDupIn (fs.map fun f => foldBytes f.name) = true from h)) hf hg he

theorem novar_of_keys {fs : List Field} (hd : foldDistinct fs = true) {l : Obj} (h : ∀ kv ∈ l, ∃ f ∈ fs, kv.1 = f.name) :
    ∀ kv ∈ l, ∀ f ∈ fs, foldBytes kv.1 = foldBytes f.name → kv.1 = f.name := by
  intro kv hkv f hf hfold
  obtain ⟨g, hg, hk⟩ := h kv hkv
  rw [hk] at hfold ⊢
  rw [foldDistinct_inj hd hg hf hfold]

theorem pick_wf {fs : List Field} (hd : foldDistinct fs = true) (E : Field → Option JVal) : WfTop fs (pick fs E) :=
  ⟨(keys_pick_sublist fs E).nodup (names_nodup hd), novar_of_keys hd fun _ hkv => (mem_pick.mp hkv).imp fun _ h => ⟨h.1, h.2.1⟩⟩

theorem sel_pick {fs : List Field} (hd : foldDistinct fs = true) (E : Field → Option JVal) {f : Field} (hf : f ∈ fs) :
    sel f.name (pick fs E) = ((E f).map fun v => (f.name, v)).toList := by
  rw [sel_wf (pick_wf hd E) hf, lookupExact_pick (names_nodup hd) E hf]
  cases E f <;> rfl

theorem lookupField_pick {fs : List Field} (hd : foldDistinct fs = true) (E : Field → Option JVal) {f : Field} (hf : f ∈ fs) :
    lookupField (pick fs E) f.name = E f := by
  rw [lookupField_eq_exact (pick_wf hd E) hf, lookupExact_pick (names_nodup hd) E hf]

/-! ## objects without two keys equal up to case folding (what VProofs/EventBuildRoundtrip.lean names `BuildProofs.FoldNodup`) -/

theorem sel_length_le_one {kvs : Obj} (hfd : (kvs.map (fun kv => foldBytes kv.1)).Nodup) (n : Bytes) : (sel n kvs).length ≤ 1 := by
  unfold sel
  simp only [matchesField_eq_fold]
  exact Lists.filter_key_length_le_one (fun kv : Bytes × JVal => foldBytes kv.1) hfd (foldBytes n)

theorem foldNodup_pick {fs : List Field} (hd : foldDistinct fs = true) (E : Field → Option JVal) :
    ((pick fs E).map (fun kv => foldBytes kv.1)).Nodup := by
  have hs := (keys_pick_sublist fs E).map foldBytes
  rw [keysOf, List.map_map, List.map_map] at hs
  exact hs.nodup ((noDupIn_iff_nodup _).mp hd)

end V.RedactProofs
