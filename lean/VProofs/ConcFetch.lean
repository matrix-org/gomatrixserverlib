/-
  VProofs.ConcFetch — helper lemmas for the FetchKeys interleaving model (C19): result maps, a worker's `step` as a
  relation on what it touches (`WStep`), the reachable-state invariant, the termination measure, the sequential union.
-/
import VModel.ConcFetch
import VProofs.Assoc
import VProofs.Lists
namespace V.Conc.Fetch

/-! ### result maps: association lists in the sense of `V.Assoc` -/

def keysNodup (m : RMap) : Prop := (Assoc.keys m).Nodup

theorem rget_eq (k : Req) (m : RMap) : rget k m = Assoc.lookup m k := rfl

theorem rput_eq (k : Req) (v : Val) (m : RMap) : rput k v m = Assoc.put m k v := rfl

theorem rget_nil (k : Req) : rget k [] = none := rfl

theorem rget_rput (k k' : Req) (v : Val) (m : RMap) :
    rget k (rput k' v m) = if k = k' then some v else rget k m :=
  (Assoc.lookup_put m k' v k).trans (Assoc.ite_beq k k' _ _)

theorem rget_foldl_rput (k : Req) (v : Val) (l : List Req) (m : RMap) :
    rget k (l.foldl (fun acc r => rput r v acc) m) = if k ∈ l then some v else rget k m := by
  induction l generalizing m with
  | nil => simp
  | cons x xs ih =>
    simp only [List.foldl_cons, ih, rget_rput, List.mem_cons]
    by_cases h1 : k ∈ xs <;> by_cases h2 : k = x <;> simp [h1, h2]

/-- `mergeInto` writes the entries of `res` one after the other: under each key the last one wins, the other keys are kept -/
theorem rget_mergeInto (k : Req) (res m : RMap) :
    rget k (mergeInto m res) = (rget k res.reverse).or (rget k m) :=
  Lists.foldl_write (get := rget k) (q := fun p : Req × Val => p.1 == k) (v := fun p : Req × Val => p.2)
    (fun m p => (Assoc.lookup_put m p.1 p.2 k).trans (by rw [BEq.comm]; rfl)) res m

theorem mapKeys_spec (r : Resp) : keysNodup (mapKeys r) ∧ ∀ p ∈ mapKeys r, p.1.1 = r.name := by
  unfold mapKeys
  have gen : ∀ {β} (l : List β) (f : β → Req × Val) (m0 : RMap), (∀ b, (f b).1.1 = r.name) →
      (keysNodup m0 ∧ ∀ p ∈ m0, p.1.1 = r.name) →
      (keysNodup (l.foldl (fun acc k => rput (f k).1 (f k).2 acc) m0) ∧
        ∀ p ∈ l.foldl (fun acc k => rput (f k).1 (f k).2 acc) m0, p.1.1 = r.name) := by
    intro β l f m0 hf
    induction l generalizing m0 with
    | nil => intro h; exact h
    | cons x xs ih =>
      intro h
      simp only [List.foldl_cons]
      apply ih
      refine ⟨Assoc.nodup_keys_put h.1 _ _, fun p hp => ?_⟩
      rcases Assoc.mem_put hp with ⟨hp, _⟩ | rfl
      · exact h.2 p hp
      · exact hf x
  have h1 := gen r.verify (fun k => ((r.name, k.1), ⟨k.2.1, publicKeyNotExpired, r.validUntil⟩)) [] (fun _ => rfl)
    ⟨by simp [keysNodup], by simp⟩
  exact gen r.old (fun k => ((r.name, k.1), ⟨k.2.1, k.2.2, publicKeyNotValid⟩)) _ (fun _ => rfl) h1

theorem checkKeys_name {q : Server} {r : Resp} (h : checkKeys q r = true) : r.name = q := by
  unfold checkKeys at h
  simp only [Bool.and_eq_true, beq_iff_eq] at h
  exact h.1.1.1.symm

/-- both client calls end alike: the response counts only if `CheckKeys` accepts it for the queried server -/
theorem checked_spec {s : Server} {r : Resp} {res : RMap} (h : (if checkKeys s r then some (mapKeys r) else none) = some res) :
    keysNodup res ∧ ∀ p ∈ res, p.1.1 = s := by
  split at h
  · next hc => cases h; exact checkKeys_name hc ▸ mapKeys_spec r
  · cases h

theorem fetchDirect_spec {c : Cfg} {s : Server} {res : RMap} (h : fetchDirect c s = some res) :
    keysNodup res ∧ ∀ p ∈ res, p.1.1 = s := by
  unfold fetchDirect at h
  split at h
  · cases h
  · exact checked_spec h

theorem fetchNotary_spec {c : Cfg} {s : Server} {res : RMap} (h : fetchNotary c s = some res) :
    keysNodup res ∧ ∀ p ∈ res, p.1.1 = s := by
  unfold fetchNotary at h
  split at h
  · cases h
  · split at h
    · cases h
    · exact checked_spec h

/-- a server's answer only ever contains keys of that server (CheckKeys forces `server_name`), each once -/
theorem answer_spec (c : Cfg) (s : Server) : keysNodup (answer c s) ∧ ∀ p ∈ answer c s, p.1.1 = s := by
  unfold answer
  cases hd : fetchDirect c s with
  | some r => exact fetchDirect_spec hd
  | none =>
    cases hn : fetchNotary c s with
    | some r => exact fetchNotary_spec hn
    | none => exact ⟨List.nodup_nil, fun _ h => nomatch h⟩

/-- `WStep c s old new q fin res`: in state `s` a worker at `old` goes to `new` and leaves the queue `q`, the finished
    servers `fin` and the results `res`.  One constructor per outcome of a worker's `step`. -/
inductive WStep (c : Cfg) (s : State) : WPc → WPc → List Server → List Server → RMap → Prop where
  | recvJob {srv : Server} {q : List Server} : s.queue = srv :: q → WStep c s .recv (.fetch srv) q s.finished s.results
  | recvExit : s.queue = [] → WStep c s .recv .exited s.queue s.finished s.results
  | fetchOk {srv : Server} {res : RMap} : fetchDirect c srv = some res →
      WStep c s (.fetch srv) (.merge srv res) s.queue s.finished s.results
  | fetchFail {srv : Server} : fetchDirect c srv = none → WStep c s (.fetch srv) (.notary srv) s.queue s.finished s.results
  | notaryOk {srv : Server} {res : RMap} : fetchNotary c srv = some res →
      WStep c s (.notary srv) (.merge srv res) s.queue s.finished s.results
  | notaryFail {srv : Server} : fetchNotary c srv = none → WStep c s (.notary srv) .recv s.queue (srv :: s.finished) s.results
  | merge {srv : Server} {res : RMap} : s.mutex = none →
      WStep c s (.merge srv res) .recv s.queue (srv :: s.finished) (mergeInto s.results res)

theorem step_worker {c : Cfg} {s s' : State} {i : Nat} (h : step c s (.worker i) = some s') :
    ∃ old new q fin res, s.workers[i]? = some old ∧ WStep c s old new q fin res ∧
      s' = { s with results := res, queue := q, finished := fin, workers := s.workers.set i new,
                    wait := if new = .exited then s.wait - 1 else s.wait,
                    negWait := if new = .exited then s.negWait || s.wait == 0 else s.negWait } := by
  simp only [step] at h
  split at h
  · cases h
  · next pc hw =>
    split at h
    · split at h
      · next hq => cases h; exact ⟨_, _, _, _, _, hw, .recvJob hq, rfl⟩
      · next hq => cases h; exact ⟨_, _, _, _, _, hw, .recvExit hq, rfl⟩
    · split at h
      · next hr => cases h; exact ⟨_, _, _, _, _, hw, .fetchOk hr, rfl⟩
      · next hr => cases h; exact ⟨_, _, _, _, _, hw, .fetchFail hr, rfl⟩
    · split at h
      · next hr => cases h; exact ⟨_, _, _, _, _, hw, .notaryOk hr, rfl⟩
      · next hr => cases h; exact ⟨_, _, _, _, _, hw, .notaryFail hr, rfl⟩
    · split at h
      · cases h
      · next hmx => cases h; exact ⟨_, _, _, _, _, hw, .merge (by simpa using hmx), rfl⟩
    · cases h

theorem step_main {c : Cfg} {s s' : State} (h : step c s .main = some s') :
    s.mainDone = false ∧ s.wait = 0 ∧ s' = { s with mainDone := true } := by
  simp only [step] at h
  split at h
  · cases h
  · next hc => cases h; simpa using hc

/-- worker `pc` is working on server `x` -/
def inflight : WPc → Server → Prop
  | .fetch s, x | .notary s, x | .merge s _, x => s = x
  | _, _ => False

/-- a worker's program counter agrees with what the key client, an oracle in `c`, answered -/
def WOk (c : Cfg) (order : List Server) : WPc → Prop
  | .fetch srv => srv ∈ order
  | .notary srv => srv ∈ order ∧ fetchDirect c srv = none
  | .merge srv res => srv ∈ order ∧ res = answer c srv
  | _ => True

/-- what the WaitGroup counter must be (`FInv.cnt`) -/
def live (ws : List WPc) : Nat := ws.countP (fun pc => pc != .exited)

/-- what the results map must hold, key by key, once the servers in `fin` are done -/
def resultsSpec (c : Cfg) (fin : List Server) (k : Req) : Option Val :=
  if c.isLocal k.1 then (if c.requests.contains k then some (localVal c) else none)
  else if k.1 ∈ fin then rget k (answer c k.1) else none

/-- The invariant of the reachable states.  `done`, `cnt`, `qlive` and `cover` make every server of `order` finished once
    main has returned, and `res` then gives the union; `cnt` and `neg` say that the WaitGroup counter is exact and was never
    negative; `mx` and `cnt` give that some thread can always move.  The hypothesis of `res` stands inside the field because
    the other fields hold without it. -/
structure FInv (c : Cfg) (order : List Server) (s : State) : Prop where
  res : (∀ x ∈ order, c.isLocal x = false) → ∀ k, rget k s.results = resultsSpec c s.finished k
  mx : s.mutex = none
  wk : ∀ pc ∈ s.workers, WOk c order pc
  cover : ∀ x ∈ order, x ∈ s.queue ∨ x ∈ s.finished ∨ ∃ pc ∈ s.workers, inflight pc x
  subq : ∀ x ∈ s.queue, x ∈ order
  subf : ∀ x ∈ s.finished, x ∈ order
  cnt : s.wait = live s.workers
  neg : s.negWait = false
  qlive : s.queue ≠ [] → 0 < live s.workers
  done : s.mainDone = true → s.wait = 0

/-- the map main starts the workers with: the local entries -/
theorem localResults_spec (c : Cfg) (k : Req) :
    rget k ((localRequests c).foldl (fun acc r => rput r (localVal c) acc) []) = resultsSpec c [] k := by
  simp only [resultsSpec, rget_foldl_rput, rget_nil, localRequests, List.mem_filter, List.not_mem_nil, if_false]
  by_cases hl : c.isLocal k.1 = true
  · by_cases hr : k ∈ c.requests <;> simp [hl, hr]
  · simp [hl]

/-- finishing a remote server `srv` (merging its answer, `[]` if both calls failed) keeps a map on its specification -/
theorem merge_answer_spec {c : Cfg} {m : RMap} {fin : List Server} (hm : ∀ k, rget k m = resultsSpec c fin k)
    {srv : Server} (hloc : c.isLocal srv = false) (k : Req) :
    rget k (mergeInto m (answer c srv)) = resultsSpec c (srv :: fin) k := by
  obtain ⟨hnd, hkeys⟩ := answer_spec c srv
  rw [rget_mergeInto, hm k]
  by_cases hk : k.1 = srv
  · -- the keys of an answer are distinct: the last entry under `k` is the first
    rw [rget_eq k (List.reverse _), ← Assoc.lookup_perm (List.reverse_perm _).symm hnd, ← rget_eq]
    simp only [resultsSpec, hk, hloc, Bool.false_eq_true, if_false, List.mem_cons, true_or, if_true]
    by_cases hf : srv ∈ fin <;> simp [hf]
  · have : rget k (answer c srv).reverse = none := Assoc.lookup_eq_none.2 fun hmem => by
      obtain ⟨p, hp, rfl⟩ := List.mem_map.1 hmem
      exact hk (hkeys p (List.mem_reverse.1 hp))
    simp [this, resultsSpec, hk]

theorem finv_init (c : Cfg) (order : List Server) : FInv c order (init c order) := by
  have hlive : live (init c order).workers = numWorkers order.length := by
    simp only [init, live, List.countP_replicate]; simp
  refine ⟨?_, rfl, ?_, ?_, ?_, ?_, hlive.symm, rfl, ?_, ?_⟩
  · exact fun _ => localResults_spec c
  · intro pc hpc
    simp only [init, List.mem_replicate] at hpc
    rw [hpc.2]; trivial
  · intro x hx; exact Or.inl hx
  · intro x hx; exact hx
  · intro x hx; simp [init] at hx
  · intro h
    have : 0 < order.length := List.length_pos_iff.2 h
    have : 0 < VGen.fetchMaxWorkers := by decide
    rw [hlive, numWorkers]; split <;> omega
  · intro h; simp [init] at h

theorem live_set {ws : List WPc} {i : Nat} {old new : WPc} (h : ws[i]? = some old) (hold : old ≠ .exited) :
    live (ws.set i new) = live ws - 1 + (if new = .exited then 0 else 1) := by
  obtain ⟨hi, rfl⟩ := List.getElem?_eq_some_iff.1 h
  unfold live
  rw [List.countP_set hi, if_pos (bne_iff_ne.2 hold)]
  by_cases hn : new = .exited
  · subst hn; rfl
  · rw [if_pos (bne_iff_ne.2 hn), if_neg hn]

theorem live_pos {ws : List WPc} : 0 < live ws ↔ ∃ pc ∈ ws, pc ≠ .exited := by
  unfold live
  simp only [List.countP_pos_iff, bne_iff_ne]

theorem cover_replace {s : State} {order : List Server} {i : Nat} {old new : WPc} {q fin : List Server}
    (hcov : ∀ x ∈ order, x ∈ s.queue ∨ x ∈ s.finished ∨ ∃ pc ∈ s.workers, inflight pc x)
    (hw : s.workers[i]? = some old)
    (hq : ∀ x, x ∈ s.queue → x ∈ q ∨ inflight new x)
    (hf : ∀ x, x ∈ s.finished → x ∈ fin)
    (hold : ∀ x, inflight old x → inflight new x ∨ x ∈ fin) :
    ∀ x ∈ order, x ∈ q ∨ x ∈ fin ∨ ∃ pc ∈ s.workers.set i new, inflight pc x := by
  have hnew : new ∈ s.workers.set i new := List.mem_set (List.getElem?_eq_some_iff.1 hw).1 _
  intro x hx
  rcases hcov x hx with h | h | ⟨pc, hpc, hin⟩
  · rcases hq x h with h | h
    · exact Or.inl h
    · exact Or.inr (Or.inr ⟨new, hnew, h⟩)
  · exact Or.inr (Or.inl (hf x h))
  · by_cases hpo : pc = old
    · subst hpo
      rcases hold x hin with h | h
      · exact Or.inr (Or.inr ⟨new, hnew, h⟩)
      · exact Or.inr (Or.inl h)
    · exact Or.inr (Or.inr ⟨pc, Lists.mem_set_ne hw hpc hpo, hin⟩)

theorem wk_replace {c : Cfg} {order : List Server} {ws : List WPc} {i : Nat} {new : WPc}
    (hwk : ∀ pc ∈ ws, WOk c order pc) (hnew : WOk c order new) : ∀ pc ∈ ws.set i new, WOk c order pc := by
  intro pc hpc
  rcases List.mem_or_eq_of_mem_set hpc with h | rfl
  · exact hwk pc h
  · exact hnew

theorem finv_step {c : Cfg} {order : List Server}
    {s s' : State} {m : Move} (hi : FInv c order s) (h : step c s m = some s') : FInv c order s' := by
  cases m with
  | main =>
    obtain ⟨-, hw, rfl⟩ := step_main h
    exact { hi with done := fun _ => hw }
  | worker i =>
    obtain ⟨old, new, q, fin, res, hw, hst, rfl⟩ := step_worker h
    -- the fields every worker step treats alike: the worker was live, so the WaitGroup counter was positive
    have hold : old ≠ .exited := by cases hst <;> exact WPc.noConfusion
    have hpos := live_pos.2 ⟨old, List.mem_of_getElem? hw, hold⟩
    have hcnt : (if new = .exited then s.wait - 1 else s.wait) = live (s.workers.set i new) := by
      rw [live_set hw hold, hi.cnt]; split
      · rfl
      · exact (Nat.sub_add_cancel hpos).symm
    have hneg : (if new = .exited then s.negWait || s.wait == 0 else s.negWait) = false := by
      rw [hi.neg, hi.cnt]; split
      · simp; omega
      · rfl
    have hdone : s.mainDone = true → (if new = .exited then s.wait - 1 else s.wait) = 0 := fun hd => by
      have := hi.done hd; split
      · rw [this]
      · exact this
    have hlive : new ≠ .exited → 0 < live (s.workers.set i new) := fun hn => by
      rw [live_set hw hold, if_neg hn]; exact Nat.succ_pos _
    have hok := hi.wk old (List.mem_of_getElem? hw)
    have keepq : ∀ x, x ∈ s.queue → x ∈ s.queue ∨ inflight new x := fun _ => .inl
    cases hst with
    | recvJob hq =>
      have hsrv := hi.subq _ (hq ▸ List.mem_cons_self)
      refine ⟨hi.res, hi.mx, wk_replace hi.wk hsrv, ?_, fun x hx => hi.subq x (hq ▸ List.mem_cons_of_mem _ hx), hi.subf,
        hcnt, hneg, fun _ => hlive WPc.noConfusion, hdone⟩
      exact cover_replace hi.cover hw (fun x hx => (List.mem_cons.1 (hq ▸ hx)).elim (fun e => .inr e.symm) .inl)
        (fun _ => id) (fun _ => False.elim)
    | recvExit hq =>
      exact ⟨hi.res, hi.mx, wk_replace hi.wk trivial, cover_replace hi.cover hw keepq (fun _ => id) (fun _ => False.elim),
        hi.subq, hi.subf, hcnt, hneg, fun h => absurd hq h, hdone⟩
    | fetchOk hr =>
      exact ⟨hi.res, hi.mx, wk_replace hi.wk ⟨hok, by simp [answer, hr]⟩,
        cover_replace hi.cover hw keepq (fun _ => id) (fun _ => .inl), hi.subq, hi.subf, hcnt, hneg,
        fun _ => hlive WPc.noConfusion, hdone⟩
    | fetchFail hr =>
      exact ⟨hi.res, hi.mx, wk_replace hi.wk ⟨hok, hr⟩,
        cover_replace hi.cover hw keepq (fun _ => id) (fun _ => .inl), hi.subq, hi.subf, hcnt, hneg,
        fun _ => hlive WPc.noConfusion, hdone⟩
    | notaryOk hr =>
      exact ⟨hi.res, hi.mx, wk_replace hi.wk ⟨hok.1, by simp [answer, hok.2, hr]⟩,
        cover_replace hi.cover hw keepq (fun _ => id) (fun _ => .inl), hi.subq, hi.subf, hcnt, hneg,
        fun _ => hlive WPc.noConfusion, hdone⟩
    | @notaryFail srv hr =>
      have hans : answer c srv = [] := by simp [answer, hok.2, hr]
      exact ⟨fun hloc k => by have := merge_answer_spec (hi.res hloc) (hloc _ hok.1) k; rwa [hans] at this, hi.mx, wk_replace hi.wk trivial,
        cover_replace hi.cover hw keepq (fun _ => List.mem_cons_of_mem _) (fun _ e => .inr (e ▸ List.mem_cons_self)),
        hi.subq, List.forall_mem_cons.2 ⟨hok.1, hi.subf⟩, hcnt, hneg, fun _ => hlive WPc.noConfusion, hdone⟩
    | merge hmx =>
      exact ⟨fun hloc k => hok.2 ▸ merge_answer_spec (hi.res hloc) (hloc _ hok.1) k, hi.mx, wk_replace hi.wk trivial,
        cover_replace hi.cover hw keepq (fun _ => List.mem_cons_of_mem _) (fun _ e => .inr (e ▸ List.mem_cons_self)),
        hi.subq, List.forall_mem_cons.2 ⟨hok.1, hi.subf⟩, hcnt, hneg, fun _ => hlive WPc.noConfusion, hdone⟩

theorem finv_reachable {c : Cfg} {order : List Server} {s : State}
    (h : Reachable c order s) : FInv c order s := by
  induction h with
  | init => exact finv_init c order
  | step m _ hs ih => exact finv_step ih hs

/-- the steps a worker can still make before it is back at `recv`, plus one; nothing once it has exited -/
def weight : WPc → Nat
  | .exited => 0
  | .recv => 1
  | .merge _ _ => 2
  | .notary _ => 3
  | .fetch _ => 4

def wsum : List WPc → Nat
  | [] => 0
  | pc :: ws => weight pc + wsum ws

theorem wsum_set {ws : List WPc} {i : Nat} {old new : WPc} (h : ws[i]? = some old) :
    wsum (ws.set i new) + weight old = wsum ws + weight new := by
  induction ws generalizing i with
  | nil => cases h
  | cons x xs ih =>
    cases i with
    | zero =>
      cases h
      show weight new + wsum xs + weight old = weight old + wsum xs + weight new
      omega
    | succ j =>
      have := ih (i := j) h
      show weight x + wsum (xs.set j new) + weight old = weight x + wsum xs + weight new
      omega

def measure (s : State) : Nat := 5 * s.queue.length + wsum s.workers + (if s.mainDone then 0 else 1)

/-- every worker step pays for its new program counter: a job taken off the queue is worth more than the whole job -/
theorem WStep.weight_lt {c : Cfg} {s : State} {old new : WPc} {q fin : List Server} {res : RMap}
    (h : WStep c s old new q fin res) : 5 * q.length + weight new < 5 * s.queue.length + weight old := by
  cases h with
  | recvJob hq => simp only [hq, List.length_cons, weight]; omega
  | _ => exact Nat.add_lt_add_left (by simp [weight]) _

theorem mem_byServerKeys {c : Cfg} {x : Server} :
    x ∈ byServerKeys c ↔ ∃ k, (x, k) ∈ c.requests ∧ c.isLocal x = false := by
  unfold byServerKeys
  rw [List.mem_eraseDups]
  simp only [List.mem_map, List.mem_filter]
  constructor
  · rintro ⟨⟨a, b⟩, ⟨hm, hl⟩, rfl⟩
    exact ⟨b, hm, by simpa using hl⟩
  · rintro ⟨k, hm, hl⟩
    exact ⟨(x, k), ⟨hm, by simpa using hl⟩, rfl⟩

/-- with exactly the remote servers finished, the invariant's specification is that of `FetchKeys` -/
theorem resultsSpec_eq_specGet {c : Cfg} {fin : List Server} (h : ∀ x, x ∈ fin ↔ x ∈ byServerKeys c) (k : Req) :
    resultsSpec c fin k = specGet c k := by
  simp only [resultsSpec, specGet, h, List.contains_iff_mem]

end V.Conc.Fetch
