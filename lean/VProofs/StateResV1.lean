/-
  Version 1 state resolution (stateresolution.go) of the model: the sort by (depth, sha1), the two
  block resolvers pick a member of their block, `resolveAndAddAuthBlocks` yields one winner per non-empty
  block.
-/
import VProofs.StateResBasic
import VProofs.StateResSort
namespace V.StateRes
open List

/-- the sort key of `conflictedEventSorter` -/
def v1Key (sha : ID → Bytes) (e : Event) : V1Key := { depth := e.depth, sha1 := sha e.eventID }

theorem sortV1_eq (sha : ID → Bytes) (evs : List Event) : sortV1 sha evs = sortOn v1Lt (v1Key sha) evs := rfl

theorem sortV1_perm (sha : ID → Bytes) (evs : List Event) : sortV1 sha evs ~ evs := sortOn_perm _ _ evs

theorem mem_sortV1 {sha : ID → Bytes} {evs : List Event} {e : Event} : e ∈ sortV1 sha evs ↔ e ∈ evs :=
  (sortV1_perm sha evs).mem_iff

theorem sortV1_eq_nil {sha : ID → Bytes} {evs : List Event} : sortV1 sha evs = [] ↔ evs = [] := by
  constructor
  · intro h; have := (sortV1_perm sha evs).length_eq; rw [h] at this
    exact List.eq_nil_of_length_eq_zero this.symm
  · rintro rfl; rfl

/-- `hk`: the comparator looks at (depth, sha1 of the event ID) only; two different candidates with the same pair
    come out in an order fixed by their input order (reversed), so the result would depend on the arrangement. -/
theorem sortV1_unique (sha : ID → Bytes) {evs evs' : List Event} (hp : evs ~ evs')
    (hk : ∀ a ∈ evs, ∀ b ∈ evs, a.depth = b.depth → sha a.eventID = sha b.eventID → a = b) :
    sortV1 sha evs = sortV1 sha evs' := by
  refine sortOn_unique _ v1Lt_strictTotal hp (fun a ha b hb hab => ?_)
  simp only [V1Key.mk.injEq] at hab
  exact hk a ha b hb hab.1 hab.2

/-! ## The block resolvers pick a member of the block -/

theorem go_mem (valid : Bool) (s : V1State) (r : Event) (rest : List Event) :
    (resolveAuthBlock.go valid s r rest).1 ∈ r :: rest := by
  induction rest generalizing s r with
  | nil => simp [resolveAuthBlock.go]
  | cons e more ih =>
    unfold resolveAuthBlock.go
    split
    · have := ih (s.addAuthEvent e) e
      exact List.mem_cons_of_mem _ this
    · exact List.mem_cons_self

/-- what the slot held before the block is put back once the block is resolved -/
def restorePrev (prev : Option Event) (s : V1State) : V1State :=
  match prev with
  | some p => s.addAuthEvent p
  | none => s

theorem resolveAuthBlock_eq (sha : ID → Bytes) (valid : Bool) (s : V1State) (evs : List Event) :
    resolveAuthBlock sha valid s evs =
      match sortV1 sha evs with
      | [] => (none, s)
      | first :: rest =>
        (some (resolveAuthBlock.go valid (s.addAuthEvent first) first rest).1,
         restorePrev (s.authEventAt first.type (first.stateKey.getD []))
          ((resolveAuthBlock.go valid (s.addAuthEvent first) first rest).2.removeAuthEvent
           (resolveAuthBlock.go valid (s.addAuthEvent first) first rest).1.type
           ((resolveAuthBlock.go valid (s.addAuthEvent first) first rest).1.stateKey.getD []))) := by
  unfold resolveAuthBlock
  split
  · rename_i h; rw [h]
  · rename_i h; rw [h]; rfl

theorem resolveAuthBlock_mem {sha : ID → Bytes} {valid : Bool} {s : V1State} {evs : List Event} {e : Event}
    (h : (resolveAuthBlock sha valid s evs).1 = some e) : e ∈ evs := by
  rw [resolveAuthBlock_eq] at h
  split at h
  · cases h
  · rename_i first rest hs
    simp only [Option.some.injEq] at h
    rw [← mem_sortV1 (sha := sha), hs, ← h]
    exact go_mem _ _ _ _

theorem resolveAuthBlock_none {sha : ID → Bytes} {valid : Bool} {s : V1State} {evs : List Event} :
    (resolveAuthBlock sha valid s evs).1 = none ↔ evs = [] := by
  rw [resolveAuthBlock_eq]
  split
  · rename_i hs; simp [sortV1_eq_nil.mp hs]
  · rename_i first rest hs
    simp only [reduceCtorEq, false_iff]
    intro h; rw [h] at hs; cases hs

theorem resolveAuthBlock_nil (sha : ID → Bytes) (valid : Bool) (s : V1State) :
    resolveAuthBlock sha valid s [] = (none, s) := rfl

theorem resolveNormalBlock_mem {sha : ID → Bytes} {valid : Bool} {s : V1State} {evs : List Event} {e : Event}
    (h : resolveNormalBlock sha valid s evs = some e) : e ∈ evs := by
  unfold resolveNormalBlock at h
  split at h
  · cases h
  · rename_i first rest hs
    rw [← mem_sortV1 (sha := sha), hs]
    split at h
    · rename_i x hx
      simp only [Option.some.injEq] at h; subst h
      have := List.mem_of_find?_eq_some hx
      exact List.mem_cons_of_mem _ (List.mem_reverse.mp this)
    · simp only [Option.some.injEq] at h; subst h; exact List.mem_cons_self

theorem resolveNormalBlock_none {sha : ID → Bytes} {valid : Bool} {s : V1State} {evs : List Event} :
    resolveNormalBlock sha valid s evs = none ↔ evs = [] := by
  unfold resolveNormalBlock
  split
  · rename_i hs; simp [sortV1_eq_nil.mp hs]
  · rename_i first rest hs
    have : evs ≠ [] := by intro h; rw [h] at hs; cases hs
    split <;> simp [this]

/-! ## One winner per non-empty block -/

/-- `rs` picks one member from every non-empty block of `bs`, in order -/
inductive Picks : List (List Event) → List Event → Prop
  | nil : Picks [] []
  | skip {bs : List (List Event)} {rs : List Event} : Picks bs rs → Picks ([] :: bs) rs
  | cons {b : List Event} {bs : List (List Event)} {e : Event} {rs : List Event} :
      e ∈ b → Picks bs rs → Picks (b :: bs) (e :: rs)

theorem Picks.append {bs bs' : List (List Event)} {rs rs' : List Event} (h : Picks bs rs) (h' : Picks bs' rs') :
    Picks (bs ++ bs') (rs ++ rs') := by
  induction h with
  | nil => exact h'
  | skip _ ih => exact .skip ih
  | cons he _ ih => exact .cons he ih

theorem Picks.mem {bs : List (List Event)} {rs : List Event} (h : Picks bs rs) {e : Event} (he : e ∈ rs) :
    ∃ b ∈ bs, e ∈ b := by
  induction h with
  | nil => cases he
  | skip _ ih => obtain ⟨b, hb, h'⟩ := ih he; exact ⟨b, List.mem_cons_of_mem _ hb, h'⟩
  | cons hb _ ih =>
    rcases List.mem_cons.mp he with rfl | he
    · exact ⟨_, List.mem_cons_self, hb⟩
    · obtain ⟨b, hb', h'⟩ := ih he; exact ⟨b, List.mem_cons_of_mem _ hb', h'⟩

/-- `hG`: an empty group would contribute no winner; a group with mixed keys has no key to speak of. -/
theorem Picks.map_key {G : List ((Bytes × Bytes) × List Event)} {rs : List Event}
    (hG : ∀ g ∈ G, g.2 ≠ [] ∧ ∀ e ∈ g.2, keyOf e = g.1) (h : Picks (G.map (·.2)) rs) :
    rs.map keyOf = G.map (·.1) := by
  induction G generalizing rs with
  | nil => cases h; rfl
  | cons g G ih =>
    have hg := hG g List.mem_cons_self
    have hG' : ∀ g ∈ G, g.2 ≠ [] ∧ ∀ e ∈ g.2, keyOf e = g.1 := fun x hx => hG x (List.mem_cons_of_mem _ hx)
    rw [List.map_cons] at h
    generalize hb : g.2 = b at h
    cases h with
    | skip h' => exact absurd hb hg.1
    | cons he h' =>
      subst hb
      rw [List.map_cons, List.map_cons, ih hG' h', hg.2 _ he]

theorem Picks.of_flatten_single {l : List (List Event)} {rs : List Event} (hl : l.length ≤ 1)
    (h : Picks [l.flatten] rs) : Picks l rs := by
  match l, hl with
  | [], _ =>
    simp only [List.flatten_nil] at h
    cases h with
    | skip h' => cases h'; exact .nil
    | cons he _ => cases he
  | [b], _ => simpa using h
  | _ :: _ :: _, hl => simp at hl

/-- the fold step of `resolveAndAddAuthBlocks` (the lambda of the model, verbatim) -/
def authBlocksStep (sha : ID → Bytes) (valid : Bool) (acc : V1State × List Event) (block : List Event) :
    V1State × List Event :=
  if block.isEmpty then acc else
    match resolveAuthBlock sha valid acc.1 block with
    | (some e, st) => (st, acc.2 ++ [e])
    | (none, st) => (st, acc.2)

theorem resolveAndAddAuthBlocks_eq (sha : ID → Bytes) (valid : Bool) (s : V1State) (blocks : List (List Event)) :
    resolveAndAddAuthBlocks sha valid s blocks =
      ((blocks.foldl (authBlocksStep sha valid) (s, [])).2.foldl V1State.addAuthEvent
          (blocks.foldl (authBlocksStep sha valid) (s, [])).1,
        (blocks.foldl (authBlocksStep sha valid) (s, [])).2) := rfl

theorem authBlocksStep_eq (sha : ID → Bytes) (valid : Bool) (acc : V1State × List Event) (b : List Event) :
    authBlocksStep sha valid acc b =
      ((resolveAuthBlock sha valid acc.1 b).2, acc.2 ++ (resolveAuthBlock sha valid acc.1 b).1.toList) := by
  unfold authBlocksStep
  cases b with
  | nil => simp [resolveAuthBlock_nil]
  | cons x xs =>
    rw [List.isEmpty_cons, if_neg Bool.false_ne_true]
    cases resolveAuthBlock sha valid acc.1 (x :: xs) with
    | mk o st => cases o <;> simp

theorem authBlocksStep_picks (sha : ID → Bytes) (valid : Bool) (blocks : List (List Event)) (acc : V1State × List Event) :
    ∃ rs, (blocks.foldl (authBlocksStep sha valid) acc).2 = acc.2 ++ rs ∧ Picks blocks rs := by
  induction blocks generalizing acc with
  | nil => exact ⟨[], by simp, .nil⟩
  | cons b bs ih =>
    obtain ⟨rs, h1, h2⟩ := ih (authBlocksStep sha valid acc b)
    rw [List.foldl_cons, h1, authBlocksStep_eq]
    cases hr : (resolveAuthBlock sha valid acc.1 b).1 with
    | none =>
      have hb := resolveAuthBlock_none.mp hr
      subst hb
      exact ⟨rs, by simp, .skip h2⟩
    | some e => exact ⟨e :: rs, by simp, .cons (resolveAuthBlock_mem hr) h2⟩

theorem resolveAndAddAuthBlocks_picks (sha : ID → Bytes) (valid : Bool) (s : V1State) (blocks : List (List Event)) :
    Picks blocks (resolveAndAddAuthBlocks sha valid s blocks).2 := by
  rw [resolveAndAddAuthBlocks_eq]
  obtain ⟨rs, h1, h2⟩ := authBlocksStep_picks sha valid blocks (s, [])
  simp only [h1, List.nil_append]
  exact h2

theorem resolveNormal_picks (sha : ID → Bytes) (valid : Bool) (s : V1State) (blocks : List (List Event)) :
    Picks blocks (blocks.filterMap (resolveNormalBlock sha valid s)) := by
  induction blocks with
  | nil => exact .nil
  | cons b bs ih =>
    rw [List.filterMap_cons]
    cases hr : resolveNormalBlock sha valid s b with
    | none => rw [resolveNormalBlock_none.mp hr]; exact .skip ih
    | some e => exact .cons (resolveNormalBlock_mem hr) ih

end V.StateRes
