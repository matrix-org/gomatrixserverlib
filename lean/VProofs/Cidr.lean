/-
  VProofs.Cidr — bit-level lemmas behind C16's network policy theorems: and-ing with a CIDR mask
  keeps exactly the leading bits, so "masked addresses equal" is "prefixes equal".
-/
import VModel.Cidr
namespace V.Cidr

theorem testBit_cidrMask (ones bits i : Nat) (h : ones ≤ bits) :
    (cidrMask ones bits).testBit i = (decide (bits - ones ≤ i) && decide (i < bits)) := by
  unfold cidrMask
  rw [Nat.testBit_shiftLeft, Nat.testBit_two_pow_sub_one, Bool.eq_iff_iff]
  simp only [Bool.and_eq_true, decide_eq_true_eq, ge_iff_le]
  omega

theorem and_cidrMask (x ones bits : Nat) (hx : x < 2 ^ bits) (h : ones ≤ bits) :
    x &&& cidrMask ones bits = x / 2 ^ (bits - ones) * 2 ^ (bits - ones) := by
  apply Nat.eq_of_testBit_eq
  intro i
  rw [Nat.testBit_and, testBit_cidrMask _ _ _ h, Nat.testBit_mul_two_pow, Nat.testBit_div_two_pow]
  by_cases h1 : bits - ones ≤ i
  · have e : i - (bits - ones) + (bits - ones) = i := by omega
    by_cases h2 : i < bits
    · simp [h1, h2, e]
    · have : x.testBit i = false := by
        apply Nat.testBit_lt_two_pow
        exact Nat.lt_of_lt_of_le hx (Nat.pow_le_pow_right (by decide) (by omega))
      simp [h1, h2, e, this]
  · simp [h1]

theorem masked_eq_iff (a b ones bits : Nat) (ha : a < 2 ^ bits) (hb : b < 2 ^ bits) (h : ones ≤ bits) :
    (b &&& cidrMask ones bits) = (a &&& cidrMask ones bits) ↔ a / 2 ^ (bits - ones) = b / 2 ^ (bits - ones) := by
  rw [and_cidrMask a ones bits ha h, and_cidrMask b ones bits hb h]
  have hp : 0 < 2 ^ (bits - ones) := Nat.two_pow_pos _
  constructor
  · intro e; exact (Nat.eq_of_mul_eq_mul_right hp e).symm
  · intro e; rw [e]

theorem and_lt (x m bits : Nat) (hx : x < 2 ^ bits) : x &&& m < 2 ^ bits :=
  Nat.lt_of_le_of_lt Nat.and_le_left hx

theorem cidrMask_128_mod (ones : Nat) (h1 : 96 ≤ ones) (h2 : ones ≤ 128) :
    cidrMask ones 128 % 2 ^ 32 = cidrMask (ones - 96) 32 := by
  apply Nat.eq_of_testBit_eq
  intro i
  rw [Nat.testBit_mod_two_pow, testBit_cidrMask _ _ _ h2, testBit_cidrMask _ _ _ (by omega), Bool.eq_iff_iff]
  simp only [Bool.and_eq_true, decide_eq_true_eq]
  omega

theorem isMapped_and_cidrMask (x ones : Nat) (hx : x < 2 ^ 128) (h : ones ≤ 128) :
    isMapped (x &&& cidrMask ones 128) = (decide (96 ≤ ones) && isMapped x) := by
  rw [and_cidrMask x ones 128 hx h]
  unfold isMapped
  by_cases h96 : 96 ≤ ones
  · -- 128 - ones ≤ 32: dividing by 2^32 forgets the cleared bits
    have e : 2 ^ 32 = 2 ^ (128 - ones) * 2 ^ (32 - (128 - ones)) := by
      rw [← Nat.pow_add]; congr 1; omega
    have : x / 2 ^ (128 - ones) * 2 ^ (128 - ones) / 2 ^ 32 = x / 2 ^ 32 := by
      rw [e, ← Nat.div_div_eq_div_mul, Nat.mul_div_cancel _ (Nat.two_pow_pos _), Nat.div_div_eq_div_mul]
    rw [this]; simp [h96]
  · -- the lowest bit of the would-be prefix is cleared
    obtain ⟨j, hj⟩ : ∃ j, 128 - ones = j + 1 + 32 := ⟨128 - ones - 33, by omega⟩
    rw [hj]
    have hq : ∀ q : Nat, q * 2 ^ (j + 1 + 32) / 2 ^ 32 = q * 2 ^ j * 2 := by
      intro q
      rw [Nat.pow_add, Nat.pow_add, Nat.pow_one, ← Nat.mul_assoc, ← Nat.mul_assoc, Nat.mul_div_cancel _ (Nat.two_pow_pos _)]
    rw [hq]
    simp only [h96, decide_false, Bool.false_and]
    apply beq_false_of_ne
    omega

/-- well-formedness of what net.ParseCIDR returns -/
structure CIDR.WF (c : CIDR) : Prop where
  bits : c.bitLen = 32 ∨ c.bitLen = 128
  ones : c.ones ≤ c.bitLen
  addr : c.addr16 < 2 ^ 128

/-- The network `net.ParseCIDR` builds, as `IPNet.Contains` reads it (`To4` applied, a 16-byte mask cut to its last 4 bytes over an
    IPv4 network), is the specification's range: its masked base and the mask of its prefix length.  With the bounds of the range. -/
theorem ipNetOf_range (c : CIDR) (hc : c.WF) :
    match Spec.rangeOf c with
    | .r4 b n => numberAndMask (ipNetOf c) = some (.v4 (b &&& cidrMask n 32), cidrMask n 32) ∧ b < 2 ^ 32 ∧ n ≤ 32
    | .r6 b n => numberAndMask (ipNetOf c) = some (.v6 (b &&& cidrMask n 128), cidrMask n 128) ∧ b < 2 ^ 128 ∧ n ≤ 128 := by
  have ho := hc.ones
  have hlt : c.addr16 % 2 ^ 32 < 2 ^ 32 := Nat.mod_lt _ (Nat.two_pow_pos _)
  rcases hc.bits with hb | hb
  · simp only [Spec.rangeOf, ipNetOf, numberAndMask, hb, beq_self_eq_true, ↓reduceIte]
    exact ⟨trivial, hlt, by omega⟩
  · rw [hb] at ho
    have hnet := isMapped_and_cidrMask c.addr16 c.ones hc.addr ho
    cases hcov : decide (96 ≤ c.ones) && isMapped c.addr16 <;> rw [hcov] at hnet <;>
      simp only [Spec.rangeOf, ipNetOf, numberAndMask, hb, show ((128 : Nat) == 32) = false from rfl, Bool.false_eq_true, ↓reduceIte,
        beq_self_eq_true, normalise, hnet, ge_iff_le, hcov]
    · exact ⟨trivial, hc.addr, ho⟩
    · -- an IPv4 network written in IPv4-mapped form
      have h96 : 96 ≤ c.ones := by simp only [Bool.and_eq_true, decide_eq_true_eq] at hcov; exact hcov.1
      rw [Nat.and_mod_two_pow, cidrMask_128_mod _ h96 ho]
      exact ⟨rfl, hlt, by omega⟩

/-- IPNet.Contains, as ParseCIDR builds the network, is membership in the range the entry denotes:
    same family (IPv4-mapped forms counted as IPv4) and same leading `ones` bits. -/
theorem contains_iff_mem (c : CIDR) (ip16 : Nat) (hc : c.WF) (hip : ip16 < 2 ^ 128) :
    contains (ipNetOf c) ip16 = true ↔ Spec.mem (normalise ip16) (Spec.rangeOf c) := by
  have hr := ipNetOf_range c hc
  have hlt : ip16 % 2 ^ 32 < 2 ^ 32 := Nat.mod_lt _ (Nat.two_pow_pos _)
  unfold contains normalise
  generalize Spec.rangeOf c = r at hr
  -- family of the range × family of the address: equal families compare masked numbers, unequal ones never match
  cases r <;> cases isMapped ip16 <;> obtain ⟨hnm, hb, hn⟩ := hr <;>
    simp only [hnm, Spec.mem, Bool.false_eq_true, ↓reduceIte, Nat.and_assoc, Nat.and_self, beq_iff_eq]
  · exact masked_eq_iff _ _ _ _ hlt hb hn
  · exact masked_eq_iff _ _ _ _ hip hb hn

theorem as16_lt (p : ParsedAddr) : p.as16 < 2 ^ 128 := by
  cases p with
  | v4 a =>
    have : a % 2 ^ 32 < 2 ^ 32 := Nat.mod_lt _ (Nat.two_pow_pos _)
    simp only [ParsedAddr.as16, mapped]; omega
  | v6 a => exact Nat.mod_lt _ (Nat.two_pow_pos _)

theorem parseIP_lt (s : Str) (a : Nat) (h : parseIP s = some a) : a < 2 ^ 128 := by
  unfold parseIP at h
  cases hp : parseAddr s with
  | none => simp [hp] at h
  | some p => simp [hp] at h; rw [← h]; exact as16_lt p

theorem parseAddrGo_noColon (whole s : Str) (h : ':' ∉ s) (p : ParsedAddr) (hp : parseAddrGo whole s = some p) :
    ∃ a, p = .v4 a := by
  induction s with
  | nil => simp [parseAddrGo] at hp
  | cons c rest ih =>
    have hc : c ≠ ':' := fun e => h (by simp [e])
    have hr : ':' ∉ rest := fun e => h (by simp [e])
    unfold parseAddrGo at hp
    by_cases h1 : c = '.'
    · simp only [h1, beq_self_eq_true, ↓reduceIte] at hp
      cases hf : parseIPv4Fields whole with
      | none => simp [hf] at hp
      | some f => simp [hf] at hp; exact ⟨_, hp.symm⟩
    · have h1' : (c == '.') = false := by simpa using h1
      have h2' : (c == ':') = false := by simpa using hc
      simp only [h1', h2', Bool.false_eq_true, ↓reduceIte] at hp
      by_cases h3 : c = '%'
      · simp [h3] at hp
      · have h3' : (c == '%') = false := by simpa using h3
        simp only [h3', Bool.false_eq_true, ↓reduceIte] at hp
        exact ih hr hp

theorem isMapped_mapped (a : Nat) (h : a < 2 ^ 32) : isMapped (mapped a) = true := by
  unfold isMapped mapped
  have : (0xFFFF * 2 ^ 32 + a) / 2 ^ 32 = 0xFFFF := by omega
  simp [this]

/-- an IP literal written without ':' is (in 16-byte form) an IPv4-mapped address -/
theorem parseIP_noColon_mapped (s : Str) (h : s.contains ':' = false) (a : Nat) (hp : parseIP s = some a) :
    isMapped a = true := by
  have hmem : ':' ∉ s := by simpa using h
  unfold parseIP at hp
  cases hq : parseAddr s with
  | none => simp [hq] at hp
  | some p =>
    simp [hq] at hp
    obtain ⟨x, hx⟩ := parseAddrGo_noColon s s hmem p hq
    subst hx
    rw [← hp]
    exact isMapped_mapped _ (Nat.mod_lt _ (Nat.two_pow_pos _))

theorem parseCIDR_wf (s : Str) (c : CIDR) (h : parseCIDR s = some c) : c.WF := by
  unfold parseCIDR at h
  split at h
  · simp at h
  · split at h
    · simp at h
    · rename_i pa _
      split at h
      · simp at h
      · rename_i n _
        split at h
        · simp at h
        · rename_i hn
          simp only [Option.some.injEq] at h
          subst h
          refine ⟨?_, ?_, as16_lt pa⟩
          · cases pa <;> simp [ParsedAddr.bitLen]
          · simpa using hn

theorem inRange_eq_any (ip16 : Nat) (l : List (Option CIDR)) :
    inRange ip16 l = (Spec.parsable l).any (fun c => contains (ipNetOf c) ip16) := by
  induction l with
  | nil => rfl
  | cons x xs ih => cases x <;> simp [inRange, Spec.parsable, ih]

theorem inRange_iff (ip16 : Nat) (l : List (Option CIDR)) (hwf : ∀ c ∈ Spec.parsable l, c.WF) (hip : ip16 < 2 ^ 128) :
    inRange ip16 l = true ↔ ∃ c ∈ Spec.parsable l, Spec.mem (normalise ip16) (Spec.rangeOf c) := by
  rw [inRange_eq_any, List.any_eq_true]
  exact exists_congr fun c => and_congr_right fun hc => contains_iff_mem c ip16 (hwf c hc) hip

theorem control_ok_iff (allow deny : List (Option CIDR)) (network : Str) (split : Option Str) :
    control allow deny network split = .ok ↔
      (network = "tcp4".toList ∨ network = "tcp6".toList) ∧
      ∃ host ip16, split = some host ∧ parseIP host = some ip16 ∧ isAllowed ip16 allow deny = true := by
  unfold control
  by_cases hn : network = "tcp4".toList ∨ network = "tcp6".toList
  · have hn' : (network != "tcp4".toList && network != "tcp6".toList) = false := by
      rcases hn with h | h <;> simp [h]
    simp only [hn', Bool.false_eq_true, ↓reduceIte, hn, true_and]
    cases split with
    | none => simp
    | some host =>
      cases hp : parseIP host with
      | none => simp [hp]
      | some ip16 => cases hal : isAllowed ip16 allow deny <;> simp [hp, hal]
  · have hn' : (network != "tcp4".toList && network != "tcp6".toList) = true := by
      simpa [not_or] using hn
    simp only [hn', ↓reduceIte, hn, false_and, iff_false]
    intro h; cases h

end V.Cidr
