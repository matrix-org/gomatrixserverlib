/-
  A redaction only keeps values of the event.  A property of JSON values that strings and `null`
  have, and that an object has exactly when the values of its members have it (the two number-literal checks,
  `jNumbersOk` and `JVal.numsOk`, are such properties), passes from the member values of an event to those of its
  redaction, and to the `signatures` value `Sign()` writes.
-/
import VModel.EventParse
import VProofs.RedactExact
namespace V.RedactProofs
open V V.Json V.GoJson V.Redact

/-- the properties the head speaks of: nothing is asked of arrays, numbers and booleans, which a redaction only copies
    (`Json.Hered` is the notion for maps that rebuild every value) -/
structure ValProp (P : JVal → Prop) : Prop where
  str : ∀ s, P (.str s)
  null : P .null
  obj : ∀ m : Obj, P (.obj m) ↔ ∀ kv ∈ m, P kv.2

theorem setKey_vals {P : JVal → Prop} {m : Obj} {k : Bytes} {v : JVal} (hm : ∀ kv ∈ m, P kv.2) (hv : P v) :
    ∀ kv ∈ setKey m k v, P kv.2 := by
  unfold setKey
  split
  · intro kv h
    obtain ⟨x, hx, rfl⟩ := List.mem_map.mp h
    split
    · exact hv
    · exact hm x hx
  · intro kv h
    rcases List.mem_append.mp h with h | h
    · exact hm kv h
    · rw [List.mem_singleton.mp h]
      exact hv

theorem mergeInto_vals {P : JVal → Prop} {acc m : Obj} (ha : ∀ kv ∈ acc, P kv.2) (hm : ∀ kv ∈ m, P kv.2) :
    ∀ kv ∈ mergeInto acc m, P kv.2 := by
  unfold mergeInto
  induction m generalizing acc with
  | nil => exact ha
  | cons x rest ih =>
    obtain ⟨hx, hrest⟩ := List.forall_mem_cons.mp hm
    exact ih (setKey_vals ha hx) hrest

theorem decContent1_vals {P : JVal → Prop} (V : ValProp P) {v : Option JVal} {m' : Obj} (hm : (decContent1 v).val = some m')
    (h : ∀ w, v = some w → P w) : ∀ kv ∈ m', P kv.2 := by
  match v, hm, h with
  | some (.obj m), hm, h => cases hm; exact mergeInto_vals (fun _ h => nomatch h) ((V.obj m).mp (h _ rfl))

theorem newContent_vals {P : JVal → Prop} (ct : CTable) (ty : Bytes) {c : Option Obj} (hc : ∀ kv ∈ c.getD [], P kv.2) :
    ∀ kv ∈ (newContent ct ty c).getD [], P kv.2 := by
  unfold newContent
  split
  · exact hc
  · intro kv hkv
    obtain ⟨k, _, hk⟩ := List.mem_filterMap.mp hkv
    obtain ⟨v, hg, rfl⟩ := Option.map_eq_some_iff.mp hk
    exact hc _ (Assoc.mem_of_lookup_eq_some hg)
  · exact fun _ h => nomatch h

/-- every value written is a value the event holds under a field's name, the decoded type string, `null`, or the filtered
    content -/
theorem written_vals {P : JVal → Prop} (V : ValProp P) {a : Algo} {E : Field → Option JVal} {tf cf : Field} {ty : Bytes} {c : Option Obj}
    (R : Reads a E tf cf ty c) (h : ∀ f v, E f = some v → P v) : ∀ kv ∈ written a E ty c, P kv.2 := by
  rintro ⟨k, w⟩ hkv
  obtain ⟨f, _, _, hv⟩ := mem_pick.mp hkv
  have hnc := newContent_vals a.ctable ty (c := c) (by
    cases c with
    | none => exact fun _ h => nomatch h
    | some m => exact decContent1_vals (m' := m) V (by rw [R.content]) (h cf))
  unfold emitV at hv
  generalize newContent a.ctable ty c = nc at hnc hv
  split at hv
  · split at hv <;> cases hv
    exact V.str _
  · rcases nc with _ | m <;> dsimp only at hv <;> split at hv <;> cases hv
    · exact V.null
    · exact (V.obj _).mpr hnc
  · exact h f _ hv
  · cases hv

theorem redactWith_vals {P : JVal → Prop} (V : ValProp P) {a : Algo} (hd : foldDistinct a.fields = true) {kvs rk : Obj}
    (h : ∀ kv ∈ kvs, P kv.2) (hr : redactWith a (.obj kvs) = .ok (.obj rk)) : ∀ kv ∈ rk, P kv.2 := by
  obtain ⟨tf, cf, ty, c, R, hv⟩ := (redactWith_iff hd kvs _).mp hr
  cases hv
  exact written_vals V R fun f v hv => h (f.name, v) (lookupExact_mem hv)

theorem addSignature_vals {P : JVal → Prop} (V : ValProp P) {sigs : Option JVal} {name kid sig : Bytes} {ns : JVal}
    (hs : ∀ v, sigs = some v → P v) (h : EventParse.addSignature sigs name kid sig = some ns) : P ns := by
  have hnew : P (.obj [(kid, .str sig)]) := (V.obj _).mpr fun kv hkv => List.mem_singleton.mp hkv ▸ V.str sig
  unfold EventParse.addSignature at h
  split at h
  · cases h
    exact (V.obj _).mpr fun kv hkv => List.mem_singleton.mp hkv ▸ hnew
  · rename_i m
    have hm := (V.obj m).mp (hs _ rfl)
    split at h
    · cases h
      refine (V.obj _).mpr fun kv hkv => ?_
      rcases List.mem_append.mp hkv with h1 | h1
      · exact hm kv h1
      · exact List.mem_singleton.mp h1 ▸ hnew
    · rename_i km hkm
      cases h
      have hmem := Assoc.mem_of_lookup_eq_some hkm
      exact (V.obj _).mpr (setKey_vals hm ((V.obj _).mpr (setKey_vals ((V.obj km).mp (hm _ hmem)) (V.str sig))))
    · cases h
  · cases h

end V.RedactProofs

namespace V.RedactProofs
open V V.Json V.GoJson V.Redact V.EventParse

/-! ### the number-literal check `jNumbersOk` of the event constructors is such a property -/

theorem jNumbersOkMembers_eq_all : ∀ l : List (Bytes × JVal), jNumbersOkMembers l = l.all (fun kv => jNumbersOk kv.2)
  | [] => rfl
  | (k, v) :: l => by simp [jNumbersOkMembers, jNumbersOkMembers_eq_all l]

theorem jNumMembers_iff (kvs : Obj) : jNumbersOkMembers kvs = true ↔ ∀ kv ∈ kvs, jNumbersOk kv.2 = true := by
  rw [jNumbersOkMembers_eq_all, List.all_eq_true]

theorem jNumMembers_sub {l l' : Obj} (hs : ∀ kv ∈ l', kv ∈ l) (h : jNumbersOkMembers l = true) :
    jNumbersOkMembers l' = true :=
  (jNumMembers_iff l').mpr fun kv hkv => (jNumMembers_iff l).mp h kv (hs kv hkv)

theorem jNumbersOk_valProp : ValProp (jNumbersOk · = true) := ⟨fun _ => rfl, rfl, jNumMembers_iff⟩

end V.RedactProofs

namespace V.BuildProofs
open V V.Json V.GoJson V.Redact V.EventParse V.RedactProofs

/-! the check on a parsed value and on the value it denotes -/

mutual
theorem jNumbersOk_toJVal : (p : PVal) → jNumbersOk p.toJVal = p.numbersOk
  | .null => rfl
  | .bool _ => rfl
  | .num _ => rfl
  | .str _ _ => rfl
  | .arr xs => by simp only [PVal.toJVal, jNumbersOk, PVal.numbersOk, jNumbersOk_toJVals xs]
  | .obj kvs => by simp only [PVal.toJVal, jNumbersOk, PVal.numbersOk, jNumbersOk_toJMembers kvs]
theorem jNumbersOk_toJVals : (xs : List PVal) → jNumbersOkList (toJVals xs) = numbersOkList xs
  | [] => rfl
  | x :: xs => by simp only [toJVals, jNumbersOkList, numbersOkList, jNumbersOk_toJVal x, jNumbersOk_toJVals xs]
theorem jNumbersOk_toJMembers : (kvs : List (Bytes × Bytes × PVal)) → jNumbersOkMembers (toJMembers kvs) = numbersOkMembers kvs
  | [] => rfl
  | (r, d, v) :: kvs => by
    simp only [toJMembers, jNumbersOkMembers, numbersOkMembers, jNumbersOk_toJVal v, jNumbersOk_toJMembers kvs]
end

end V.BuildProofs
