/- Strings: the two surrogate scans (`noLoneSurr`, `surrogatesPaired`) one item at a time, the string bodies
   `parseString` accepts, as a relation (`StrBody`, `UEsc`), and what `compactString` makes of them
   (the string part of `compact_of_parse`). -/
import VProofs.JsonFuel
import VProofs.JsonBytes
namespace V.Json

/-! ### `compactUnicodeEscape` on the escapes a valid string can contain -/

theorem cue_nonsurr (a b c d : UInt8) (rest : Bytes) (h : isSurrogate (hex4 a b c d) = false) :
    compactUnicodeEscape (a :: b :: c :: d :: rest) = .ok (encodeStringBody (utf8Encode (hex4 a b c d)), rest) := by
  unfold compactUnicodeEscape
  dsimp only
  by_cases h1 : hex4 a b c d < 0x20
  · rw [if_pos h1, esb_control _ h1]
    split <;> rfl
  rw [if_neg h1]
  by_cases h2 : (hex4 a b c d == 0x5C || hex4 a b c d == 0x22) = true
  · rw [if_pos h2]
    simp only [Bool.or_eq_true, beq_iff_eq] at h2
    rcases h2 with h2 | h2 <;> rw [h2] <;> rfl
  rw [if_neg h2, h, if_neg Bool.false_ne_true]
  simp only [Bool.or_eq_true, beq_iff_eq, not_or] at h2
  rw [esb_utf8Encode _ (by omega) h2.2 h2.1]

theorem isSurrogate_ge {cp : Nat} (h : isSurrogate cp = true) : 0xD800 ≤ cp := by
  simp [isSurrogate] at h; omega

theorem decodeSurrogates_ge (hi lo : Nat) : 0xFFFD ≤ decodeSurrogates hi lo := by
  unfold decodeSurrogates; split <;> omega

theorem cue_pair (a b c d a2 b2 c2 d2 : UInt8) (rest : Bytes) (h : isSurrogate (hex4 a b c d) = true) :
    compactUnicodeEscape (a :: b :: c :: d :: 0x5C :: 0x75 :: a2 :: b2 :: c2 :: d2 :: rest) =
      .ok (encodeStringBody (utf8Encode (decodeSurrogates (hex4 a b c d) (hex4 a2 b2 c2 d2))), rest) := by
  have hge := isSurrogate_ge h
  have h1 : ¬ hex4 a b c d < 0x20 := by omega
  have h2 : (hex4 a b c d == 0x5C || hex4 a b c d == 0x22) = false := by
    simp only [Bool.or_eq_false_iff, beq_eq_false_iff_ne]; omega
  have hd := decodeSurrogates_ge (hex4 a b c d) (hex4 a2 b2 c2 d2)
  rw [esb_utf8Encode _ (by omega) (by omega) (by omega)]
  unfold compactUnicodeEscape
  simp [h1, h2, h]

/-! ### `noLoneSurr` step by step -/

theorem noLoneSurr_cons (c : UInt8) (rest : Bytes) :
    noLoneSurr (c :: rest) =
      if c == 0x5C then
        match rest with
        | [] => true
        | e :: rest1 =>
          if e == 0x75 then
            match rest1 with
            | a :: b :: c2 :: d :: rest2 =>
              if isSurrogate (hex4 a b c2 d) then
                match rest2 with
                | x :: y :: _ :: _ :: _ :: _ :: rest3 => x == 0x5C && y == 0x75 && noLoneSurr rest3
                | _ => false
              else noLoneSurr rest2
            | _ => true
          else noLoneSurr rest1
      else noLoneSurr rest := by
  conv => lhs; unfold noLoneSurr
  rfl

theorem noLoneSurr_byte (c : UInt8) (r : Bytes) (h : (c == 0x5C) = false) :
    noLoneSurr (c :: r) = noLoneSurr r := by
  rw [noLoneSurr_cons]; simp [h]

theorem noLoneSurr_esc (e : UInt8) (r : Bytes) (h : (e == 0x75) = false) :
    noLoneSurr (0x5C :: e :: r) = noLoneSurr r := by
  rw [noLoneSurr_cons]; simp [h]

theorem noLoneSurr_u (a b c d : UInt8) (r : Bytes) (h : isSurrogate (hex4 a b c d) = false) :
    noLoneSurr (0x5C :: 0x75 :: a :: b :: c :: d :: r) = noLoneSurr r := by
  rw [noLoneSurr_cons]; simp [h]

theorem noLoneSurr_pair (a b c d a2 b2 c2 d2 : UInt8) (r : Bytes) (h : isSurrogate (hex4 a b c d) = true) :
    noLoneSurr (0x5C :: 0x75 :: a :: b :: c :: d :: 0x5C :: 0x75 :: a2 :: b2 :: c2 :: d2 :: r) = noLoneSurr r := by
  rw [noLoneSurr_cons]; simp [h]

/-- Does the input start with `\u` and four more bytes? -/
def uEscHead : Bytes → Bool
  | x :: y :: _ :: _ :: _ :: _ :: _ => x == 0x5C && y == 0x75
  | _ => false

theorem uEscHead_prefix (r q : Bytes) (h : uEscHead (r ++ q) = false) : uEscHead r = false := by
  rcases r with _ | ⟨x, _ | ⟨y, _ | ⟨a, _ | ⟨b, _ | ⟨c, _ | ⟨d, r⟩⟩⟩⟩⟩⟩ <;> first | rfl | exact h

theorem noLoneSurr_lone (a b c d : UInt8) (r : Bytes) (h : isSurrogate (hex4 a b c d) = true)
    (hu : uEscHead r = false) : noLoneSurr (0x5C :: 0x75 :: a :: b :: c :: d :: r) = false := by
  rw [noLoneSurr_cons]
  simp only [beq_self_eq_true, ↓reduceIte, h]
  rcases r with _ | ⟨x, _ | ⟨y, _ | ⟨a, _ | ⟨b, _ | ⟨c, _ | ⟨d, r⟩⟩⟩⟩⟩⟩ <;> try rfl
  simp only [uEscHead] at hu
  simp [hu]

/-! ### `surrogatesPaired` step by step; it implies `noLoneSurr` -/

theorem surrogatesPaired_cons (c : UInt8) (rest : Bytes) :
    surrogatesPaired (c :: rest) =
      if c == 0x5C then
        match rest with
        | [] => true
        | e :: rest1 =>
          if e == 0x75 then
            match rest1 with
            | a :: b :: c2 :: d :: rest2 =>
              if 0xD800 ≤ hex4 a b c2 d && hex4 a b c2 d < 0xDC00 then
                match rest2 with
                | x :: y :: a2 :: b2 :: c3 :: d2 :: rest3 =>
                  x == 0x5C && y == 0x75 && (0xDC00 ≤ hex4 a2 b2 c3 d2 && hex4 a2 b2 c3 d2 < 0xE000)
                    && surrogatesPaired rest3
                | _ => false
              else if 0xDC00 ≤ hex4 a b c2 d && hex4 a b c2 d < 0xE000 then false
              else surrogatesPaired rest2
            | _ => true
          else surrogatesPaired rest1
      else surrogatesPaired rest := by
  conv => lhs; unfold surrogatesPaired
  rfl

theorem surrogatesPaired_byte (c : UInt8) (r : Bytes) (h : (c == 0x5C) = false) :
    surrogatesPaired (c :: r) = surrogatesPaired r := by
  rw [surrogatesPaired_cons]; simp [h]

theorem surrogatesPaired_esc (e : UInt8) (r : Bytes) (h : (e == 0x75) = false) :
    surrogatesPaired (0x5C :: e :: r) = surrogatesPaired r := by
  rw [surrogatesPaired_cons]; simp [h]

theorem surrogatesPaired_u (a b c d : UInt8) (r : Bytes) (h : isSurrogate (hex4 a b c d) = false) :
    surrogatesPaired (0x5C :: 0x75 :: a :: b :: c :: d :: r) = surrogatesPaired r := by
  rw [surrogatesPaired_cons]
  simp only [isSurrogate, Bool.and_eq_false_iff, decide_eq_false_iff_not] at h
  simp only [beq_self_eq_true, ↓reduceIte]
  -- neither a high nor a low surrogate
  rw [if_neg (by simp only [Bool.and_eq_true, decide_eq_true_eq]; omega),
    if_neg (by simp only [Bool.and_eq_true, decide_eq_true_eq]; omega)]

/-- The two scans run in step; at each item `surrogatesPaired` asks for more. -/
theorem noLoneSurr_of_paired (raw : Bytes) (h : surrogatesPaired raw = true) : noLoneSurr raw = true := by
  fun_induction surrogatesPaired raw with
  | case1 => rfl
  | case2 z hz => cases eq_of_beq hz; rfl
  | case3 z hz e he a b c d hhi x y a2 b2 c3 d2 rest ih =>
    cases eq_of_beq hz; cases eq_of_beq he
    simp only [Bool.and_eq_true, beq_iff_eq, decide_eq_true_eq] at h hhi
    obtain ⟨⟨⟨rfl, rfl⟩, _⟩, h⟩ := h
    exact (noLoneSurr_pair _ _ _ _ _ _ _ _ _ (by simp [isSurrogate]; omega)).trans (ih h)
  | case4 => cases h
  | case5 => cases h
  | case6 z hz e he a b c d rest hhi hlo ih =>
    cases eq_of_beq hz; cases eq_of_beq he
    simp only [Bool.and_eq_true, decide_eq_true_eq, not_and, Nat.not_lt] at hhi hlo
    exact (noLoneSurr_u _ _ _ _ _ (by simp [isSurrogate]; omega)).trans (ih h)
  | case7 z hz e rest he hshort =>
    cases eq_of_beq hz; cases eq_of_beq he
    rcases rest with _ | ⟨a, _ | ⟨b, _ | ⟨c, _ | ⟨d, rest⟩⟩⟩⟩ <;> first | rfl | exact absurd rfl (hshort _ _ _ _ _)
  | case8 z hz e rest he ih =>
    cases eq_of_beq hz
    exact (noLoneSurr_esc e rest (by simpa using he)).trans (ih h)
  | case9 z rest hz ih => exact (noLoneSurr_byte z rest (by simpa using hz)).trans (ih h)

/-! ### What `parseString` accepts, as a relation -/

theorem parseString_succ (f : Nat) (c : UInt8) (rest raw dec : Bytes) :
    parseString (f + 1) (c :: rest) raw dec =
    if c == 0x22 then some (raw, dec, rest)
    else if c < 0x20 then none
    else if c == 0x5C then
      match rest with
      | [] => none
      | e :: rest' =>
        match simpleEscape e with
        | some x => parseString f rest' (raw ++ [c, e]) (dec ++ [x])
        | none =>
          if e == 0x75 then
            match parseUEscape rest' with
            | some (ru, du, rest'') => parseString f rest'' (raw ++ c :: e :: ru) (dec ++ du)
            | none => none
          else none
    else parseString f rest (raw ++ [c]) (dec ++ [c]) := by
  conv => lhs; unfold parseString
  rfl

/-- The accepted runs of `parseUEscape`: `UEsc s raw dec rest` — the input `s` (what follows `\u`)
    starts with the escape spelt `raw`, which decodes to `dec`, and `rest` follows. -/
inductive UEsc : Bytes → Bytes → Bytes → Bytes → Prop
  | plain {a b c d : UInt8} {rest : Bytes} : (isHex a && isHex b && isHex c && isHex d) = true →
      isSurrogate (hex4 a b c d) = false →
      UEsc (a :: b :: c :: d :: rest) [a, b, c, d] (utf8Encode (hex4 a b c d)) rest
  | pair {a b c d a2 b2 c2 d2 : UInt8} {rest : Bytes} : (isHex a && isHex b && isHex c && isHex d) = true →
      isSurrogate (hex4 a b c d) = true → (isHex a2 && isHex b2 && isHex c2 && isHex d2) = true →
      UEsc (a :: b :: c :: d :: 0x5C :: 0x75 :: a2 :: b2 :: c2 :: d2 :: rest)
        [a, b, c, d, 0x5C, 0x75, a2, b2, c2, d2]
        (utf8Encode (decodeSurrogates (hex4 a b c d) (hex4 a2 b2 c2 d2))) rest
  | lone {a b c d : UInt8} {rest : Bytes} : (isHex a && isHex b && isHex c && isHex d) = true →
      isSurrogate (hex4 a b c d) = true → uEscHead rest = false →
      UEsc (a :: b :: c :: d :: rest) [a, b, c, d] (utf8Encode (hex4 a b c d)) rest

theorem UEsc.of_parse {s ru du s' : Bytes} (h : parseUEscape s = some (ru, du, s')) : UEsc s ru du s' := by
  unfold parseUEscape at h
  rcases s with _ | ⟨a, _ | ⟨b, _ | ⟨c, _ | ⟨d, rest⟩⟩⟩⟩ <;> simp only [reduceCtorEq] at h
  replace h := Guard.some_of_else_none h
  obtain ⟨hx, h⟩ := h
  replace h := Guard.ite_cases h
  rcases h with ⟨hs, h⟩ | ⟨hs, h⟩
  · rcases rest with _ | ⟨x, _ | ⟨y, _ | ⟨a2, _ | ⟨b2, _ | ⟨c2, _ | ⟨d2, rest3⟩⟩⟩⟩⟩⟩
    iterate 6 (cases h; exact .lone hx hs rfl)
    replace h := Guard.ite_cases h
    rcases h with ⟨hxy, h⟩ | ⟨hxy, h⟩
    · simp only [Bool.and_eq_true, beq_iff_eq] at hxy
      obtain ⟨rfl, rfl⟩ := hxy
      replace h := Guard.some_of_else_none h
      obtain ⟨hx2, h⟩ := h
      cases h; exact .pair hx hs hx2
    · cases h; exact .lone hx hs (by simpa [uEscHead] using hxy)
  · cases h; exact .plain hx (by simpa using hs)

/-- The accepted runs of `parseString`: `StrBody s raw dec rest` — `s` starts with a string body spelt
    `raw` that decodes to `dec`, then the closing quote, then `rest`. -/
inductive StrBody : Bytes → Bytes → Bytes → Bytes → Prop
  | quote {rest : Bytes} : StrBody (0x22 :: rest) [] [] rest
  | byte {c : UInt8} {s raw dec rest : Bytes} : (c == 0x22) = false → ¬ c < 0x20 → (c == 0x5C) = false →
      StrBody s raw dec rest → StrBody (c :: s) (c :: raw) (c :: dec) rest
  | esc {e x : UInt8} {s raw dec rest : Bytes} : simpleEscape e = some x → StrBody s raw dec rest →
      StrBody (0x5C :: e :: s) (0x5C :: e :: raw) (x :: dec) rest
  | uesc {s ru du s' raw dec rest : Bytes} : UEsc s ru du s' → StrBody s' raw dec rest →
      StrBody (0x5C :: 0x75 :: s) (0x5C :: 0x75 :: ru ++ raw) (du ++ dec) rest

theorem StrBody.of_parseString : ∀ {f : Nat} {s raw dec raw' dec' rest : Bytes},
    parseString f s raw dec = some (raw', dec', rest) →
    ∃ r d, raw' = raw ++ r ∧ dec' = dec ++ d ∧ StrBody s r d rest
  | 0, _, _, _, _, _, _, h => by simp [parseString] at h
  | _ + 1, [], _, _, _, _, _, h => by simp [parseString] at h
  | f + 1, c :: s, raw, dec, raw', dec', rest, h => by
    rw [parseString_succ] at h
    replace h := Guard.ite_cases h
    rcases h with ⟨hq, h⟩ | ⟨hq, h⟩
    · cases eq_of_beq hq; cases h
      exact ⟨[], [], (List.append_nil _).symm, (List.append_nil _).symm, .quote⟩
    replace h := Guard.ite_cases h
    rcases h with ⟨-, h⟩ | ⟨hlt, h⟩
    · cases h
    replace h := Guard.ite_cases h
    rcases h with ⟨hb, h⟩ | ⟨hb, h⟩
    · cases eq_of_beq hb
      rcases s with _ | ⟨e, s⟩ <;> simp only [reduceCtorEq] at h
      generalize hx : simpleEscape e = w at h
      rcases w with _ | x <;> simp only at h
      · replace h := Guard.some_of_else_none h
        obtain ⟨hu, h⟩ := h
        cases eq_of_beq hu
        generalize hp : parseUEscape s = w at h
        rcases w with _ | ⟨ru, du, s'⟩ <;> simp only [reduceCtorEq] at h
        obtain ⟨r, d, rfl, rfl, hbody⟩ := of_parseString h
        exact ⟨0x5C :: 0x75 :: ru ++ r, du ++ d, by simp, by simp, .uesc (.of_parse hp) hbody⟩
      · obtain ⟨r, d, rfl, rfl, hbody⟩ := of_parseString h
        exact ⟨0x5C :: e :: r, x :: d, by simp, by simp, .esc hx hbody⟩
    · obtain ⟨r, d, rfl, rfl, hbody⟩ := of_parseString h
      exact ⟨c :: r, c :: d, by simp, by simp, .byte (by simpa using hq) hlt (by simpa using hb) hbody⟩

theorem StrBody.of_parse {f : Nat} {s raw dec rest : Bytes}
    (h : parseString f s [] [] = some (raw, dec, rest)) : StrBody s raw dec rest := by
  obtain ⟨r, d, rfl, rfl, hbody⟩ := of_parseString h
  exact hbody

/-! ### What the compactor makes of an accepted string -/

theorem UEsc.split {s ru du s' : Bytes} (h : UEsc s ru du s') : s = ru ++ s' := by cases h <;> rfl

theorem StrBody.split {s r d rest : Bytes} (h : StrBody s r d rest) : s = r ++ 0x22 :: rest := by
  induction h with
  | quote => rfl
  | byte _ _ _ _ ih => rw [ih]; rfl
  | esc _ _ ih => rw [ih]; rfl
  | uesc hu _ ih => rw [hu.split, ih]; simp

/-- Every escape letter other than `/` is the one `encodeStringBody` writes for the byte denoted. -/
theorem simpleEscapes_kept : ∀ p ∈ simpleEscapes, p.1 ≠ 0x2F →
    (p.1 == 0x75) = false ∧ encodeStringBody [p.2] = [0x5C, p.1] := by decide

/-- The compactor turns an accepted string body into the canonical spelling of its decoding — provided
    the raw spelling has no lone surrogate escape (those it drops). -/
theorem StrBody.compact {s raw dec rest : Bytes} (h : StrBody s raw dec rest) :
    noLoneSurr raw = true → ∀ acc : Bytes,
      compactStr s acc = .ok (acc ++ encodeStringBody dec ++ [0x22], rest) := by
  induction h with
  | quote => intro _ acc; rw [compactStr_quote, esb_nil, List.append_nil]
  | @byte c _ _ dec _ h1 h2 h3 _ ih =>
    intro hn acc
    rw [noLoneSurr_byte c _ h3] at hn
    rw [compactStr_byte c _ _ h3 h1, ih hn, esb_plain_cons c dec (plainByte_iff.mpr ⟨h1, h3, h2⟩)]
    simp
  | @esc e x _ _ dec _ hx _ ih =>
    intro hn acc
    by_cases hs : e = 0x2F
    · -- `\/` loses its backslash
      subst hs; cases hx
      rw [noLoneSurr_esc _ _ (by decide)] at hn
      rw [compactStr_slash, ih hn, esb_plain_cons 0x2F dec (by decide)]
      simp
    · obtain ⟨hu, hx'⟩ := simpleEscapes_kept _ (simpleEscape_mem hx) hs
      rw [noLoneSurr_esc _ _ hu] at hn
      rw [compactStr_esc e _ _ hu (by simpa using hs), ih hn,
        show encodeStringBody (x :: dec) = [0x5C, e] ++ encodeStringBody dec by rw [← hx', ← esb_append]; rfl]
      simp
  | uesc hu hb ih =>
    intro hn acc
    cases hu with
    | plain _ hs =>
      simp only [List.cons_append, List.nil_append] at hn ⊢
      rw [noLoneSurr_u _ _ _ _ _ hs] at hn
      rw [compactStr_u _ _ _ _ (cue_nonsurr _ _ _ _ _ hs), ih hn, esb_append]
      simp
    | pair _ hs _ =>
      simp only [List.cons_append, List.nil_append] at hn ⊢
      rw [noLoneSurr_pair _ _ _ _ _ _ _ _ _ hs] at hn
      rw [compactStr_u _ _ _ _ (cue_pair _ _ _ _ _ _ _ _ _ hs), ih hn, esb_append]
      simp
    | lone _ hs hh =>
      -- a surrogate escape not followed by another escape: excluded by `noLoneSurr`
      simp only [List.cons_append, List.nil_append] at hn
      rw [noLoneSurr_lone _ _ _ _ _ hs (uEscHead_prefix _ _ (hb.split ▸ hh))] at hn
      cases hn

end V.Json
