/- Helper lemmas (C17): what the model of Go's dotted-quad parser returns (the bytes of the specification's IPv4 texts, nothing else); `hostValid` against the specification's host. -/
import VProofs.Ident

namespace V.Ident

/-- the digits `cur` of the current octet can still be extended to a dec-octet (`goodPrefix_of_isOctet`) -/
def goodPrefix (cur : BS) : Prop :=
  cur.all isDigit = true ∧ (cur.length ≥ 2 → cur.head? ≠ some 0x30) ∧ cur.foldl stepDec 0 ≤ 255

/-- the loop's `prev` (the byte before the current one), from the digits `cur` of the current octet and the octets `fields`
    already stored -/
def prevOf (cur fields : BS) : Option UInt8 :=
  match cur.getLast? with
  | some d => some d
  | none => if fields.isEmpty then none else some 0x2E

theorem isOctet_iff (o : BS) : Spec.isOctet o = true ↔
    o ≠ [] ∧ o.all isDigit = true ∧ (o.length = 1 ∨ o.head? ≠ some 0x30) ∧ o.foldl stepDec 0 ≤ 255 := by
  unfold Spec.isOctet
  rw [digitChar_eq, decValue_eq]
  simp only [Bool.and_eq_true, Bool.or_eq_true, Bool.not_eq_true', List.isEmpty_eq_false_iff, beq_iff_eq,
    decide_eq_true_eq, bne_iff_ne, ne_eq]
  constructor
  · rintro ⟨⟨⟨h1, h2⟩, h3⟩, h4⟩; exact ⟨h1, h2, h3, h4⟩
  · rintro ⟨h1, h2, h3, h4⟩; exact ⟨⟨⟨h1, h2⟩, h3⟩, h4⟩

theorem splitOn_cons_sep (sep : UInt8) (cs : BS) : Spec.splitOn sep (sep :: cs) = [] :: Spec.splitOn sep cs := by
  simp [Spec.splitOn]

theorem splitOn_cons_ne {sep c : UInt8} {cs f : BS} {fs : List BS} (hc : (c == sep) = false)
    (h : Spec.splitOn sep cs = f :: fs) : Spec.splitOn sep (c :: cs) = (c :: f) :: fs := by
  simp [Spec.splitOn, hc, h]

theorem splitOn_exists (sep : UInt8) (s : BS) : ∃ f fs, Spec.splitOn sep s = f :: fs := by
  cases h : Spec.splitOn sep s with
  | nil => exact absurd h (splitOn_ne_nil sep s)
  | cons f fs => exact ⟨f, fs, rfl⟩

theorem digit_facts (c : UInt8) : isDigit c = true → c ≠ 0x2E ∧ (c.toNat - 0x30 = 0 ↔ c = 0x30) ∧ c.toNat - 0x30 ≤ 9 := by
  simp [isDigit, UInt8.le_iff_toNat_le, ← UInt8.toNat_inj]
  omega

theorem isOctet_of_goodPrefix {cur : BS} (hg : goodPrefix cur) (hcur : cur ≠ []) : Spec.isOctet cur = true := by
  rw [isOctet_iff]
  refine ⟨hcur, hg.1, ?_, hg.2.2⟩
  cases cur with
  | nil => exact absurd rfl hcur
  | cons a as =>
    cases as with
    | nil => left; rfl
    | cons b bs => right; exact hg.2.1 (by simp)

theorem isOctet_nil : Spec.isOctet [] = false := by decide

theorem octet_length {o : BS} (h : Spec.isOctet o = true) : o.length ≤ 3 := by
  rw [isOctet_iff] at h
  obtain ⟨_, hd, hz, hv⟩ := h
  match o, hd, hz, hv with
  | [], _, _, _ => simp
  | [_], _, _, _ => simp
  | [_, _], _, _, _ => simp
  | [_, _, _], _, _, _ => simp
  | d1 :: d2 :: d3 :: d4 :: t, hd, hz, hv =>
    exfalso
    simp only [List.all_cons, Bool.and_eq_true] at hd
    have h1 : d1 ≠ 0x30 := by
      rcases hz with hz | hz
      · simp at hz
      · simpa using hz
    -- four digits without a leading zero denote at least 1000
    have f1 : 1 ≤ stepDec 0 d1 := by
      have : d1.toNat - 0x30 ≠ 0 := fun e => h1 ((digit_facts d1 hd.1).2.1.mp e)
      show 1 ≤ 0 * 10 + (d1.toNat - 0x30)
      omega
    have step : ∀ n d, n * 10 ≤ stepDec n d := fun n d => Nat.le_add_right _ _
    have s2 := step (stepDec 0 d1) d2
    have s3 := step (stepDec (stepDec 0 d1) d2) d3
    have s4 := step (stepDec (stepDec (stepDec 0 d1) d2) d3) d4
    have hge := foldl_stepDec_ge t (stepDec (stepDec (stepDec (stepDec 0 d1) d2) d3) d4)
    simp only [List.foldl_cons] at hv
    omega

theorem splitOn_nosep {sep : UInt8} : ∀ {f : BS}, sep ∉ f → Spec.splitOn sep f = [f]
  | [], _ => rfl
  | c :: cs, h => by
    obtain ⟨hc, h⟩ := not_mem_cons h
    exact splitOn_cons_ne hc (splitOn_nosep h)

theorem splitOn_append {sep : UInt8} : ∀ {f : BS} (t : BS), sep ∉ f →
    Spec.splitOn sep (f ++ sep :: t) = f :: Spec.splitOn sep t
  | [], t, _ => by simp [splitOn_cons_sep]
  | c :: cs, t, h => by
    obtain ⟨hc, h⟩ := not_mem_cons h
    rw [List.cons_append]
    exact splitOn_cons_ne hc (splitOn_append t h)

theorem splitOn_head_append {sep : UInt8} (r : BS) : ∀ {d : BS}, sep ∉ d →
    ∃ g gs, Spec.splitOn sep (d ++ r) = (d ++ g) :: gs
  | [], _ => splitOn_exists sep r
  | c :: d, h => by
    obtain ⟨hc, h⟩ := not_mem_cons h
    obtain ⟨g, gs, e⟩ := splitOn_head_append r h
    exact ⟨g, gs, splitOn_cons_ne hc e⟩

theorem digits_no_dot {cur : BS} (h : cur.all isDigit = true) : (0x2E : UInt8) ∉ cur :=
  Lists.not_mem_of_all h (by decide)

theorem goodPrefix_of_isOctet {cur f : BS} (h : Spec.isOctet (cur ++ f) = true) : goodPrefix cur := by
  obtain ⟨-, hd, hz, hv⟩ := (isOctet_iff _).mp h
  rw [List.all_append, Bool.and_eq_true] at hd
  rw [List.foldl_append] at hv
  refine ⟨hd.1, fun hl => ?_, Nat.le_trans (foldl_stepDec_ge f _) hv⟩
  rcases hz with hz | hz
  · rw [List.length_append] at hz; omega
  · cases cur with
    | nil => simp at hl
    | cons a as => simpa using hz

/-- the two tests `parseIPv4Fields` makes before it takes a further digit -/
theorem goodPrefix_snoc {cur : BS} (hg : goodPrefix cur) {c : UInt8} (hd : isDigit c = true) :
    goodPrefix (cur ++ [c]) ↔
      (cur.length == 1 && cur.foldl stepDec 0 == 0) = false ∧ ¬ cur.foldl stepDec 0 * 10 + (c.toNat - 0x30) > 255 := by
  have hv : (cur ++ [c]).foldl stepDec 0 = cur.foldl stepDec 0 * 10 + (c.toNat - 0x30) := by
    rw [List.foldl_append]; rfl
  have hall : (cur ++ [c]).all isDigit = true := by simp [hg.1, hd]
  have hhead : ((cur ++ [c]).length ≥ 2 → (cur ++ [c]).head? ≠ some 0x30) ↔
      (cur.length == 1 && cur.foldl stepDec 0 == 0) = false := by
    match cur, hg with
    | [], _ => simp
    | [a], hg =>
      -- a single digit so far: it must not be the digit zero
      have ha : isDigit a = true := by simpa using hg.1
      simp [stepDec, (digit_facts a ha).2.1]
    | a :: b :: bs, hg => simpa using hg.2.1 (by simp)
  unfold goodPrefix
  rw [hv, hhead, hall]
  simp only [true_and, Nat.not_lt, gt_iff_lt]

/-- the byte a dec-octet denotes -/
def octetByte (o : BS) : UInt8 := UInt8.ofNat (o.foldl stepDec 0)

/-- the invariant of `parseIPv4Fields`: `cur` are the digits of the current octet read so far; the loop accepts the
    rest of the text iff `cur` followed by that rest splits into the missing number of octets, and then returns their bytes
    behind the ones it has stored.  The last two hypotheses: `prev` is absent or a dot exactly if no digit of the current octet
    has been read; and, Go refusing a dot at `i == len(s)-1`, the text does not end right behind a dot. -/
theorem ipv4Loop_eq : ∀ (s cur fields : BS) (prev : Option UInt8),
    goodPrefix cur → fields.length ≤ 3 → (prev.isNone || prev == some 0x2E) = cur.isEmpty →
    (cur = [] → fields ≠ [] → s ≠ []) →
    ipv4Loop s prev (cur.foldl stepDec 0) cur.length fields =
      if ((Spec.splitOn 0x2E (cur ++ s)).all Spec.isOctet && fields.length + (Spec.splitOn 0x2E (cur ++ s)).length == 4) = true
      then some (fields ++ (Spec.splitOn 0x2E (cur ++ s)).map octetByte) else none
  | [], cur, fields, prev, hg, hf, hprev, hne => by
    rw [List.append_nil, splitOn_nosep (digits_no_dot hg.1), ipv4Loop]
    simp only [List.all_cons, List.all_nil, Bool.and_true, List.length_singleton, List.map_cons, List.map_nil]
    by_cases hcur : cur = []
    · subst hcur
      have : fields = [] := Classical.byContradiction fun h => hne rfl h rfl
      subst this; rfl
    · rw [isOctet_of_goodPrefix hg hcur]
      by_cases h3 : fields.length < 3
      · simp [h3]; omega
      · have : fields.length = 3 := by omega
        simp [this, octetByte]
  | c :: rest, cur, fields, prev, hg, hf, hprev, hne => by
    have hnd := digits_no_dot hg.1
    unfold ipv4Loop
    by_cases hd : isDigit c = true
    · -- a digit continues the current octet
      have hcd : (c == 0x2E) = false := by simpa using (digit_facts c hd).1
      have hnd' : (0x2E : UInt8) ∉ cur ++ [c] := by simp [hnd, (digit_facts c hd).1.symm]
      obtain ⟨g, gs, hsp⟩ := splitOn_head_append rest hnd'
      rw [show cur ++ c :: rest = (cur ++ [c]) ++ rest by simp]
      simp only [hd, if_true]
      by_cases hg' : goodPrefix (cur ++ [c])
      · obtain ⟨hlz, hbig⟩ := (goodPrefix_snoc hg hd).mp hg'
        have ih := ipv4Loop_eq rest (cur ++ [c]) fields (some c) hg' hf (by simp [hcd]) (by simp)
        rw [← ih, List.foldl_append]
        simp only [hlz, hbig, Bool.false_eq_true, if_false, List.length_append, List.length_singleton]
        rfl
      · -- the spec side: the first field would have to extend `cur ++ [c]` to an octet
        have hspec : Spec.isOctet ((cur ++ [c]) ++ g) = false :=
          Bool.eq_false_iff.mpr fun ho => hg' (goodPrefix_of_isOctet ho)
        rw [hsp, List.all_cons, hspec]
        have := mt (goodPrefix_snoc hg hd).mpr hg'
        by_cases hlz : (cur.length == 1 && cur.foldl stepDec 0 == 0) = true
        · simp [hlz]
        · by_cases hbig : cur.foldl stepDec 0 * 10 + (c.toNat - 0x30) > 255
          · simp [hlz, hbig]
          · exact absurd ⟨by simpa using hlz, hbig⟩ this
    · simp only [hd, Bool.false_eq_true, if_false]
      by_cases hdot : c = 0x2E
      · subst hdot
        rw [splitOn_append rest hnd]
        simp only [beq_self_eq_true, if_true, List.all_cons, List.length_cons, List.map_cons]
        by_cases hcur : cur = []
        · -- nothing before the dot
          subst hcur
          have hcond : (prev.isNone || rest.isEmpty || prev == some 0x2E) = true := by
            simp only [List.isEmpty_nil] at hprev
            cases ha : prev.isNone <;> cases hc : (prev == some 0x2E) <;> simp [ha, hc] at hprev ⊢
          simp [hcond, isOctet_nil]
        · have hpe : (prev.isNone || prev == some 0x2E) = false := by rw [hprev]; simpa using hcur
          obtain ⟨ha, hc⟩ := Bool.or_eq_false_iff.mp hpe
          rw [isOctet_of_goodPrefix hg hcur]
          by_cases hrest : rest = []
          · subst hrest; simp [Spec.splitOn, isOctet_nil]
          · obtain ⟨g, gs, hsp⟩ := splitOn_exists 0x2E rest
            have hre : rest.isEmpty = false := by simpa using hrest
            simp only [ha, hre, hc, Bool.or_false, Bool.false_eq_true, if_false, Bool.true_and]
            by_cases h3 : fields.length = 3
            · have : (fields.length + ((Spec.splitOn 0x2E rest).length + 1) == 4) = false := by
                rw [beq_eq_false_iff_ne, h3, hsp, List.length_cons]; omega
              rw [this, Bool.and_false]
              simp [h3]
            · have ih := ipv4Loop_eq rest [] (fields ++ [UInt8.ofNat (List.foldl stepDec 0 cur)]) (some 0x2E)
                ⟨rfl, by simp, by simp⟩ (by simp; omega) rfl (fun _ _ => hrest)
              simp only [List.foldl_nil, List.length_nil, List.nil_append, List.length_append, List.length_singleton] at ih
              rw [Nat.add_assoc, Nat.add_comm 1] at ih
              simp only [beq_iff_eq, h3, if_false, ih, List.append_assoc, List.singleton_append, octetByte]
      · -- any other character: no field may contain it
        have hcd : (c == 0x2E) = false := by simpa using hdot
        simp only [hcd, Bool.false_eq_true, if_false]
        cases hall : (Spec.splitOn 0x2E (cur ++ c :: rest)).all Spec.isOctet with
        | false => rfl
        | true =>
          have := List.all_eq_true.mp (octets_chars hall) c (by simp)
          simp [hd, hcd] at this

/-- Go's dotted-quad parser (`parseIPv4Fields` as modelled) accepts exactly the specification's IPv4 texts (four dec-octets
    without leading zeros, each at most 255, separated by single dots) and returns their four bytes. -/
theorem parseIPv4_eq (s : BS) :
    parseIPv4 s = if Spec.isIPv4 s then some ((Spec.splitOn 0x2E s).map octetByte) else none := by
  have h := ipv4Loop_eq s [] [] none ⟨rfl, by simp, by simp⟩ (by simp) rfl (fun _ h => absurd rfl h)
  rw [parseIPv4, Spec.isIPv4, Bool.and_comm]
  simpa using h

theorem parseIPv4_isSome_eq (s : BS) : (parseIPv4 s).isSome = Spec.isIPv4 s := by
  rw [parseIPv4_eq]; cases Spec.isIPv4 s <;> rfl

theorem parseIPv4_some {s f : BS} (h : parseIPv4 s = some f) :
    s.all (fun c => isDigit c || c == 0x2E) = true ∧ f.length = 4 := by
  rw [parseIPv4_eq] at h
  obtain ⟨hv, hf⟩ := Option.ite_none_right_eq_some.mp h
  cases hf
  refine ⟨isIPv4_chars hv, ?_⟩
  unfold Spec.isIPv4 at hv
  simp only [Bool.and_eq_true, beq_iff_eq] at hv
  rw [List.length_map, hv.1]

theorem parseIPv4_none_of_colon {s : BS} (h : (0x3A : UInt8) ∈ s) : parseIPv4 s = none := by
  cases hp : parseIPv4 s with
  | none => rfl
  | some f => exact absurd h (Lists.not_mem_of_all (parseIPv4_some hp).1 (by decide))

theorem parseIP_nocolon_chars {h ip : BS} (hp : parseIP h = some ip) (hn : h.contains 0x3A = false) :
    h.all (fun c => isDigit c || c == 0x2E) = true := by
  unfold parseIP at hp
  split at hp
  · rename_i c hf
    split at hp
    · cases hv : parseIPv4 h with
      | none => simp [hv] at hp
      | some f => exact (parseIPv4_some hv).1
    · split at hp
      · rename_i _ hc
        have hc' : c = 0x3A := by simpa using hc
        have := List.mem_of_find?_eq_some hf
        rw [hc'] at this
        have : h.contains 0x3A = true := by simpa using this
        rw [hn] at this; cases this
      · cases hp
  · cases hp

theorem hostValid_eq (h : BS) : hostValid h = Spec.isHostWith (fun a => (parseIP a).isSome) h := by
  cases h with
  | nil => decide
  | cons c rest =>
    by_cases hc : c = 0x5B
    · subst hc
      obtain ⟨h1, h2⟩ := not_dns_of_mem (h := 0x5B :: rest) (c := 0x5B) (by simp) (by decide)
      simp only [Spec.isHostWith, h1, h2, Bool.false_or, Spec.isBracketedWith, hostValid]
      cases rest with
      | nil => decide
      | cons r rs =>
        rw [List.getLast?_cons_cons]
        simp only [List.isEmpty_cons, List.head?_cons, List.drop_one, List.tail_cons, Bool.false_eq_true, if_false]
        generalize (r :: rs).getLast? = g
        cases hg : (g == some 0x5D) <;> simp [bne, hg]
    · have hb : Spec.isBracketedWith (fun a => (parseIP a).isSome) (c :: rest) = false := by
        unfold Spec.isBracketedWith
        split
        · rename_i heq; simp only [List.cons.injEq] at heq; exact absurd heq.1 hc
        · rfl
      have hd : Spec.isDnsName (c :: rest) = (c :: rest).all isDNSNameChar := by
        simp only [Spec.isDnsName, List.isEmpty_cons, Bool.not_false, Bool.true_and, dnsChar_eq]
      have hv4 : Spec.isIPv4 (c :: rest) = true → (c :: rest).all isDNSNameChar = true := fun hv =>
        all_imp digit_or_dot_dns (isIPv4_chars hv)
      have hhead : ((c :: rest).head? == some 0x5B) = false := by simp [hc]
      simp only [Spec.isHostWith, hb, Bool.or_false, hd, hostValid, List.isEmpty_cons, hhead, Bool.false_eq_true, ↓reduceIte]
      -- the IP-literal test of the code (`X`) and the dotted quads of the grammar are both absorbed by the DNS class
      have fin : ∀ X : Bool, (X = true → (c :: rest).all isDNSNameChar = true) →
          (if X = true then true else (c :: rest).all isDNSNameChar) = ((c :: rest).all isDNSNameChar || Spec.isIPv4 (c :: rest)) := by
        intro X hX
        cases hx : X with
        | true => simp [hX hx]
        | false =>
          cases hv : Spec.isIPv4 (c :: rest) with
          | false => simp
          | true => simp [hv4 hv]
      apply fin
      intro hcond
      simp only [Bool.and_eq_true, Bool.not_eq_true'] at hcond
      obtain ⟨hip, hnc⟩ := hcond
      cases hp : parseIP (c :: rest) with
      | none => simp [hp] at hip
      | some ip => exact all_imp digit_or_dot_dns (parseIP_nocolon_chars hp hnc)

end V.Ident
