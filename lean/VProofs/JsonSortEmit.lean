/- `sortEmit_ofJVal`: re-emitting the read-back value with sorted members gives the canonical encoding, plus the
   bookkeeping lemmas relating `PVal`, `JVal`, `ofJVal`, `normNums`, `sorted`. -/
import VProofs.JsonParse
import VProofs.Sort
namespace V.Json

/-! ### sorting commutes with key-preserving maps -/

theorem sortByKey_map {α β : Type} (g : Bytes × α → Bytes × β) (hg : ∀ x, (g x).1 = x.1) :
    ∀ l, sortByKey (l.map g) = (sortByKey l).map g :=
  isInsSort.map isInsSort g fun a b => by rw [hg, hg]

theorem sortedMembers_eq_map (kvs : List (Bytes × JVal)) :
    sortedMembers kvs = kvs.map (fun kv => (kv.1, kv.2.sorted)) := by
  induction kvs with
  | nil => rfl
  | cons x xs ih => obtain ⟨k, v⟩ := x; simp [sortedMembers, ih]

theorem encodeList_eq_map (xs : List JVal) : encodeList xs = xs.map encode := by
  induction xs with
  | nil => rfl
  | cons x xs ih => rw [encodeList, ih, List.map_cons]

theorem encodeMembers_eq_map (kvs : List (Bytes × JVal)) :
    encodeMembers kvs = kvs.map (fun kv => 0x22 :: encodeStringBody kv.1 ++ [0x22, 0x3A] ++ encode kv.2) := by
  induction kvs with
  | nil => rfl
  | cons x xs ih => obtain ⟨k, v⟩ := x; simp [encodeMembers, ih]

mutual
theorem sortEmit_ofJVal : (v : JVal) → sortEmit (ofJVal v) = encode v.sorted
  | .null => rfl
  | .bool true => rfl
  | .bool false => rfl
  | .num lit => rfl
  | .str s => rfl
  | .arr xs => by
    simp only [ofJVal, sortEmit, JVal.sorted, encode, sortEmitList_ofJVals xs]
  | .obj kvs => by
    simp only [ofJVal, sortEmit, JVal.sorted, encode]
    rw [sortEmitMembers_ofJMembers kvs, encodeMembers_eq_map]
    rw [sortByKey_map (fun kw : Bytes × JVal => (kw.1, 0x22 :: encodeStringBody kw.1 ++ [0x22, 0x3A] ++ encode kw.2))
      (fun _ => rfl)]
    simp [List.map_map, Function.comp_def]
theorem sortEmitList_ofJVals : (xs : List JVal) → sortEmitList (ofJVals xs) = encodeList (sortedList xs)
  | [] => rfl
  | x :: xs => by
    simp only [ofJVals, sortEmitList, sortedList, encodeList, sortEmit_ofJVal x, sortEmitList_ofJVals xs]
theorem sortEmitMembers_ofJMembers : (kvs : List (Bytes × JVal)) →
    sortEmitMembers (ofJMembers kvs) =
      (sortedMembers kvs).map (fun kw => (kw.1, 0x22 :: encodeStringBody kw.1 ++ [0x22, 0x3A] ++ encode kw.2))
  | [] => rfl
  | (k, v) :: kvs => by
    simp only [ofJMembers, sortEmitMembers, sortedMembers, List.map_cons, sortEmit_ofJVal v,
      sortEmitMembers_ofJMembers kvs]
end

/-! ### `ofJVal` forgets nothing but the spelling -/

mutual
theorem ofJVal_toJVal : (v : JVal) → (ofJVal v).toJVal = v.normNums
  | .null => rfl
  | .bool _ => rfl
  | .num _ => rfl
  | .str _ => rfl
  | .arr xs => by simp only [ofJVal, PVal.toJVal, JVal.normNums, ofJVals_toJVals xs]
  | .obj kvs => by simp only [ofJVal, PVal.toJVal, JVal.normNums, ofJMembers_toJMembers kvs]
theorem ofJVals_toJVals : (xs : List JVal) → toJVals (ofJVals xs) = normNumsList xs
  | [] => rfl
  | x :: xs => by simp only [ofJVals, toJVals, normNumsList, ofJVal_toJVal x, ofJVals_toJVals xs]
theorem ofJMembers_toJMembers : (kvs : List (Bytes × JVal)) → toJMembers (ofJMembers kvs) = normNumsMembers kvs
  | [] => rfl
  | (k, v) :: kvs => by
    simp only [ofJMembers, toJMembers, normNumsMembers, ofJVal_toJVal v, ofJMembers_toJMembers kvs]
end

mutual
theorem ofJVal_surrogatesOk : (v : JVal) → (ofJVal v).surrogatesOk = true
  | .null => rfl
  | .bool _ => rfl
  | .num _ => rfl
  | .str s => by simp only [ofJVal, PVal.surrogatesOk, noLoneSurr_esb]
  | .arr xs => by simp only [ofJVal, PVal.surrogatesOk, ofJVals_surrogatesOk xs]
  | .obj kvs => by simp only [ofJVal, PVal.surrogatesOk, ofJMembers_surrogatesOk kvs]
theorem ofJVals_surrogatesOk : (xs : List JVal) → surrogatesOkList (ofJVals xs) = true
  | [] => rfl
  | x :: xs => by simp only [ofJVals, surrogatesOkList, ofJVal_surrogatesOk x, ofJVals_surrogatesOk xs, Bool.and_self]
theorem ofJMembers_surrogatesOk : (kvs : List (Bytes × JVal)) → surrogatesOkMembers (ofJMembers kvs) = true
  | [] => rfl
  | (k, v) :: kvs => by
    simp only [ofJMembers, surrogatesOkMembers, noLoneSurr_esb, ofJVal_surrogatesOk v,
      ofJMembers_surrogatesOk kvs, Bool.and_self]
end

/-! ### `-0` normalisation -/

theorem encodeNum_idem (lit : Bytes) : encodeNum (encodeNum lit) = encodeNum lit := by
  unfold encodeNum
  split
  · rfl
  · rename_i h; simp

mutual
theorem encode_normNums : (v : JVal) → encode v.normNums = encode v
  | .null => rfl
  | .bool _ => rfl
  | .num lit => by simp only [JVal.normNums, encode, encodeNum_idem]
  | .str _ => rfl
  | .arr xs => by simp only [JVal.normNums, encode, encodeList_normNums xs]
  | .obj kvs => by simp only [JVal.normNums, encode, encodeMembers_normNums kvs]
theorem encodeList_normNums : (xs : List JVal) → encodeList (normNumsList xs) = encodeList xs
  | [] => rfl
  | x :: xs => by simp only [normNumsList, encodeList, encode_normNums x, encodeList_normNums xs]
theorem encodeMembers_normNums : (kvs : List (Bytes × JVal)) → encodeMembers (normNumsMembers kvs) = encodeMembers kvs
  | [] => rfl
  | (k, v) :: kvs => by simp only [normNumsMembers, encodeMembers, encode_normNums v, encodeMembers_normNums kvs]
end

theorem normNumsMembers_eq_map (kvs : List (Bytes × JVal)) :
    normNumsMembers kvs = kvs.map (fun kv => (kv.1, kv.2.normNums)) := by
  induction kvs with
  | nil => rfl
  | cons x xs ih => obtain ⟨k, v⟩ := x; simp [normNumsMembers, ih]

mutual
theorem sorted_normNums : (v : JVal) → v.normNums.sorted = v.sorted.normNums
  | .null => rfl
  | .bool _ => rfl
  | .num _ => rfl
  | .str _ => rfl
  | .arr xs => by simp only [JVal.normNums, JVal.sorted, sortedList_normNums xs]
  | .obj kvs => by
    simp only [JVal.normNums, JVal.sorted]
    rw [sortedMembers_normNums kvs, normNumsMembers_eq_map (sortByKey _),
      ← sortByKey_map (fun kv : Bytes × JVal => (kv.1, kv.2.normNums)) (fun _ => rfl),
      ← normNumsMembers_eq_map]
theorem sortedList_normNums : (xs : List JVal) → sortedList (normNumsList xs) = normNumsList (sortedList xs)
  | [] => rfl
  | x :: xs => by simp only [normNumsList, sortedList, sorted_normNums x, sortedList_normNums xs]
theorem sortedMembers_normNums : (kvs : List (Bytes × JVal)) →
    sortedMembers (normNumsMembers kvs) = normNumsMembers (sortedMembers kvs)
  | [] => rfl
  | (k, v) :: kvs => by
    simp only [normNumsMembers, sortedMembers, sorted_normNums v, sortedMembers_normNums kvs]
end

theorem encodeCanon_normNums (v : JVal) : encodeCanon v.normNums = encodeCanon v := by
  unfold encodeCanon
  rw [sorted_normNums, encode_normNums]

end V.Json
