/- C13: the gate of SignJSON / VerifyJSON (signing.go: checkStrictJSON) on the request body.

   * what Sign stores as the body — the canonical JSON of its body — passes the receiver's gate when that body is valid
     UTF-8 and has no duplicate member names (`canonical_strict`; the sender's gate has no UTF-8 clause);
   * a body the gate refuses is never accepted by a key-ring verifier (`gated_never_accepts`). -/
import VModel.FedReq
import VProofs.FedReq
import VProofs.JsonUtf8
import VProofs.JsonClosure
namespace V.FedReq
open V.Json List

/-! ### `ofJVal` (what the parser returns on canonical bytes) is well formed and keeps key distinctness -/

mutual
theorem ofJVal_wellFormed : (v : JVal) → v.utf8Ok = true → (ofJVal v).wellFormed = true
  | .null, _ => rfl
  | .bool _, _ => rfl
  | .num _, _ => rfl
  | .str s, h => by
    simp only [JVal.utf8Ok] at h
    simp only [ofJVal, PVal.wellFormed, rawStringWellFormed, utf8Valid_esb h, surrogatesPaired_esb, Bool.and_self]
  | .arr xs, h => by
    simp only [JVal.utf8Ok] at h
    simp only [ofJVal, PVal.wellFormed, ofJVals_wellFormed xs h]
  | .obj kvs, h => by
    simp only [JVal.utf8Ok] at h
    simp only [ofJVal, PVal.wellFormed, ofJMembers_wellFormed kvs h]
theorem ofJVals_wellFormed : (xs : List JVal) → utf8OkList xs = true → wellFormedList (ofJVals xs) = true
  | [], _ => rfl
  | x :: xs, h => by
    simp only [utf8OkList, Bool.and_eq_true] at h
    simp only [ofJVals, wellFormedList, ofJVal_wellFormed x h.1, ofJVals_wellFormed xs h.2, Bool.and_self]
theorem ofJMembers_wellFormed : (kvs : List (Bytes × JVal)) → utf8OkMembers kvs = true → wellFormedMembers (ofJMembers kvs) = true
  | [], _ => rfl
  | (k, v) :: kvs, h => by
    simp only [utf8OkMembers, Bool.and_eq_true] at h
    simp only [ofJMembers, wellFormedMembers, rawStringWellFormed, utf8Valid_esb h.1.1, surrogatesPaired_esb,
      ofJVal_wellFormed v h.1.2, ofJMembers_wellFormed kvs h.2, Bool.and_self]
end

theorem noDupKeys_sortedList : (xs : List JVal) → jNoDupList xs = true → jNoDupList (sortedList xs) = true :=
  V.Json.noDupKeys_sortedList

theorem noDupKeys_sortedMembers : (kvs : List (Bytes × JVal)) → jNoDupMembers kvs = true → jNoDupMembers (sortedMembers kvs) = true :=
  V.Json.noDupKeys_sortedMembers

theorem ofJMembers_keys : ∀ kvs : List (Bytes × JVal), (ofJMembers kvs).map (·.2.1) = kvs.map (·.1)
  | [] => rfl
  | (k, v) :: kvs => by simp only [ofJMembers, List.map_cons, ofJMembers_keys kvs]

mutual
theorem ofJVal_noDupKeys : (v : JVal) → (ofJVal v).noDupKeys = v.noDupKeys
  | .null => rfl
  | .bool _ => rfl
  | .num _ => rfl
  | .str _ => rfl
  | .arr xs => by simp only [ofJVal, PVal.noDupKeys, JVal.noDupKeys, ofJVals_noDupKeys xs]
  | .obj kvs => by simp only [ofJVal, PVal.noDupKeys, JVal.noDupKeys, ofJMembers_keys, ofJMembers_noDupKeys kvs]
theorem ofJVals_noDupKeys : (xs : List JVal) → noDupKeysList (ofJVals xs) = jNoDupList xs
  | [] => rfl
  | x :: xs => by simp only [ofJVals, noDupKeysList, jNoDupList, ofJVal_noDupKeys x, ofJVals_noDupKeys xs]
theorem ofJMembers_noDupKeys : (kvs : List (Bytes × JVal)) → noDupKeysMembers (ofJMembers kvs) = jNoDupMembers kvs
  | [] => rfl
  | (k, v) :: kvs => by
    simp only [ofJMembers, noDupKeysMembers, jNoDupMembers, ofJVal_noDupKeys v, ofJMembers_noDupKeys kvs]
end

theorem contentStrict_some {raw : Bytes} (hne : raw ≠ []) :
    contentStrict (some raw) = true ↔ ∃ p, parse raw = some p ∧ p.wellFormed = true ∧ p.noDupKeys = true := by
  have he : raw.isEmpty = false := by simpa using hne
  simp only [contentStrict, he, Bool.false_eq_true, ↓reduceIte]
  cases hp : parse raw with
  | none => simp
  | some p => simp

theorem contentSignStrict_some {raw : Bytes} (hne : raw ≠ []) :
    contentSignStrict (some raw) = true ↔ ∃ p, parse raw = some p ∧ V.Sign.pairedOk p = true ∧ p.noDupKeys = true := by
  have he : raw.isEmpty = false := by simpa using hne
  simp only [contentSignStrict, he, Bool.false_eq_true, ↓reduceIte]
  cases hp : parse raw with
  | none => simp
  | some p => simp

theorem surrogatesOkList_of_paired : (xs : List PVal) → V.Sign.pairedOkList xs = true → surrogatesOkList xs = true :=
  V.Json.surrogatesOkList_of_paired
theorem surrogatesOkMembers_of_paired : (kvs : List (Bytes × Bytes × PVal)) → V.Sign.pairedOkMembers kvs = true →
    surrogatesOkMembers kvs = true :=
  V.Json.surrogatesOkMembers_of_paired

/-- **What Sign stores passes the receiver's gate.**  The canonical JSON of a body that is valid UTF-8 and has no
    duplicate member names parses to a value whose strings are well formed (canonical spelling: valid UTF-8, no
    surrogate escape) and whose member names are still distinct. -/
theorem canonical_strict {raw : Bytes} {p : PVal} (hp : parse raw = some p) (hu : utf8Valid raw = true)
    (hd : p.noDupKeys = true) : contentStrict (some (encodeCanon p.toJVal)) = true := by
  obtain ⟨hp', _⟩ := parse_encodeCanon p.toJVal (parse_numsOk hp)
  have hne : encodeCanon p.toJVal ≠ [] := by
    intro e; rw [e, parse_nil] at hp'; cases hp'
  rw [contentStrict_some hne]
  refine ⟨_, hp', ofJVal_wellFormed _ (utf8Ok_sorted _ (parse_utf8Ok hp hu)), ?_⟩
  rw [ofJVal_noDupKeys]
  exact noDupKeys_sorted _ ((noDupKeys_toJVal p).trans hd)

/-- A body the gate refuses is never accepted by the key ring: VerifyJSON fails for every key. -/
theorem gated_never_accepts (body : Bytes) (h : contentStrict (some body) = false)
    (table : List KeyEntry) (dbError : Bool) (wc : Nat) (sigOK : Nat → JVal → Str → Bool)
    (origin : Str) (ts : Nat) (obj : JVal) (sigs : List (Str × Str)) :
    keyRingVerifier table dbError wc (gatedCheck body sigOK) origin ts obj sigs ≠ .accepted := by
  intro hacc
  obtain ⟨_, kv, _, _, k, _, _, _, _, hc⟩ := (keyRing_accepted_iff table dbError wc _ origin ts obj sigs).mp hacc
  simp [gatedCheck, h] at hc

theorem gated_of_strict (body : Bytes) (h : contentStrict (some body) = true) (sigOK : Nat → JVal → Str → Bool) :
    gatedCheck body sigOK = sigOK := by
  funext pk obj sig
  simp [gatedCheck, h]

end V.FedReq
