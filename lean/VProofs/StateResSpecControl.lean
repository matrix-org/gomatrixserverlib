/-
  C10: the control ("power") events the model pulls out of the full conflicted set, and the rest, are the
  sets DEFINED by `ControlSet` (R3: roots closed under auth events that are in the conflicted set) and `OtherSet`.
-/
import VProofs.StateResSpecClosure
namespace V.StateResSpec
open V.StateRes

-- `rootsOf` … `othersOf`: named pieces of `resolveV2New`.  `VProofs.StateResStages` names them too, with the arguments
-- in another order; `rootsOf_eq`, `controlIDsOf_eq`, `lookupAny_eq` of `VProofs.StateResSpecResolve` join the two.
def rootsOf (full : List Event) (unconfIDs : List ID) : List Event :=
  full.filter (fun p => !unconfIDs.contains p.eventID && isControlEvent p)

def controlIDsOf (confMap roots : List Event) : List ID :=
  controlClosure confMap (confMap.length + 1) roots (eventMapFromEvents roots |>.map (·.eventID))

def lookupAny (full confMap : List Event) (id : ID) : Option Event :=
  match findByID full id with
  | some e => some e
  | none => findByID confMap id

def controlEventsOf (full confMap : List Event) (unconfIDs : List ID) : List Event :=
  (controlIDsOf confMap (rootsOf full unconfIDs)).filterMap (lookupAny full confMap)

def othersOf (full confMap : List Event) (unconfIDs : List ID) : List Event :=
  (eventMapFromEvents full).filter (fun p =>
    !unconfIDs.contains p.eventID && !isControlEvent p && !(controlIDsOf confMap (rootsOf full unconfIDs)).contains p.eventID)

theorem lookupAny_eq_some {a b : List Event} {id : ID} {z : Event} (h : lookupAny a b id = some z) :
    z.eventID = id ∧ (z ∈ a ∨ z ∈ b) := by
  unfold lookupAny at h
  cases hf : findByID a id with
  | some e =>
    rw [hf] at h; cases h
    exact ⟨(findByID_some hf).2, Or.inl (findByID_some hf).1⟩
  | none =>
    rw [hf] at h
    exact ⟨(findByID_some h).2, Or.inr (findByID_some h).1⟩

theorem lookupAny_left {a : List Event} (ha : IdsIn a) (b : List Event) {x : Event} (hx : x ∈ a) :
    lookupAny a b x.eventID = some x := by
  unfold lookupAny
  rw [findByID_of_mem ha hx]

theorem lookupAny_of_mem {U : Event → Prop} (hU : IDsIdentify U) {a b : List Event} (haU : ∀ x ∈ a, U x)
    (hbU : ∀ x ∈ b, U x) {x : Event} (hx : x ∈ a ∨ x ∈ b) : lookupAny a b x.eventID = some x := by
  have hxU : U x := hx.elim (haU x) (hbU x)
  unfold lookupAny
  cases hf : findByID a x.eventID with
  | some e => rw [hU e x (haU e (findByID_some hf).1) hxU (findByID_some hf).2]
  | none =>
    rcases hx with hx | hx
    · exact absurd rfl (findByID_eq_none.mp hf x hx)
    · exact findByID_of_mem (fun p q hp hq => hU p q (hbU p hp) (hbU q hq)) hx

/-- the ID list `ids` stands for the set `S` of events: the model computes ID lists, the definition sets of events -/
def IdsOf (S : Event → Prop) (ids : List ID) : Prop := ∀ id, id ∈ ids ↔ ∃ x, x.eventID = id ∧ S x

theorem IdsOf.union {S T : Event → Prop} {ids ids' : List ID} (h : IdsOf S ids) (h' : IdsOf T ids') :
    IdsOf (fun x => S x ∨ T x) (unionIDs ids ids') := fun id => by
  rw [mem_unionIDs, h id, h' id, ← exists_or]
  simp only [and_or_left]

theorem IdsOf.mem {U S : Event → Prop} {ids : List ID} (h : IdsOf S ids) (hU : IDsIdentify U) (hS : ∀ x, S x → U x)
    {x : Event} (hx : U x) : x.eventID ∈ ids ↔ S x :=
  (h _).trans ⟨fun ⟨x', e, s⟩ => hU x' x (hS x' s) hx e ▸ s, fun s => ⟨x, rfl, s⟩⟩

/-- an ID list that stands for `S`, read through a lookup that finds every event of `S` under its ID, is `S` -/
theorem IdsOf.filterMap {S : Event → Prop} {ids : List ID} (h : IdsOf S ids) {look : ID → Option Event}
    (hl : ∀ x, S x → look x.eventID = some x) (x : Event) : x ∈ ids.filterMap look ↔ S x := by
  rw [List.mem_filterMap]
  constructor
  · rintro ⟨id, hid, hx⟩
    obtain ⟨x', rfl, s⟩ := (h id).mp hid
    rw [hl x' s] at hx
    cases hx; exact s
  · exact fun s => ⟨x.eventID, (h _).mpr ⟨x, rfl, s⟩, hl x s⟩

variable {U : Event → Prop} {full confMap unconf : List Event}

theorem mem_rootsOf {r : Event} :
    r ∈ rootsOf full (unconf.map (·.eventID)) ↔ ControlRoot (· ∈ full) (· ∈ unconf) r := by
  unfold rootsOf ControlRoot
  rw [List.mem_filter]
  simp only [Bool.and_eq_true, Bool.not_eq_eq_eq_not, Bool.not_true, List.contains_eq_mem, decide_eq_false_iff_not,
    List.mem_map]

theorem mem_controlIDs (hU : IDsIdentify U) (hfU : ∀ x ∈ full, U x) (hcU : ∀ x ∈ confMap, U x) (hcm : IdNodup confMap)
    (id : ID) :
    id ∈ controlIDsOf confMap (rootsOf full (unconf.map (·.eventID))) ↔
      ∃ x, x.eventID = id ∧ ControlSet (· ∈ confMap) (· ∈ full) (· ∈ unconf) x := by
  unfold controlIDsOf
  have hrU : ∀ r ∈ rootsOf full (unconf.map (·.eventID)), U r := fun r hr => hfU r (List.mem_filter.mp hr).1
  rw [controlClosure_iff hcm _ _ (Nat.le_refl _) ?h0]
  case h0 =>
    intro x hx hid
    obtain ⟨r, hr, hrid⟩ := List.mem_map.mp ((eventMap_ids _ _).mp hid)
    have : r = x := hU r x (hrU r hr) (hcU x hx) hrid
    exact this ▸ hr
  unfold ControlSet Reach
  constructor
  · rintro (h | ⟨r, hr, y, hy, hreach⟩)
    · obtain ⟨r, hr, hrid⟩ := List.mem_map.mp ((eventMap_ids _ _).mp h)
      exact ⟨r, hrid, r, mem_rootsOf.mp hr, Or.inl rfl⟩
    · exact ⟨y, hy, r, mem_rootsOf.mp hr, Or.inr hreach⟩
  · rintro ⟨x, hx, r, hr, (h | h)⟩
    · left
      subst h
      exact (eventMap_ids _ _).mpr (List.mem_map.mpr ⟨r, mem_rootsOf.mpr hr, hx⟩)
    · exact Or.inr ⟨r, mem_rootsOf.mpr hr, x, hx, h⟩

theorem ControlSet.inU (hfU : ∀ x ∈ full, U x) (hcU : ∀ x ∈ confMap, U x) {x : Event}
    (h : ControlSet (· ∈ confMap) (· ∈ full) (· ∈ unconf) x) : U x ∧ (x ∈ full ∨ x ∈ confMap) := by
  obtain ⟨r, hr, (h | h)⟩ := h
  · subst h; exact ⟨hfU r hr.1, Or.inl hr.1⟩
  · exact ⟨hcU x h.target, Or.inr h.target⟩

theorem controlSet_eq_spec (hU : IDsIdentify U) (hfU : ∀ x ∈ full, U x) (hcU : ∀ x ∈ confMap, U x)
    (hcm : IdNodup confMap) (x : Event) :
    x ∈ controlEventsOf full confMap (unconf.map (·.eventID)) ↔
      ControlSet (· ∈ confMap) (· ∈ full) (· ∈ unconf) x :=
  IdsOf.filterMap (mem_controlIDs hU hfU hcU hcm) (fun _ h => lookupAny_of_mem hU hfU hcU (h.inU hfU hcU).2) x

theorem otherSet_eq_spec (hU : IDsIdentify U) (hfU : ∀ x ∈ full, U x) (hcU : ∀ x ∈ confMap, U x)
    (hcm : IdNodup confMap) (x : Event) :
    x ∈ othersOf full confMap (unconf.map (·.eventID)) ↔
      OtherSet (· ∈ confMap) (· ∈ full) (· ∈ unconf) x := by
  unfold othersOf OtherSet
  rw [List.mem_filter, (eventMap_sameSet (fun a b ha hb => hU a b (hfU a ha) (hfU b hb))) x]
  simp only [Bool.and_eq_true, Bool.not_eq_eq_eq_not, Bool.not_true, List.contains_eq_mem, decide_eq_false_iff_not,
    List.mem_map]
  have hctl := fun hx : x ∈ full =>
    IdsOf.mem (mem_controlIDs (unconf := unconf) hU hfU hcU hcm) hU (fun _ h => (h.inU hfU hcU).1) (hfU x hx)
  constructor
  · rintro ⟨hx, ⟨hu, _⟩, hc⟩
    exact ⟨hx, hu, fun h => hc ((hctl hx).mpr h)⟩
  · rintro ⟨hx, hu, hc⟩
    refine ⟨hx, ⟨hu, ?_⟩, fun h => hc ((hctl hx).mp h)⟩
    cases hce : isControlEvent x with
    | false => rfl
    | true => exact absurd ⟨x, ⟨hx, hu, hce⟩, Or.inl rfl⟩ hc

theorem othersOf_idNodup (full confMap : List Event) (unconfIDs : List ID) : IdNodup (othersOf full confMap unconfIDs) :=
  (eventMap_idNodup full).filter _

end V.StateResSpec
