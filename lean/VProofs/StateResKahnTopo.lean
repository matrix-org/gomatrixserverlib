/-
  Kahn's algorithm of VModel.StateRes (`kahn`, `kahnLoop`): the loop invariant `KLoopInv`.
  Under the invariant the loop state is a function of the set of unplaced nodes (`KLoopInv.determined`), so two runs on
  rearranged inputs stay in lock-step.  What the invariant gives for the output is in StateResKahnTopo2.lean: a permutation
  of the distinct input events (always); for acyclic input nothing is left over and the output is a topological order.
-/
import VProofs.StateResKahnSim
import VProofs.StateResSort
namespace V.StateRes
open List

section
variable {κ : Type}

/-! ## Counting children: how often `id` is listed as a parent by the nodes of `l` -/

def cnt (parents : Event → List ID) (id : ID) (l : List (KNode κ)) : Nat :=
  (l.flatMap (fun n => parents n.ev)).count id

theorem cnt_nil (parents : Event → List ID) (id : ID) : cnt parents id ([] : List (KNode κ)) = 0 := rfl

theorem cnt_cons (parents : Event → List ID) (id : ID) (n : KNode κ) (l : List (KNode κ)) :
    cnt parents id (n :: l) = (parents n.ev).count id + cnt parents id l := by
  unfold cnt; rw [List.flatMap_cons, List.count_append]

theorem cnt_append (parents : Event → List ID) (id : ID) (l l' : List (KNode κ)) :
    cnt parents id (l ++ l') = cnt parents id l + cnt parents id l' := by
  unfold cnt; rw [List.flatMap_append, List.count_append]

theorem cnt_perm (parents : Event → List ID) (id : ID) {l l' : List (KNode κ)} (h : l ~ l') :
    cnt parents id l = cnt parents id l' := (h.flatMap_right _).count_eq id

theorem cnt_eq_zero {parents : Event → List ID} {id : ID} {l : List (KNode κ)} :
    cnt parents id l = 0 ↔ ∀ n ∈ l, id ∉ parents n.ev := by
  unfold cnt; rw [List.count_eq_zero]; simp [List.mem_flatMap]

theorem cnt_pos {parents : Event → List ID} {id : ID} {l : List (KNode κ)} :
    0 < cnt parents id l ↔ ∃ n ∈ l, id ∈ parents n.ev := by
  unfold cnt; rw [List.count_pos_iff, List.mem_flatMap]

/-! ## Closed form of the initial in-degree table -/

/-- what a list of bumps adds to the entry of `x` -/
def bumpSum (ops : List (ID × Nat)) (x : ID) : Nat := ((ops.filter (·.1 == x)).map (·.2)).sum

theorem bumpSum_cons (op : ID × Nat) (ops : List (ID × Nat)) (x : ID) :
    bumpSum (op :: ops) x = (if op.1 = x then op.2 else 0) + bumpSum ops x := by
  unfold bumpSum
  rw [List.filter_cons]
  by_cases h : op.1 = x
  · rw [if_pos h, if_pos (beq_iff_eq.mpr h), List.map_cons, List.sum_cons]
  · rw [if_neg h, if_neg (fun hb => h (beq_iff_eq.mp hb)), Nat.zero_add]

theorem kDegOf_kBumpFold (ops : List (ID × Nat)) (d : List (ID × Nat)) (x : ID) :
    kDegOf (ops.foldl kBumpOp d) x =
      if (kDegOf d x).isSome ∨ x ∈ ops.map (·.1) then some ((kDegOf d x).getD 0 + bumpSum ops x) else none := by
  induction ops generalizing d with
  | nil => cases h : kDegOf d x <;> simp [bumpSum, h]
  | cons op ops ih =>
    rw [List.foldl_cons, ih, bumpSum_cons]
    unfold kBumpOp
    rw [kDegOf_kBump]
    by_cases hx : x = op.1
    · subst hx
      simp only [if_true, Option.isSome_some, true_or, Option.getD_some, List.map_cons, List.mem_cons, or_true,
        Nat.add_assoc]
    · have hx' : ¬ op.1 = x := fun h => hx h.symm
      rw [if_neg hx, if_neg hx', Nat.zero_add]
      simp only [List.map_cons, List.mem_cons, hx, false_or]

theorem mem_kahnOps_keys {parents : Event → List ID} {nodes : List (KNode κ)} {x : ID} :
    x ∈ (kahnOps parents nodes).map (·.1) ↔ ∃ n ∈ nodes, x = n.ev.eventID ∨ x ∈ parents n.ev := by
  unfold kahnOps
  simp only [List.map_flatMap, List.mem_flatMap, List.map_cons, List.map_map, List.mem_cons, List.mem_map,
    Function.comp_def, exists_eq_right]

theorem bumpSum_kahnOps (parents : Event → List ID) (nodes : List (KNode κ)) (x : ID) :
    bumpSum (kahnOps parents nodes) x = cnt parents x nodes := by
  have hp : ∀ ps : List ID, bumpSum (ps.map (fun pid => (pid, 1))) x = ps.count x := by
    intro ps
    induction ps with
    | nil => rfl
    | cons p ps ih => rw [List.map_cons, bumpSum_cons, ih, List.count_cons]; by_cases h : p = x <;> simp [h]; omega
  unfold kahnOps cnt
  induction nodes with
  | nil => rfl
  | cons n ns ih =>
    rw [List.flatMap_cons, List.flatMap_cons, List.count_append, ← ih]
    unfold bumpSum
    rw [List.filter_append, List.map_append, List.sum_append]
    congr 1
    exact (bumpSum_cons _ _ _).trans (by rw [hp]; simp)

theorem kDegOf_kahnInDeg_eq (parents : Event → List ID) (nodes : List (KNode κ)) (x : ID) :
    kDegOf (kahnInDeg parents nodes) x =
      if x ∈ (kahnOps parents nodes).map (·.1) then some (cnt parents x nodes) else none := by
  rw [kahnInDeg_eq, kDegOf_kBumpFold, bumpSum_kahnOps]
  simp only [kDegOf_nil, Option.isSome_none, Bool.false_eq_true, false_or, Option.getD_none, Nat.zero_add]

theorem getD_kDegOf_kahnInDeg (parents : Event → List ID) (nodes : List (KNode κ)) (x : ID) :
    (kDegOf (kahnInDeg parents nodes) x).getD 0 = cnt parents x nodes := by
  rw [kDegOf_kahnInDeg_eq]
  split
  · rfl
  · rename_i h
    exact (cnt_eq_zero.mpr (fun n hn hp => h (mem_kahnOps_keys.mpr ⟨n, hn, Or.inr hp⟩))).symm

theorem kDegOf_kahnInDeg {parents : Event → List ID} {nodes : List (KNode κ)} {x : ID}
    (h : ∃ n ∈ nodes, x = n.ev.eventID ∨ x ∈ parents n.ev) :
    kDegOf (kahnInDeg parents nodes) x = some (cnt parents x nodes) := by
  rw [kDegOf_kahnInDeg_eq, if_pos (mem_kahnOps_keys.mpr h)]

theorem KIdNodup.eq_of_id {l : List (KNode κ)} (h : KIdNodup l) {a b : KNode κ} (ha : a ∈ l) (hb : b ∈ l)
    (hid : a.ev.eventID = b.ev.eventID) : a = b := Lists.eq_of_nodup_map _ h ha hb hid

/-- taking the node with ID `pid` out of an ID-distinct list: it is the only one the search can find -/
theorem find_filter_perm {l : List (KNode κ)} (h : KIdNodup l) {pid : ID} {m : KNode κ}
    (hf : l.find? (fun n => n.ev.eventID == pid) = some m) :
    l ~ m :: l.filter (fun n => n.ev.eventID != pid) := by
  have hlen := Lists.filter_key_length_le_one (fun n : KNode κ => n.ev.eventID) h pid
  have hhead := (List.head?_filter (p := fun n : KNode κ => n.ev.eventID == pid) (l := l)).trans hf
  have hsplit := (List.filter_append_perm (fun n : KNode κ => n.ev.eventID == pid) l).symm
  cases hl : l.filter (fun n => n.ev.eventID == pid) with
  | nil => rw [hl] at hhead; cases hhead
  | cons a as =>
    rw [hl] at hlen hhead hsplit
    cases as with
    | nil => exact Option.some.inj hhead ▸ hsplit
    | cons _ _ => exact absurd hlen (by simp)

/-! ## The inner fold (decrementing the parents of the popped node)

`R` = the unplaced nodes other than the popped one (fixed during the fold), `qs` = the parent IDs still to be processed. -/

structure InnerInv (parents : Event → List ID) (R : List (KNode κ)) (qs : List ID) (acc : KAcc κ) : Prop where
  perm : acc.2.1 ++ acc.2.2 ~ R
  deg : ∀ id, (kDegOf acc.1 id).getD 0 = cnt parents id R + qs.count id
  ni : ∀ n ∈ acc.2.2, kDegOf acc.1 n.ev.eventID = some 0
  pos : ∀ n ∈ acc.2.1, kDegOf acc.1 n.ev.eventID ≠ some 0
  dom : ∀ n ∈ acc.2.1, (kDegOf acc.1 n.ev.eventID).isSome

theorem kDecStep_inner {parents : Event → List ID} {R : List (KNode κ)} (hR : KIdNodup R) {pid : ID} {qs : List ID}
    {acc : KAcc κ} (h : InnerInv parents R (pid :: qs) acc) : InnerInv parents R qs (kDecStep acc pid) := by
  obtain ⟨deg, rem, ni⟩ := acc
  obtain ⟨hperm, hdeg, hni, hpos, hdom⟩ := h
  simp only at hperm hdeg hni hpos hdom
  have hdeg' : ∀ id, (kDegOf (decMap deg pid) id).getD 0 = cnt parents id R + qs.count id := by
    intro id
    rw [getD_kDegOf_decMap, hdeg id, List.count_cons]
    by_cases hx : id = pid
    · subst hx; simp
    · have : ¬ pid = id := fun h' => hx h'.symm
      simp [hx, this]
  have hni' : ∀ n ∈ ni, kDegOf (decMap deg pid) n.ev.eventID = some 0 := by
    intro n hn
    rw [kDegOf_decMap, hni n hn]; split <;> rfl
  have hdom' : ∀ n ∈ rem, (kDegOf (decMap deg pid) n.ev.eventID).isSome := by
    intro n hn; rw [isSome_kDegOf_decMap]; exact hdom n hn
  have hpos' : ∀ n ∈ rem, n.ev.eventID ≠ pid → kDegOf (decMap deg pid) n.ev.eventID ≠ some 0 := by
    intro n hn hne; rw [kDegOf_decMap, if_neg hne]; exact hpos n hn
  rw [kDecStep_eq]
  split
  · rename_i hc
    have hc' : kDegOf (decMap deg pid) pid = some 0 := by simpa using hc
    split
    · rename_i m hm
      have hmid : m.ev.eventID = pid := by simpa using List.find?_some hm
      have hremnd : KIdNodup rem := (hR.perm hperm.symm).sublist (List.sublist_append_left _ _)
      have hp := find_filter_perm hremnd hm
      refine ⟨?_, hdeg', ?_, ?_, ?_⟩
      · show rem.filter (fun n => n.ev.eventID != pid) ++ (ni ++ [m]) ~ R
        refine List.Perm.trans ?_ hperm
        refine List.Perm.trans ?_ (hp.symm.append_right ni)
        rw [← List.append_assoc]
        refine List.Perm.trans List.perm_append_comm ?_
        simp
      · intro n hn
        rcases List.mem_append.mp hn with hn | hn
        · exact hni' n hn
        · have : n = m := by simpa using hn
          rw [this, hmid]; exact hc'
      · intro n hn
        obtain ⟨hn1, hn2⟩ := List.mem_filter.mp hn
        exact hpos' n hn1 (by simpa using hn2)
      · intro n hn
        exact hdom' n (List.mem_filter.mp hn).1
    · rename_i hnone
      rw [List.find?_eq_none] at hnone
      refine ⟨hperm, hdeg', hni', ?_, hdom'⟩
      intro n hn
      exact hpos' n hn (by simpa using hnone n hn)
  · rename_i hc
    have hc' : kDegOf (decMap deg pid) pid ≠ some 0 := by simpa using hc
    refine ⟨hperm, hdeg', hni', ?_, hdom'⟩
    intro n hn
    by_cases hne : n.ev.eventID = pid
    · rw [hne]; exact hc'
    · exact hpos' n hn hne

theorem decFold_inner {parents : Event → List ID} {R : List (KNode κ)} (hR : KIdNodup R) (ps : List ID)
    {acc : KAcc κ} (h : InnerInv parents R ps acc) : InnerInv parents R [] (ps.foldl kDecStep acc) := by
  induction ps generalizing acc with
  | nil => exact h
  | cons p ps ih => rw [List.foldl_cons]; exact ih (kDecStep_inner hR h)

/-- `rem` = waiting, `ni` = ready (no unplaced child), `graph` = placed; `d` = number of unplaced children -/
structure KLoopInv (parents : Event → List ID) (nodes rem : List (KNode κ)) (d : List (ID × Nat)) (ni graph : List (KNode κ)) :
    Prop where
  perm : rem ++ ni ++ graph ~ nodes
  deg : ∀ id, (kDegOf d id).getD 0 = cnt parents id (rem ++ ni)
  ready : ∀ n ∈ ni, kDegOf d n.ev.eventID = some 0
  pos : ∀ n ∈ rem, kDegOf d n.ev.eventID ≠ some 0
  dom : ∀ n ∈ rem, (kDegOf d n.ev.eventID).isSome
  placed : ∀ g ∈ graph, ∀ n ∈ rem ++ ni, g.ev.eventID ∉ parents n.ev
  topo : graph.Pairwise (fun a b => b.ev.eventID ∉ parents a.ev)

theorem kahn_step (r : KNode κ → KNode κ → Bool) {parents : Event → List ID} {nodes : List (KNode κ)} (hnd : KIdNodup nodes)
    {rem : List (KNode κ)} {d : List (ID × Nat)} {ni₀ graph : List (KNode κ)} {node : KNode κ}
    (h : KLoopInv parents nodes rem d (ni₀ ++ [node]) graph) :
    KLoopInv parents nodes ((parents node.ev).foldl kDecStep (d, rem, ni₀)).2.1 ((parents node.ev).foldl kDecStep (d, rem, ni₀)).1
      (sortBy r ((parents node.ev).foldl kDecStep (d, rem, ni₀)).2.2) (node :: graph) := by
  have hall : rem ++ (ni₀ ++ [node]) ++ graph = (rem ++ ni₀) ++ (node :: graph) := by simp
  have hRnd : KIdNodup (rem ++ ni₀) := by
    have := hnd.perm h.perm.symm
    rw [hall] at this
    exact this.sublist (List.sublist_append_left _ _)
  have hnode : node ∈ rem ++ (ni₀ ++ [node]) := by simp
  have hnode0 : kDegOf d node.ev.eventID = some 0 := h.ready node (by simp)
  have hnochild : ∀ n ∈ rem ++ (ni₀ ++ [node]), node.ev.eventID ∉ parents n.ev := by
    have h1 := h.deg node.ev.eventID
    rw [hnode0] at h1
    exact cnt_eq_zero.mp (by simpa using h1.symm)
  have h0 : InnerInv parents (rem ++ ni₀) (parents node.ev) (d, rem, ni₀) := by
    refine ⟨List.Perm.refl _, ?_, fun n hn => h.ready n (List.mem_append_left _ hn), h.pos, h.dom⟩
    intro id
    show (kDegOf d id).getD 0 = _
    rw [h.deg id, ← List.append_assoc, cnt_append, cnt_cons, cnt_nil]; omega
  have hf := decFold_inner hRnd _ h0
  generalize (parents node.ev).foldl kDecStep (d, rem, ni₀) = s at hf ⊢
  obtain ⟨d', rem', ni'⟩ := s
  obtain ⟨fperm, fdeg, fni, fpos, fdom⟩ := hf
  simp only at fperm fdeg fni fpos fdom ⊢
  have hp : rem' ++ sortBy r ni' ~ rem ++ ni₀ := ((sortBy_perm r ni').append_left rem').trans fperm
  have hsub : ∀ n ∈ rem' ++ sortBy r ni', n ∈ rem ++ (ni₀ ++ [node]) := by
    intro n hn
    have := hp.mem_iff.mp hn
    rw [← List.append_assoc]; exact List.mem_append_left _ this
  refine ⟨?_, ?_, ?_, fpos, fdom, ?_, ?_⟩
  · exact (hp.append_right _).trans (hall ▸ h.perm)
  · intro id
    rw [fdeg id, cnt_perm parents id hp]; simp
  · intro n hn; exact fni n ((mem_sortBy r).mp hn)
  · intro g hg n hn
    rcases List.mem_cons.mp hg with rfl | hg
    · exact hnochild n (hsub n hn)
    · exact h.placed g hg n (hsub n hn)
  · rw [List.pairwise_cons]
    exact ⟨fun b hb => h.placed b hb node hnode, h.topo⟩

/-- the loop ends with nothing ready, the invariant still holds (the fuel never runs out) -/
theorem kahnLoop_inv (lt : κ → κ → Bool) (parents : Event → List ID) {nodes : List (KNode κ)} (hnd : KIdNodup nodes) :
    ∀ (fuel : Nat) (rem : List (KNode κ)) (d : List (ID × Nat)) (ni graph : List (KNode κ)),
      KLoopInv parents nodes rem d ni graph → nodes.length < fuel + graph.length →
      ∃ d', KLoopInv parents nodes (kahnLoop lt parents fuel rem d ni graph).1 d' [] (kahnLoop lt parents fuel rem d ni graph).2 := by
  intro fuel
  induction fuel with
  | zero =>
    intro rem d ni graph h hf
    have := h.perm.length_eq
    simp only [List.length_append] at this
    omega
  | succ fuel ih =>
    intro rem d ni graph h hf
    rw [kahnLoop_succ]
    cases hrev : ni.reverse with
    | nil =>
      have : ni = [] := by simpa using hrev
      subst this
      exact ⟨d, h⟩
    | cons node restRev =>
      have hni : ni = restRev.reverse ++ [node] := by
        have := congrArg List.reverse hrev
        simpa using this
      subst hni
      simp only
      refine ih _ _ _ _ (kahn_step _ hnd h) ?_
      simp only [List.length_cons]; omega

theorem kahn_init (r : KNode κ → KNode κ → Bool) (parents : Event → List ID) (nodes : List (KNode κ)) :
    KLoopInv parents nodes (kahnRemaining (kahnInDeg parents nodes) nodes) (kahnInDeg parents nodes)
      (sortBy r (kahnZero (kahnInDeg parents nodes) nodes)) [] := by
  have hp : kahnRemaining (kahnInDeg parents nodes) nodes ++ sortBy r (kahnZero (kahnInDeg parents nodes) nodes) ~ nodes := by
    refine ((sortBy_perm r _).append_left _).trans ?_
    refine List.perm_append_comm.trans ?_
    exact List.filter_append_perm _ _
  refine ⟨by simpa using hp, ?_, ?_, ?_, ?_, ?_, List.Pairwise.nil⟩
  · intro id
    rw [getD_kDegOf_kahnInDeg, cnt_perm parents id hp]
  · intro n hn
    have := (List.mem_filter.mp ((mem_sortBy r).mp hn)).2
    simpa using this
  · intro n hn
    have := (List.mem_filter.mp hn).2
    simpa using this
  · intro n hn
    rw [kDegOf_kahnInDeg ⟨n, (List.mem_filter.mp hn).1, Or.inl rfl⟩]; rfl
  · intro g hg; cases hg

theorem KLoopInv.mem_ready_iff {parents : Event → List ID} {nodes rem ni graph : List (KNode κ)} {d : List (ID × Nat)}
    (h : KLoopInv parents nodes rem d ni graph) {n : KNode κ} :
    n ∈ ni ↔ n ∈ rem ++ ni ∧ cnt parents n.ev.eventID (rem ++ ni) = 0 := by
  constructor
  · intro hn
    have hd := h.deg n.ev.eventID
    rw [h.ready n hn] at hd
    exact ⟨List.mem_append_right _ hn, hd.symm⟩
  · rintro ⟨hn, h0⟩
    refine (List.mem_append.mp hn).resolve_left fun hr => h.pos n hr ?_
    have hd := h.deg n.ev.eventID
    have hdom := h.dom n hr
    cases hv : kDegOf d n.ev.eventID with
    | none => rw [hv] at hdom; cases hdom
    | some v => rw [hv, h0] at hd; exact congrArg some hd

theorem KLoopInv.determined {lt : κ → κ → Bool} (hlt : StrictTotal lt) {parents : Event → List ID}
    {nodes nodes' rem rem' ni ni' graph : List (KNode κ)} {d d' : List (ID × Nat)}
    (hnd : KIdNodup nodes) (hkey : KeyInj KNode.key nodes) (hp : nodes ~ nodes')
    (h : KLoopInv parents nodes rem d ni graph) (h' : KLoopInv parents nodes' rem' d' ni' graph)
    (hs : SortedBy lt KNode.key ni) (hs' : SortedBy lt KNode.key ni') : ni = ni' ∧ rem ~ rem' := by
  have hU : rem ++ ni ~ rem' ++ ni' := (List.perm_append_right_iff graph).mp (h.perm.trans (hp.trans h'.perm.symm))
  have hsub : ∀ n ∈ ni, n ∈ nodes := fun n hn =>
    h.perm.mem_iff.mp (List.mem_append_left _ (List.mem_append_right _ hn))
  have hndU : (rem ++ ni).Nodup := (List.nodup_append.mp (h.perm.nodup_iff.mpr hnd.nodup)).1
  have hni : ni ~ ni' := by
    refine SameSet.perm (fun n => ?_) (List.nodup_append.mp hndU).2.1 (List.nodup_append.mp (hU.nodup_iff.mp hndU)).2.1
    rw [h.mem_ready_iff, h'.mem_ready_iff, hU.mem_iff, cnt_perm parents _ hU]
  have e : ni = ni' := sorted_unique KNode.key hlt hni (fun a ha b hb => hkey a (hsub a ha) b (hsub b hb)) hs hs'
  subst e
  exact ⟨rfl, (List.perm_append_right_iff ni).mp hU⟩

theorem kahnLoop_determined (lt : κ → κ → Bool) (hlt : StrictTotal lt) (parents : Event → List ID)
    {nodes nodes' : List (KNode κ)} (hnd : KIdNodup nodes) (hkey : KeyInj KNode.key nodes) (hp : nodes ~ nodes') :
    ∀ (fuel : Nat) (rem rem' : List (KNode κ)) (d d' : List (ID × Nat)) (ni ni' graph : List (KNode κ)),
      KLoopInv parents nodes rem d ni graph → KLoopInv parents nodes' rem' d' ni' graph →
      SortedBy lt KNode.key ni → SortedBy lt KNode.key ni' →
      (kahnLoop lt parents fuel rem d ni graph).1 ~ (kahnLoop lt parents fuel rem' d' ni' graph).1 ∧
      (kahnLoop lt parents fuel rem d ni graph).2 = (kahnLoop lt parents fuel rem' d' ni' graph).2 := by
  intro fuel
  induction fuel with
  | zero => intro rem rem' d d' ni ni' graph h h' hs hs'; exact ⟨(h.determined hlt hnd hkey hp h' hs hs').2, rfl⟩
  | succ fuel ih =>
    intro rem rem' d d' ni ni' graph h h' hs hs'
    obtain ⟨rfl, hr⟩ := h.determined hlt hnd hkey hp h' hs hs'
    rw [kahnLoop_succ, kahnLoop_succ]
    cases hrev : ni.reverse with
    | nil => exact ⟨hr, rfl⟩
    | cons node restRev =>
      have hni : ni = restRev.reverse ++ [node] := by simpa using congrArg List.reverse hrev
      subst hni
      exact ih _ _ _ _ _ _ _ (kahn_step _ hnd h) (kahn_step _ (hnd.perm hp) h')
        (sortBy_sorted KNode.key hlt _) (sortBy_sorted KNode.key hlt _)

theorem kahnLoop_final (lt : κ → κ → Bool) (parents : Event → List ID) (nodes0 : List (KNode κ)) :
    ∃ d', KLoopInv parents (kNodes nodes0) (kahnRun lt parents nodes0).1 d' [] (kahnRun lt parents nodes0).2 :=
  kahnLoop_inv lt parents (kNodes_idNodup nodes0) _ _ _ _ _ (kahn_init _ parents _) (by simp)

end
end V.StateRes
