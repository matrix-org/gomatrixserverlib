/-
  The two orderings the resolution flow uses.  The auth map enters the power ordering (`senderPower`, `reverseTopoAuth`) and
  the mainline ordering (`createMainline`, `firstMainline`, `mainlineOrdering`) ONLY through the lookups `findByID authMap`
  and through its length (used as fuel): EQUALITIES under `MapEq`.  `mainlineOrdering` is a sort by a total order: a
  permutation of its input that does not depend on the order in which (ID-distinct) events are supplied.
-/
import VProofs.StateResBasic
import VProofs.StateResSort
namespace V.StateRes
open List

/-! ## The auth map enters only through lookups (and its length) -/

theorem senderPower_mapEq {am am' : List Event} (h : MapEq am am') (ce : Option Event) :
    senderPower am ce = senderPower am' ce := by
  funext e; unfold senderPower; rw [h.find_eq]

theorem reverseTopoAuth_mapEq {am am' : List Event} (h : MapEq am am') (ce : Option Event) (evs : List Event) :
    reverseTopoAuth am ce evs = reverseTopoAuth am' ce evs := by
  unfold reverseTopoAuth; rw [senderPower_mapEq h ce]

theorem mainlineIter_succ (am : List Event) (fuel : Nat) (path : List ID) (e : Event) (acc : List Event) :
    mainlineIter am (fuel + 1) path e acc =
      (e.authEventIDs.filterMap (findByID am)).foldl
        (fun a p => if isPLEvent p && !path.contains p.eventID then mainlineIter am fuel (p.eventID :: path) p a else a)
        (e :: acc) := rfl

theorem mainlineIter_mapEq {am am' : List Event} (h : MapEq am am') (fuel : Nat) (path : List ID) (e : Event)
    (acc : List Event) : mainlineIter am fuel path e acc = mainlineIter am' fuel path e acc := by
  induction fuel generalizing path e acc with
  | zero => rfl
  | succ fuel ih =>
    have hstep : (fun (a : List Event) (p : Event) =>
          if isPLEvent p && !path.contains p.eventID then mainlineIter am fuel (p.eventID :: path) p a else a) =
        (fun a p => if isPLEvent p && !path.contains p.eventID then mainlineIter am' fuel (p.eventID :: path) p a else a) := by
      funext a p; rw [ih]
    rw [mainlineIter_succ, mainlineIter_succ, hstep, h.find_eq]

theorem createMainline_mapEq {am am' : List Event} (h : MapEq am am') (pl : Option Event) :
    createMainline am pl = createMainline am' pl := by
  unfold createMainline
  cases pl with
  | none => rfl
  | some p => simp only [h.1, mainlineIter_mapEq h]

theorem firstMainline_go_mapEq {am am' : List Event} (ml : List Event) (fuel : Nat)
    (ih : ∀ path e st, firstMainline am ml fuel path e st = firstMainline am' ml fuel path e st) (path : List ID)
    (ps : List Event) (st : Nat × Nat) :
    firstMainline.go am ml fuel path ps st = firstMainline.go am' ml fuel path ps st := by
  induction ps generalizing st with
  | nil => simp only [firstMainline.go]
  | cons p rest ihp =>
    rw [firstMainline.go.eq_2, firstMainline.go.eq_2]
    split
    · exact ihp st
    · split
      · rfl
      · split
        · exact ihp st
        · rw [ih, ihp]

theorem firstMainline_mapEq {am am' : List Event} (h : MapEq am am') (ml : List Event) (fuel : Nat) (path : List ID)
    (e : Event) (st : Nat × Nat) : firstMainline am ml fuel path e st = firstMainline am' ml fuel path e st := by
  induction fuel generalizing path e st with
  | zero => simp only [firstMainline]
  | succ fuel ih =>
    rw [firstMainline.eq_2, firstMainline.eq_2, h.find_eq]
    exact firstMainline_go_mapEq ml fuel ih path _ st

theorem otherKey_mapEq {am am' : List Event} (h : MapEq am am') (ml : List Event) : otherKey am ml = otherKey am' ml := by
  funext e; unfold otherKey; rw [h.1, firstMainline_mapEq h]

theorem mainlineOrdering_mapEq {am am' : List Event} (h : MapEq am am') (ml evs : List Event) :
    mainlineOrdering am ml evs = mainlineOrdering am' ml evs := by
  unfold mainlineOrdering; rw [otherKey_mapEq h ml]

/-! ## `mainlineOrdering` is a sort by a total order -/

theorem mainlineOrdering_eq (am ml evs : List Event) :
    mainlineOrdering am ml evs = sortOn otherLt (otherKey am ml) evs := rfl

theorem mainlineOrdering_perm (am ml evs : List Event) : mainlineOrdering am ml evs ~ evs := sortOn_perm _ _ evs

theorem mem_mainlineOrdering {am ml evs : List Event} {e : Event} : e ∈ mainlineOrdering am ml evs ↔ e ∈ evs :=
  (mainlineOrdering_perm am ml evs).mem_iff

theorem length_mainlineOrdering (am ml evs : List Event) : (mainlineOrdering am ml evs).length = evs.length :=
  (mainlineOrdering_perm am ml evs).length_eq

theorem otherKey_id (am ml : List Event) (e : Event) : (otherKey am ml e).id = e.eventID := by
  unfold otherKey
  split
  rfl

theorem mainlineOrdering_input_order_irrelevant (am ml : List Event) {l1 l2 : List Event} (hp : l1 ~ l2) (hn : IdNodup l1) :
    mainlineOrdering am ml l1 = mainlineOrdering am ml l2 := by
  refine sortOn_unique _ otherLt_strictTotal hp (fun a ha b hb hab => hn.idsIn a b ha hb ?_)
  rw [← otherKey_id am ml a, ← otherKey_id am ml b, hab]

theorem mainlineOrdering_sorted (am ml evs : List Event) :
    (mainlineOrdering am ml evs).Pairwise (fun a b => otherLt (otherKey am ml b) (otherKey am ml a) = false) :=
  sortOn_sorted _ otherLt_strictTotal evs

end V.StateRes
