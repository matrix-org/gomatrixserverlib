/- Predicates on JSON values that are given, on arrays and objects, by the elements and members (`Hered`), maps on
   values that rebuild arrays elementwise and objects memberwise (`HMap`: `sorted`, `normNums`), and the one theorem
   that such a map preserves such a predicate (`Hered.map`).  "`numsOk`, `noDupKeys`, … survive sorting
   and number normalisation" are its instances. -/
import VProofs.JsonSortEmit
namespace V.Json

/-- Induction over a value, with the hypotheses about elements and members in membership form. -/
theorem JVal.ind {P : JVal → Prop} (null : P .null) (bool : ∀ b, P (.bool b)) (num : ∀ l, P (.num l))
    (str : ∀ s, P (.str s)) (arr : ∀ xs, (∀ x ∈ xs, P x) → P (.arr xs))
    (obj : ∀ kvs : List (Bytes × JVal), (∀ kv ∈ kvs, P kv.2) → P (.obj kvs)) : ∀ v, P v :=
  @JVal.rec P (fun xs => ∀ x ∈ xs, P x) (fun kvs => ∀ kv ∈ kvs, P kv.2) (fun kv => P kv.2)
    null bool num str arr obj nofun (fun _ _ h t => List.forall_mem_cons.mpr ⟨h, t⟩)
    nofun (fun _ _ h t => List.forall_mem_cons.mpr ⟨h, t⟩) (fun _ _ h => h)

theorem sortedList_eq_map (xs : List JVal) : sortedList xs = xs.map JVal.sorted := by
  induction xs with
  | nil => rfl
  | cons x xs ih => rw [sortedList, ih, List.map_cons]

theorem normNumsList_eq_map (xs : List JVal) : normNumsList xs = xs.map JVal.normNums := by
  induction xs with
  | nil => rfl
  | cons x xs ih => rw [normNumsList, ih, List.map_cons]

/-- A predicate `P` on values given, on arrays and objects, by the elements and members: `PL` and `PM` are its forms
    for an element list and a member list, `Q` is what it asks of a key, `K` what it asks of the key list of an object. -/
structure Hered (P : JVal → Prop) (PL : List JVal → Prop) (PM : List (Bytes × JVal) → Prop)
    (Q : Bytes → Prop) (K : List Bytes → Prop) : Prop where
  arr : ∀ xs, P (.arr xs) ↔ PL xs
  obj : ∀ kvs, P (.obj kvs) ↔ K (kvs.map (·.1)) ∧ PM kvs
  list : ∀ xs, PL xs ↔ ∀ x ∈ xs, P x
  members : ∀ kvs, PM kvs ↔ ∀ kv ∈ kvs, Q kv.1 ∧ P kv.2

/-- A map `T` on values that rewrites number literals by `N`, rebuilds arrays elementwise (`TL`) and objects memberwise
    (`TM`) up to a rearrangement `S` of the members, and leaves everything else alone. -/
structure HMap (T : JVal → JVal) (TL : List JVal → List JVal) (TM S : List (Bytes × JVal) → List (Bytes × JVal))
    (N : Bytes → Bytes) : Prop where
  null : T .null = .null
  bool : ∀ b, T (.bool b) = .bool b
  str : ∀ s, T (.str s) = .str s
  num : ∀ l, T (.num l) = .num (N l)
  arr : ∀ xs, T (.arr xs) = .arr (TL xs)
  obj : ∀ kvs, T (.obj kvs) = .obj (S (TM kvs))
  list : ∀ xs, TL xs = xs.map T
  members : ∀ kvs, TM kvs = kvs.map (fun kv => (kv.1, T kv.2))
  perm : ∀ l, (S l).Perm l

theorem sorted_hmap : HMap JVal.sorted sortedList sortedMembers sortByKey id :=
  ⟨rfl, fun _ => rfl, fun _ => rfl, fun _ => rfl, fun _ => rfl, fun _ => rfl, sortedList_eq_map, sortedMembers_eq_map,
    sortByKey_perm⟩

theorem normNums_hmap : HMap JVal.normNums normNumsList normNumsMembers id encodeNum :=
  ⟨rfl, fun _ => rfl, fun _ => rfl, fun _ => rfl, fun _ => rfl, fun _ => rfl, normNumsList_eq_map,
    normNumsMembers_eq_map, fun _ => .refl _⟩

/-- **A hereditary map preserves a hereditary predicate** that does not depend on the order of an object's keys and
    survives the rewriting of a number literal. -/
theorem Hered.map {P PL PM Q K} (H : Hered P PL PM Q K) {T TL TM S N} (M : HMap T TL TM S N)
    (hK : ∀ {a b : List Bytes}, a.Perm b → K a → K b) (hN : ∀ l, P (.num l) → P (.num (N l))) :
    (∀ v, P v → P (T v)) ∧ (∀ xs, PL xs → PL (TL xs)) ∧ (∀ kvs, PM kvs → PM (TM kvs)) := by
  have hL : ∀ xs, (∀ x ∈ xs, P x → P (T x)) → PL xs → PL (TL xs) := fun xs ih h => by
    rw [M.list, H.list]
    exact List.forall_mem_map.mpr fun x hx => ih x hx ((H.list xs).mp h x hx)
  have hM : ∀ kvs : List (Bytes × JVal), (∀ kv ∈ kvs, P kv.2 → P (T kv.2)) → PM kvs → PM (TM kvs) := fun kvs ih h => by
    rw [M.members, H.members]
    exact List.forall_mem_map.mpr fun kv hkv => ((H.members kvs).mp h kv hkv).imp_right (ih kv hkv)
  have hV : ∀ v, P v → P (T v) := by
    intro v
    induction v using JVal.ind with
    | null => rw [M.null]; exact id
    | bool => rw [M.bool]; exact id
    | str => rw [M.str]; exact id
    | num l => rw [M.num]; exact hN l
    | arr xs ih => rw [M.arr, H.arr, H.arr]; exact hL xs ih
    | obj kvs ih =>
      rw [M.obj, H.obj, H.obj]
      intro ⟨hk, hm⟩
      -- the keys of the rebuilt object are those of the given one in another order
      have e : (TM kvs).map (·.1) = kvs.map (·.1) := by rw [M.members, List.map_map]; rfl
      refine ⟨hK (e ▸ ((M.perm _).map (·.1)).symm) hk, (H.members _).mpr fun kv hkv => ?_⟩
      exact (H.members _).mp (hM kvs ih hm) kv ((M.perm _).subset hkv)
  exact ⟨hV, fun xs => hL xs fun x _ => hV x, fun kvs => hM kvs fun kv _ => hV kv.2⟩

theorem numsOk_hered :
    Hered (·.numsOk = true) (numsOkList · = true) (numsOkMembers · = true) (fun _ => True) (fun _ => True) where
  arr _ := Iff.rfl
  obj _ := ⟨.intro trivial, And.right⟩
  list xs := by induction xs <;> simp [numsOkList, *]
  members kvs := by induction kvs <;> simp [numsOkMembers, *]

theorem noDupKeys_hered :
    Hered (·.noDupKeys = true) (jNoDupList · = true) (jNoDupMembers · = true) (fun _ => True) (·.Nodup) where
  arr _ := Iff.rfl
  obj _ := by simp only [JVal.noDupKeys, Bool.and_eq_true, noDupIn_iff_nodup]
  list xs := by induction xs <;> simp [jNoDupList, *]
  members kvs := by induction kvs <;> simp [jNoDupMembers, *]

end V.Json
