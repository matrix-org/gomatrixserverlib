/- `bytesLt` is the lexicographic order of core (`List`'s `<`), a strict total order; the insertion sort by key of the
   JSON model is an instance of `IsInsSort` (VProofs/InsSort.lean), so for distinct keys its result does not depend on
   the order members were given in, nor on the sorting algorithm the Go code uses. -/
import VModel.Json
import VProofs.Assoc
import VProofs.InsSort
namespace V.Json
open List V.StateRes

theorem bytesLt_iff : ∀ a b : Bytes, bytesLt a b = true ↔ a < b
  | [], [] => by simp [bytesLt]
  | [], _ :: _ => by simp [bytesLt]
  | _ :: _, [] => by simp [bytesLt]
  | x :: xs, y :: ys => by
    rw [bytesLt, List.cons_lt_cons_iff, ← bytesLt_iff xs ys]
    by_cases h1 : x < y
    · simp [h1]
    · by_cases h2 : y < x
      · have : x ≠ y := fun e => by subst e; exact h1 h2
        simp [h1, h2, this]
      · have : x = y := UInt8.le_antisymm (UInt8.not_lt.mp h2) (UInt8.not_lt.mp h1)
        simp [this]

theorem bytesLt_eq_false {a b : Bytes} : bytesLt a b = false ↔ b ≤ a := by
  rw [← List.not_lt, ← bytesLt_iff, Bool.not_eq_true]

theorem bytesLt_irrefl (a : Bytes) : bytesLt a a = false := bytesLt_eq_false.mpr (List.le_refl a)

theorem bytesLt_trans (a b c : Bytes) (h1 : bytesLt a b = true) (h2 : bytesLt b c = true) : bytesLt a c = true :=
  (bytesLt_iff a c).mpr (List.lt_trans ((bytesLt_iff a b).mp h1) ((bytesLt_iff b c).mp h2))

theorem bytesLt_total (a b : Bytes) (h1 : bytesLt a b = false) (h2 : bytesLt b a = false) : a = b :=
  List.le_antisymm (bytesLt_eq_false.mp h2) (bytesLt_eq_false.mp h1)

theorem bytesLt_strictTotal : StrictTotal bytesLt := ⟨bytesLt_irrefl, bytesLt_trans, bytesLt_total⟩

variable {α : Type}

theorem isInsSort : IsInsSort (fun a b : Bytes × α => bytesLt a.1 b.1) insertByKey sortByKey :=
  ⟨fun _ => rfl, fun _ _ _ => rfl, rfl, fun _ _ => rfl⟩

/-- `a` may come before `b`. -/
def KeyLe (a b : Bytes × α) : Prop := bytesLt b.1 a.1 = false

theorem sortByKey_perm : ∀ l : List (Bytes × α), sortByKey l ~ l := isInsSort.perm

theorem sortByKey_sorted : ∀ l : List (Bytes × α), (sortByKey l).Pairwise KeyLe :=
  isInsSort.sorted (k := (·.1)) (fun _ _ => rfl) bytesLt_strictTotal

def NodupKeys (l : List (Bytes × α)) : Prop := (l.map (·.1)).Nodup

theorem nodupKeys_iff_nodup {l : List (Bytes × α)} : NodupKeys l ↔ (Assoc.keys l).Nodup := Iff.rfl

theorem noDupIn_iff_nodup (ks : List Bytes) : noDupIn ks = true ↔ ks.Nodup := by
  induction ks with
  | nil => simp [noDupIn]
  | cons k ks ih =>
    simp only [noDupIn, Bool.and_eq_true, Bool.not_eq_true', List.contains_eq_mem, decide_eq_false_iff_not,
      List.nodup_cons, ih]

theorem noDupIn_cons {k : Bytes} {ks : List Bytes} (h : noDupIn (k :: ks) = true) : k ∉ ks ∧ noDupIn ks = true := by
  simpa only [noDupIn, Bool.and_eq_true, Bool.not_eq_true', List.contains_eq_mem, decide_eq_false_iff_not] using h

theorem sortByKey_unique {l₁ l₂ : List (Bytes × α)} (hp : l₁ ~ l₂) (hn : NodupKeys l₁) :
    sortByKey l₁ = sortByKey l₂ :=
  isInsSort.unique (k := (·.1)) (fun _ _ => rfl) bytesLt_strictTotal hp (KeyInj.of_nodup hn)

/-- Strictly increasing keys in the byte order `bytesLt`: sorted, and no duplicates. -/
def StrictSorted (l : List (Bytes × α)) : Prop := l.Pairwise (fun a b => bytesLt a.1 b.1 = true)

theorem sortByKey_strict {l : List (Bytes × α)} (hn : NodupKeys l) : StrictSorted (sortByKey l) :=
  isInsSort.strict (k := (·.1)) (fun _ _ => rfl) bytesLt_strictTotal hn

theorem sortByKey_of_strict {l : List (Bytes × α)} (h : StrictSorted l) : sortByKey l = l :=
  isInsSort.of_strict (k := (·.1)) (fun _ _ => rfl) h

end V.Json
