/- Everything the parser returns: the successful runs of `parseValue` as a relation (`Parsed`), over
   which the later files argue; the number literals of a parsed value are grammatical; its duplicate-key
   predicate agrees with the value-level one, its enforced-number predicate is `all numOk` over its literals. -/
import VProofs.JsonStr
import VProofs.JsonNum
namespace V.Json

theorem toJVals_append : ∀ (a b : List PVal), toJVals (a ++ b) = toJVals a ++ toJVals b
  | [], _ => rfl
  | x :: a, b => by simp only [List.cons_append, toJVals, toJVals_append a b]

theorem toJMembers_append : ∀ (a b : List (Bytes × Bytes × PVal)), toJMembers (a ++ b) = toJMembers a ++ toJMembers b
  | [], _ => rfl
  | (r, d, v) :: a, b => by simp only [List.cons_append, toJMembers, toJMembers_append a b]

theorem numsOkList_append : ∀ (a b : List JVal), numsOkList (a ++ b) = (numsOkList a && numsOkList b)
  | [], _ => by simp [numsOkList]
  | x :: a, b => by simp only [List.cons_append, numsOkList, numsOkList_append a b, Bool.and_assoc]

theorem numsOkMembers_append : ∀ (a b : List (Bytes × JVal)), numsOkMembers (a ++ b) = (numsOkMembers a && numsOkMembers b)
  | [], _ => by simp [numsOkMembers]
  | (k, v) :: a, b => by simp only [List.cons_append, numsOkMembers, numsOkMembers_append a b, Bool.and_assoc]

mutual
/-- `Parsed s p rest`: after leading whitespace, `s` starts with a JSON text that reads as `p`, and
    `rest` is what follows it.  Every successful run of `parseValue` is one (`Parsed.of_parseValue`), freed of
    fuel and accumulators, so that facts about everything the parser returns are proved by induction over the
    derivation: argue by `Parsed.rec` with its three motives. -/
inductive Parsed : Bytes → PVal → Bytes → Prop
  | null {s rest} : skipWs s = 0x6E :: 0x75 :: 0x6C :: 0x6C :: rest → Parsed s .null rest
  | btrue {s rest} : skipWs s = 0x74 :: 0x72 :: 0x75 :: 0x65 :: rest → Parsed s (.bool true) rest
  | bfalse {s rest} : skipWs s = 0x66 :: 0x61 :: 0x6C :: 0x73 :: 0x65 :: rest → Parsed s (.bool false) rest
  | num {s c r lit rest} : skipWs s = c :: r → parseNumber (c :: r) = some (lit, rest) → Parsed s (.num lit) rest
  | str {s r raw dec rest} : skipWs s = 0x22 :: r → StrBody r raw dec rest → Parsed s (.str raw dec) rest
  | arrNil {s r rest} : skipWs s = 0x5B :: r → skipWs r = 0x5D :: rest → Parsed s (.arr []) rest
  | arr {s r xs rest} : skipWs s = 0x5B :: r → ParsedElems (skipWs r) xs rest → Parsed s (.arr xs) rest
  | objNil {s r rest} : skipWs s = 0x7B :: r → skipWs r = 0x7D :: rest → Parsed s (.obj []) rest
  | obj {s r kvs rest} : skipWs s = 0x7B :: r → ParsedMembers (skipWs r) kvs rest → Parsed s (.obj kvs) rest
/-- The elements of a non-empty array, up to and including the closing bracket. -/
inductive ParsedElems : Bytes → List PVal → Bytes → Prop
  | last {s v r rest} : Parsed s v r → skipWs r = 0x5D :: rest → ParsedElems s [v] rest
  | more {s v r r' xs rest} : Parsed s v r → skipWs r = 0x2C :: r' → ParsedElems r' xs rest →
      ParsedElems s (v :: xs) rest
/-- The members of a non-empty object, up to and including the closing brace. -/
inductive ParsedMembers : Bytes → List (Bytes × Bytes × PVal) → Bytes → Prop
  | lastM {s r0 raw dec r1 r2 v r3 rest} : skipWs s = 0x22 :: r0 → StrBody r0 raw dec r1 → skipWs r1 = 0x3A :: r2 →
      Parsed r2 v r3 → skipWs r3 = 0x7D :: rest → ParsedMembers s [(raw, dec, v)] rest
  | moreM {s r0 raw dec r1 r2 v r3 r4 kvs rest} : skipWs s = 0x22 :: r0 → StrBody r0 raw dec r1 → skipWs r1 = 0x3A :: r2 →
      Parsed r2 v r3 → skipWs r3 = 0x2C :: r4 → ParsedMembers r4 kvs rest →
      ParsedMembers s ((raw, dec, v) :: kvs) rest
end

/-- What `parseElems` returns: the accumulator followed by the elements read. -/
def ElemsRun (f : Nat) : Prop := ∀ {s acc p rest}, parseElems f s acc = some (p, rest) →
  ∃ xs, p = .arr (acc ++ xs) ∧ ParsedElems s xs rest
def MembersRun (f : Nat) : Prop := ∀ {s acc p rest}, parseMembers f s acc = some (p, rest) →
  ∃ kvs, p = .obj (acc ++ kvs) ∧ ParsedMembers s kvs rest
def ValueRun (f : Nat) : Prop := ∀ {s p rest}, parseValue f s = some (p, rest) → Parsed s p rest

/- The three steps walk down the parser's `if`/`match` cascade by rewriting with the branch taken.  After a
   scrutinee is replaced by a constructor, `simp only [reduceCtorEq] at h` reduces the `match` and closes the goal
   when the branch is `none`. -/

theorem valueRun_succ {f : Nat} (hE : ElemsRun f) (hM : MembersRun f) : ValueRun (f + 1) := by
  intro s p rest h
  rw [parseValue] at h
  generalize hs : skipWs s = w at h
  rcases w with _ | ⟨c, r⟩ <;> simp only [reduceCtorEq] at h
  replace h := Guard.ite_cases h
  rcases h with ⟨hc, h⟩ | ⟨-, h⟩
  · cases eq_of_beq hc
    generalize hs2 : skipWs r = w at h
    rcases w with _ | ⟨c2, r2⟩ <;> simp only [reduceCtorEq] at h
    replace h := Guard.ite_cases h
    rcases h with ⟨hc2, h⟩ | ⟨-, h⟩
    · cases eq_of_beq hc2; cases h; exact .objNil hs hs2
    · obtain ⟨kvs, rfl, hk⟩ := hM h; exact .obj hs (hs2 ▸ hk)
  replace h := Guard.ite_cases h
  rcases h with ⟨hc, h⟩ | ⟨-, h⟩
  · cases eq_of_beq hc
    generalize hs2 : skipWs r = w at h
    rcases w with _ | ⟨c2, r2⟩ <;> simp only [reduceCtorEq] at h
    replace h := Guard.ite_cases h
    rcases h with ⟨hc2, h⟩ | ⟨-, h⟩
    · cases eq_of_beq hc2; cases h; exact .arrNil hs hs2
    · obtain ⟨xs, rfl, hx⟩ := hE h; exact .arr hs (hs2 ▸ hx)
  replace h := Guard.ite_cases h
  rcases h with ⟨hc, h⟩ | ⟨-, h⟩
  · cases eq_of_beq hc
    rcases hp : parseString (r.length + 1) r [] [] with _ | ⟨raw, dec, r'⟩ <;> rw [hp] at h <;> cases h
    exact .str hs (.of_parse hp)
  replace h := Guard.ite_cases h
  rcases h with ⟨hc, h⟩ | ⟨-, h⟩
  · cases eq_of_beq hc
    rcases r with _ | ⟨r, _ | ⟨u, _ | ⟨e, r'⟩⟩⟩ <;> try cases h
    replace h := Guard.some_of_else_none h
    obtain ⟨hl, h⟩ := h
    simp only [Bool.and_eq_true, beq_iff_eq] at hl
    obtain ⟨⟨rfl, rfl⟩, rfl⟩ := hl
    cases h; exact .btrue hs
  replace h := Guard.ite_cases h
  rcases h with ⟨hc, h⟩ | ⟨-, h⟩
  · cases eq_of_beq hc
    rcases r with _ | ⟨a, _ | ⟨l, _ | ⟨s', _ | ⟨e, r'⟩⟩⟩⟩ <;> try cases h
    replace h := Guard.some_of_else_none h
    obtain ⟨hl, h⟩ := h
    simp only [Bool.and_eq_true, beq_iff_eq] at hl
    obtain ⟨⟨⟨rfl, rfl⟩, rfl⟩, rfl⟩ := hl
    cases h; exact .bfalse hs
  replace h := Guard.ite_cases h
  rcases h with ⟨hc, h⟩ | ⟨-, h⟩
  · cases eq_of_beq hc
    rcases r with _ | ⟨u, _ | ⟨l, _ | ⟨l', r'⟩⟩⟩ <;> try cases h
    replace h := Guard.some_of_else_none h
    obtain ⟨hl, h⟩ := h
    simp only [Bool.and_eq_true, beq_iff_eq] at hl
    obtain ⟨⟨rfl, rfl⟩, rfl⟩ := hl
    cases h; exact .null hs
  replace h := Guard.some_of_else_none h
  obtain ⟨-, h⟩ := h
  rcases hp : parseNumber (c :: r) with _ | ⟨lit, r'⟩ <;> rw [hp] at h <;> cases h
  exact .num hs hp

theorem elemsRun_succ {f : Nat} (hV : ValueRun f) (hE : ElemsRun f) : ElemsRun (f + 1) := by
  intro s acc p rest h
  rw [parseElems] at h
  generalize hv : parseValue f s = w at h
  rcases w with _ | ⟨v, r⟩ <;> simp only [reduceCtorEq] at h
  generalize hs : skipWs r = w at h
  rcases w with _ | ⟨d, r'⟩ <;> simp only [reduceCtorEq] at h
  replace h := Guard.ite_cases h
  rcases h with ⟨hd, h⟩ | ⟨-, h⟩
  · cases eq_of_beq hd
    obtain ⟨xs, rfl, hx⟩ := hE h
    exact ⟨v :: xs, by rw [List.append_assoc]; rfl, .more (hV hv) hs hx⟩
  replace h := Guard.some_of_else_none h
  obtain ⟨hd, h⟩ := h
  cases eq_of_beq hd; cases h
  exact ⟨[v], rfl, .last (hV hv) hs⟩

theorem membersRun_succ {f : Nat} (hV : ValueRun f) (hM : MembersRun f) : MembersRun (f + 1) := by
  intro s acc p rest h
  rw [parseMembers] at h
  generalize hs : skipWs s = w at h
  rcases w with _ | ⟨q, r0⟩ <;> simp only [reduceCtorEq] at h
  replace h := Guard.some_of_else_none h
  obtain ⟨hq, h⟩ := h
  cases eq_of_beq hq
  generalize hp : parseString (r0.length + 1) r0 [] [] = w at h
  rcases w with _ | ⟨raw, dec, r1⟩ <;> simp only [reduceCtorEq] at h
  generalize hs1 : skipWs r1 = w at h
  rcases w with _ | ⟨col, r2⟩ <;> simp only [reduceCtorEq] at h
  replace h := Guard.some_of_else_none h
  obtain ⟨hcol, h⟩ := h
  cases eq_of_beq hcol
  generalize hv : parseValue f r2 = w at h
  rcases w with _ | ⟨v, r3⟩ <;> simp only [reduceCtorEq] at h
  generalize hs3 : skipWs r3 = w at h
  rcases w with _ | ⟨d, r4⟩ <;> simp only [reduceCtorEq] at h
  replace h := Guard.ite_cases h
  rcases h with ⟨hd, h⟩ | ⟨-, h⟩
  · cases eq_of_beq hd
    obtain ⟨kvs, rfl, hk⟩ := hM h
    exact ⟨(raw, dec, v) :: kvs, by rw [List.append_assoc]; rfl, .moreM hs (.of_parse hp) hs1 (hV hv) hs3 hk⟩
  replace h := Guard.some_of_else_none h
  obtain ⟨hd, h⟩ := h
  cases eq_of_beq hd; cases h
  exact ⟨[(raw, dec, v)], rfl, .lastM hs (.of_parse hp) hs1 (hV hv) hs3⟩

theorem parser_runs : ∀ f, ValueRun f ∧ ElemsRun f ∧ MembersRun f
  | 0 => ⟨fun h => by simp [parseValue] at h, fun h => by simp [parseElems] at h,
          fun h => by simp [parseMembers] at h⟩
  | f + 1 =>
    have ih := parser_runs f
    ⟨valueRun_succ ih.2.1 ih.2.2, elemsRun_succ ih.1 ih.2.1, membersRun_succ ih.1 ih.2.2⟩

theorem Parsed.of_parseValue {f : Nat} {s : Bytes} {p : PVal} {rest : Bytes}
    (h : parseValue f s = some (p, rest)) : Parsed s p rest := (parser_runs f).1 h

theorem Parsed.of_parse {t : Bytes} {p : PVal} (hp : parse t = some p) :
    ∃ rest, Parsed t p rest ∧ skipWs rest = [] := by
  unfold parse at hp
  rcases hv : parseValue (t.length + 1) t with _ | ⟨v, rest⟩ <;> rw [hv] at hp
  · cases hp
  rcases Guard.ite_cases hp with ⟨hr, hp⟩ | ⟨-, hp⟩ <;> cases hp
  exact ⟨rest, .of_parseValue hv, List.isEmpty_iff.mp hr⟩

/-! ### every number literal of a parsed text is grammatical -/

theorem Parsed.numsOk {s p rest} (h : Parsed s p rest) : p.toJVal.numsOk = true := by
  apply Parsed.rec (t := h) (motive_1 := fun _ p _ _ => p.toJVal.numsOk = true)
    (motive_2 := fun _ xs _ _ => numsOkList (toJVals xs) = true)
    (motive_3 := fun _ kvs _ _ => numsOkMembers (toJMembers kvs) = true)
  case num => exact fun _ hp => parseNumber_isNumLit hp
  case arr | obj => exact fun _ _ ih => ih
  case last => exact fun _ _ ih => by simp only [toJVals, numsOkList, ih, Bool.and_self]
  case more => exact fun _ _ _ ih iht => by simp only [toJVals, numsOkList, ih, iht, Bool.and_self]
  case lastM => exact fun _ _ _ _ _ ih => by simp only [toJMembers, numsOkMembers, ih, Bool.and_self]
  case moreM => exact fun _ _ _ _ _ _ ih iht => by simp only [toJMembers, numsOkMembers, ih, iht, Bool.and_self]
  all_goals intros; rfl

theorem parse_numsOk {t : Bytes} {p : PVal} (hp : parse t = some p) : p.toJVal.numsOk = true :=
  let ⟨_, h, _⟩ := Parsed.of_parse hp; h.numsOk

/-! ### duplicate keys: `PVal` vs `JVal`; enforced numbers as `all numOk` over the literals -/

theorem toJMembers_keys : ∀ kvs : List (Bytes × Bytes × PVal), (toJMembers kvs).map (·.1) = kvs.map (·.2.1)
  | [] => rfl
  | (r, d, v) :: kvs => by simp only [toJMembers, List.map_cons, toJMembers_keys kvs]

mutual
theorem noDupKeys_toJVal : (p : PVal) → p.toJVal.noDupKeys = p.noDupKeys
  | .null => rfl
  | .bool _ => rfl
  | .num _ => rfl
  | .str _ _ => rfl
  | .arr xs => by simp only [PVal.toJVal, JVal.noDupKeys, PVal.noDupKeys, noDupKeys_toJVals xs]
  | .obj kvs => by
    simp only [PVal.toJVal, JVal.noDupKeys, PVal.noDupKeys, noDupKeys_toJMembers kvs, toJMembers_keys]
theorem noDupKeys_toJVals : (xs : List PVal) → jNoDupList (toJVals xs) = noDupKeysList xs
  | [] => rfl
  | x :: xs => by simp only [toJVals, jNoDupList, noDupKeysList, noDupKeys_toJVal x, noDupKeys_toJVals xs]
theorem noDupKeys_toJMembers : (kvs : List (Bytes × Bytes × PVal)) → jNoDupMembers (toJMembers kvs) = noDupKeysMembers kvs
  | [] => rfl
  | (r, d, v) :: kvs => by
    simp only [toJMembers, jNoDupMembers, noDupKeysMembers, noDupKeys_toJVal v, noDupKeys_toJMembers kvs]
end

mutual
theorem numbersOk_eq_all : (p : PVal) → p.numbersOk = p.numbers.all numOk
  | .null => rfl
  | .bool _ => rfl
  | .num raw => by simp [PVal.numbersOk, PVal.numbers]
  | .str _ _ => rfl
  | .arr xs => by simp only [PVal.numbersOk, PVal.numbers, numbersOkList_eq_all xs]
  | .obj kvs => by simp only [PVal.numbersOk, PVal.numbers, numbersOkMembers_eq_all kvs]
theorem numbersOkList_eq_all : (xs : List PVal) → numbersOkList xs = (numbersList xs).all numOk
  | [] => rfl
  | x :: xs => by
    simp only [numbersOkList, numbersList, List.all_append, numbersOk_eq_all x, numbersOkList_eq_all xs]
theorem numbersOkMembers_eq_all : (kvs : List (Bytes × Bytes × PVal)) → numbersOkMembers kvs = (numbersMembers kvs).all numOk
  | [] => rfl
  | (r, d, v) :: kvs => by
    simp only [numbersOkMembers, numbersMembers, List.all_append, numbersOk_eq_all v, numbersOkMembers_eq_all kvs]
end

end V.Json
