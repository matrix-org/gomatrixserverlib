/-
  Version 1 state resolution: the slot-map facts of StateResV1b for the model's own constants (`V1State.lookup`,
  `V1State.WF`); `V1State.Sim` (equal lookups) is a congruence for everything the resolver does, and the auth verdict `v1Allowed`
  depends on a well-formed state only through its lookups; `V1State.Eqv` (equal lookups, both well formed) is the relation
  the block and phase lemmas are stated with.
-/
import VProofs.StateResV1b
import VProofs.AuthLookup
namespace V.StateRes
open Auth

theorem d5 : D5 b!"m.room.create" b!"m.room.power_levels" b!"m.room.join_rules" b!"m.room.member" b!"m.room.third_party_invite" :=
  ⟨ne_create_pl, ne_create_jr, ne_create_member, ne_create_tpi, ne_pl_jr, ne_pl_member, ne_pl_tpi, ne_jr_member, ne_jr_tpi,
    ne_member_tpi⟩

/-- what the resolver answers for the slot (t, k): `Create()`, `PowerLevels()`, `JoinRules()` (k = ""), `Member(k)`,
    `ThirdPartyInvite(k)`; `none` for every other (t, k) -/
def V1State.lookup (s : V1State) (t k : Bytes) : Option Event :=
  lookupG b!"m.room.create" b!"m.room.power_levels" b!"m.room.join_rules" b!"m.room.member" b!"m.room.third_party_invite" s t k

/-- (t, k) is one of the slots the resolver keeps -/
def isAuthSlot (t k : Bytes) : Prop :=
  isAuthSlotG b!"m.room.create" b!"m.room.power_levels" b!"m.room.join_rules" b!"m.room.member" b!"m.room.third_party_invite" t k

theorem isAuthSlot_iff (t k : Bytes) : isAuthSlot t k ↔
    ((t = b!"m.room.create" ∧ k = []) ∨ (t = b!"m.room.power_levels" ∧ k = []) ∨ (t = b!"m.room.join_rules" ∧ k = []) ∨
      t = b!"m.room.member" ∨ t = b!"m.room.third_party_invite") := Iff.rfl

/-- `addAuthEvent e` stores `e` under the slot (t, k): `e` is a state event of that slot and the slot is kept -/
def authEff (e : Event) (t k : Bytes) : Prop := e.stateKey = some k ∧ e.type = t ∧ isAuthSlot t k

instance (e : Event) (t k : Bytes) : Decidable (authEff e t k) :=
  inferInstanceAs (Decidable (authEffG _ _ _ _ _ e t k))

/-- representation invariant (`V1State.WF.iff`) -/
def V1State.WF (s : V1State) : Prop :=
  WFG b!"m.room.create" b!"m.room.power_levels" b!"m.room.join_rules" b!"m.room.member" b!"m.room.third_party_invite" s

theorem V1State.WF.iff (s : V1State) : s.WF ↔
    ((∀ e, s.create = some e → e.type = b!"m.room.create" ∧ e.stateKey = some []) ∧
     (∀ e, s.pl = some e → e.type = b!"m.room.power_levels" ∧ e.stateKey = some []) ∧
     (∀ e, s.jr = some e → e.type = b!"m.room.join_rules" ∧ e.stateKey = some []) ∧
     (∀ x ∈ s.members, ∀ e, x.2 = some e → e.type = b!"m.room.member" ∧ e.stateKey = some x.1) ∧
     (∀ x ∈ s.tpis, ∀ e, x.2 = some e → e.type = b!"m.room.third_party_invite" ∧ e.stateKey = some x.1) ∧
     (s.members.map (·.1)).Nodup ∧ (s.tpis.map (·.1)).Nodup) :=
  ⟨fun h => ⟨h.create, h.pl, h.jr, h.members, h.tpis, h.membersKeys, h.tpisKeys⟩,
   fun ⟨a, b, c, d, e, f, g⟩ => ⟨a, b, c, d, e, f, g⟩⟩

theorem addAuthEvent_eq (s : V1State) (e : Event) : s.addAuthEvent e =
    addG b!"m.room.create" b!"m.room.power_levels" b!"m.room.join_rules" b!"m.room.member" b!"m.room.third_party_invite" s e := rfl

theorem removeAuthEvent_eq (s : V1State) (t k : Bytes) : s.removeAuthEvent t k =
    removeG b!"m.room.create" b!"m.room.power_levels" b!"m.room.join_rules" b!"m.room.member" b!"m.room.third_party_invite" s t k := rfl

theorem V1State.WF.empty : ({} : V1State).WF := WFG.empty

theorem V1State.WF.addAuthEvent {s : V1State} (h : s.WF) (e : Event) : (s.addAuthEvent e).WF := WFG.addG h e

theorem V1State.WF.removeAuthEvent {s : V1State} (h : s.WF) (t k : Bytes) : (s.removeAuthEvent t k).WF := WFG.removeG h t k

theorem lookup_empty (t k : Bytes) : ({} : V1State).lookup t k = none := lookupG_empty t k

theorem lookup_none_of_not_slot {s : V1State} {t k : Bytes} (h : ¬ isAuthSlot t k) : s.lookup t k = none :=
  lookupG_none_of_not_slot h

theorem lookup_addAuthEvent (s : V1State) (e : Event) (t k : Bytes) :
    (s.addAuthEvent e).lookup t k = if authEff e t k then some e else s.lookup t k := by
  split
  · rename_i h; exact lookupG_addG_eff d5 s h
  · rename_i h; exact lookupG_addG_not s h

theorem lookup_removeAuthEvent (s : V1State) (t0 k0 t k : Bytes) :
    (s.removeAuthEvent t0 k0).lookup t k = if t = t0 ∧ k = k0 then none else s.lookup t k :=
  lookupG_removeG s t0 k0 t k

/-- WF is needed: the provider searches a flat event list by the events' own (type, state_key), the lookup goes by slot. -/
theorem provider_get {s : V1State} (h : s.WF) (valid : Bool) (t k : Bytes) : (s.provider valid).get t k = s.lookup t k :=
  provider_getG d5 h valid t k

theorem V1State.authEventAt_eq_lookup (s : V1State) (t k : Bytes) : s.authEventAt t k = s.lookup t k := by
  unfold V1State.authEventAt V1State.lookup lookupG lookupOpt
  simp only [beq_iff_eq, List.isEmpty_iff]

/-- what is found under a slot `addAuthEvent` stores there again (`lookup_addAuthEvent`).  WF: a slot could otherwise hold
    an event of another type / state key. -/
theorem lookup_some_authEff {s : V1State} (h : s.WF) {t k : Bytes} {p : Event} (hl : s.lookup t k = some p) : authEff p t k :=
  lookupG_some_eff h hl

theorem authEff_key {e : Event} {t k : Bytes} (h : authEff e t k) : e.stateKey.isSome ∧ keyOf e = (t, k) := by
  obtain ⟨h1, h2, _⟩ := h
  unfold keyOf; rw [h1, h2]; exact ⟨rfl, rfl⟩

theorem lookup_addAuthEvent_ne (s : V1State) (e : Event) {t k : Bytes} (h : keyOf e ≠ (t, k)) :
    (s.addAuthEvent e).lookup t k = s.lookup t k := by
  rw [lookup_addAuthEvent, if_neg]
  intro hh; exact h (authEff_key hh).2

/-- the two states answer every slot lookup alike -/
def V1State.Sim (s s' : V1State) : Prop := ∀ t k, s.lookup t k = s'.lookup t k

theorem V1State.sim_iff (s s' : V1State) : s.Sim s' ↔
    (s.create = s'.create ∧ s.pl = s'.pl ∧ s.jr = s'.jr ∧ (∀ k, lookupOpt s.members k = lookupOpt s'.members k) ∧
      (∀ k, lookupOpt s.tpis k = lookupOpt s'.tpis k)) := by
  constructor
  · intro h
    refine ⟨?_, ?_, ?_, ?_, ?_⟩
    · exact h b!"m.room.create" []
    · exact h b!"m.room.power_levels" []
    · exact h b!"m.room.join_rules" []
    · intro k; exact h b!"m.room.member" k
    · intro k; exact h b!"m.room.third_party_invite" k
  · rintro ⟨h1, h2, h3, h4, h5⟩ t k
    unfold V1State.lookup lookupG
    rw [h1, h2, h3, h4, h5]

theorem V1State.Sim.refl (s : V1State) : s.Sim s := fun _ _ => rfl
theorem V1State.Sim.symm {s s' : V1State} (h : s.Sim s') : s'.Sim s := fun t k => (h t k).symm
theorem V1State.Sim.trans {s s' s'' : V1State} (h : s.Sim s') (h' : s'.Sim s'') : s.Sim s'' := fun t k => (h t k).trans (h' t k)

theorem V1State.Sim.addAuthEvent {s s' : V1State} (h : s.Sim s') (e : Event) : (s.addAuthEvent e).Sim (s'.addAuthEvent e) := by
  intro t k; rw [lookup_addAuthEvent, lookup_addAuthEvent, h t k]

theorem V1State.Sim.removeAuthEvent {s s' : V1State} (h : s.Sim s') (t0 k0 : Bytes) :
    (s.removeAuthEvent t0 k0).Sim (s'.removeAuthEvent t0 k0) := by
  intro t k; rw [lookup_removeAuthEvent, lookup_removeAuthEvent, h t k]

/-- `h`: two events of the same slot overwrite each other, so the later one wins. -/
theorem addAuthEvent_comm (s : V1State) {a b : Event} (h : keyOf a ≠ keyOf b) :
    ((s.addAuthEvent a).addAuthEvent b).Sim ((s.addAuthEvent b).addAuthEvent a) := by
  intro t k
  simp only [lookup_addAuthEvent]
  by_cases ha : authEff a t k
  · by_cases hb : authEff b t k
    · exact absurd ((authEff_key ha).2.trans (authEff_key hb).2.symm) h
    · simp [ha, hb]
  · simp [ha]

theorem v1Allowed_congr {s s' : V1State} (hw : s.WF) (hw' : s'.WF) (h : s.Sim s') (valid : Bool) (e : Event) :
    v1Allowed s valid e = v1Allowed s' valid e := by
  unfold v1Allowed
  rw [allowedFresh_gets_congr e (s.provider valid) (s'.provider valid) false ?_ rfl]
  intro t k
  rw [provider_get hw, provider_get hw', h t k]

/-- equal lookups and both well formed: what the resolver cannot tell apart (`allowed`) -/
structure V1State.Eqv (s s' : V1State) : Prop where
  wf : s.WF
  wf' : s'.WF
  sim : s.Sim s'

namespace V1State.Eqv
variable {s s' s'' : V1State}

theorem refl (h : s.WF) : s.Eqv s := ⟨h, h, .refl s⟩
theorem symm (h : s.Eqv s') : s'.Eqv s := ⟨h.wf', h.wf, h.sim.symm⟩
theorem trans (h : s.Eqv s') (h' : s'.Eqv s'') : s.Eqv s'' := ⟨h.wf, h'.wf', h.sim.trans h'.sim⟩

theorem addAuthEvent (h : s.Eqv s') (e : Event) : (s.addAuthEvent e).Eqv (s'.addAuthEvent e) :=
  ⟨h.wf.addAuthEvent e, h.wf'.addAuthEvent e, h.sim.addAuthEvent e⟩

theorem removeAuthEvent (h : s.Eqv s') (t k : Bytes) : (s.removeAuthEvent t k).Eqv (s'.removeAuthEvent t k) :=
  ⟨h.wf.removeAuthEvent t k, h.wf'.removeAuthEvent t k, h.sim.removeAuthEvent t k⟩

theorem allowed (h : s.Eqv s') (valid : Bool) (e : Event) : v1Allowed s valid e = v1Allowed s' valid e :=
  v1Allowed_congr h.wf h.wf' h.sim valid e

end V1State.Eqv

end V.StateRes
