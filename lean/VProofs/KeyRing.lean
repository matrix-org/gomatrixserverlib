/- The key ring model (C12; also used by C06Ring, C13Ring, ConcVerify and C19): its association lists through `V.Assoc`, the folds
   of `verifyJSONs` (pruning the database answer, merging a fetcher's answer, the fetcher loop, the request map), and its
   phases by name (`afterDB`, `results1`, `finalState`, `okWith`), in which C12 states its theorems. -/
import VModel.KeyRing
import VProofs.Assoc
import VProofs.Lists
namespace V.KeyRing
open List

namespace AList
variable {α β : Type} [DecidableEq α]

theorem lookup_eq (k : α) (m : List (α × β)) : lookup k m = Assoc.lookup m k := by
  induction m with
  | nil => rfl
  | cons e rest ih => rw [Assoc.lookup_cons, Assoc.ite_beq, ← ih]; rfl

theorem erase_eq (k : α) (m : List (α × β)) : erase k m = Assoc.erase m k := by
  induction m with
  | nil => rfl
  | cons e rest ih =>
    obtain ⟨k', v⟩ := e
    unfold Assoc.erase at ih ⊢
    by_cases h : k' = k
    · rw [erase, if_pos h, List.filter_cons_of_neg (by simpa using h), ih]
    · rw [erase, if_neg h, List.filter_cons_of_pos (by simpa using h), ih]

theorem lookup_erase (k k' : α) (m : List (α × β)) : lookup k' (erase k m) = if k' = k then none else lookup k' m := by
  rw [lookup_eq, erase_eq, Assoc.lookup_erase, Assoc.ite_beq, lookup_eq]

theorem mem_erase {k : α} {e : α × β} {m : List (α × β)} (h : e ∈ erase k m) : e ∈ m ∧ e.1 ≠ k := by
  rw [erase_eq] at h
  exact Assoc.mem_erase.mp h

/-- `insert` overwrites the first entry under `k` only (entries under one key are not assumed unique here) -/
theorem lookup_insert (k k' : α) (v : β) (m : List (α × β)) :
    lookup k' (insert k v m) = if k = k' then some v else lookup k' m := by
  induction m with
  | nil => rfl
  | cons e rest ih =>
    obtain ⟨k₂, v₂⟩ := e
    by_cases h2 : k₂ = k
    · subst h2
      by_cases hk : k₂ = k' <;> simp [insert, lookup, hk]
    · by_cases hk : k = k'
      · subst hk; simp [insert, lookup, h2, ih]
      · simp [insert, lookup, h2, hk, ih]

theorem lookup_insert_self (k : α) (v : β) (m : List (α × β)) : lookup k (insert k v m) = some v := by
  rw [lookup_insert, if_pos rfl]

theorem lookup_insert_ne {k k' : α} (v : β) (m : List (α × β)) (h : k' ≠ k) : lookup k' (insert k v m) = lookup k' m := by
  rw [lookup_insert, if_neg (Ne.symm h)]

theorem mem_insert {k : α} {v : β} {e : α × β} {m : List (α × β)} (h : e ∈ insert k v m) : e = (k, v) ∨ e ∈ m := by
  induction m with
  | nil => exact Or.inl (List.mem_singleton.mp h)
  | cons x rest ih =>
    obtain ⟨k', v'⟩ := x
    unfold insert at h
    split at h
    · exact (List.mem_cons.mp h).imp id (List.mem_cons_of_mem _)
    · rcases List.mem_cons.mp h with rfl | h
      · exact Or.inr List.mem_cons_self
      · exact (ih h).imp id (List.mem_cons_of_mem _)

theorem lookup_isSome_of_mem {k : α} {v : β} {m : List (α × β)} (h : (k, v) ∈ m) : (lookup k m).isSome = true := by
  rw [lookup_eq]
  exact Assoc.isSome_lookup.mpr (List.mem_map_of_mem h)

theorem ne_of_lookup_none {k : α} {m : List (α × β)} (h : lookup k m = none) : ∀ e ∈ m, e.1 ≠ k :=
  fun _ he hk => Assoc.lookup_eq_none.mp ((lookup_eq k m).symm.trans h) (hk ▸ List.mem_map_of_mem he)

theorem lookup_of_mem_nodup {k : α} {v : β} {m : List (α × β)} (hn : (m.map Prod.fst).Nodup) (h : (k, v) ∈ m) :
    lookup k m = some v :=
  (lookup_eq k m).trans ((Assoc.lookup_eq_some_iff hn).mpr h)

end AList

theorem strictValidity_iff (t vu now : Nat) :
    strictValidity t vu now = true ↔ vu ≠ 0 ∧ t ≤ min vu (now + sevenDaysMs) := by
  unfold strictValidity
  by_cases hv : vu = 0
  · simp [hv]
  · -- the capped validity is the minimum
    have hcap : (if vu > now + sevenDaysMs then now + sevenDaysMs else vu) = min vu (now + sevenDaysMs) := by
      rw [Nat.min_def]
      by_cases h : vu ≤ now + sevenDaysMs
      · rw [if_pos h, if_neg (Nat.not_lt.mpr h)]
      · rw [if_neg h, if_pos (Nat.lt_of_not_le h)]
    rw [if_neg hv]
    simp only [hcap]
    constructor
    · intro h
      refine ⟨hv, Nat.le_of_not_lt fun hlt => ?_⟩
      rw [if_pos hlt] at h
      cases h
    · intro h
      rw [if_neg (Nat.not_lt.mpr h.2)]

/-- `WasValidAt` is the property's validity clause. -/
theorem wasValidAt_iff (k : KeyRes) (t : Nat) (strict : Bool) (now : Nat) :
    wasValidAt k t strict now = true ↔
      if k.expiredTS ≠ 0 then t < k.expiredTS
      else (strict = false ∨ (k.validUntilTS ≠ 0 ∧ t ≤ min k.validUntilTS (now + sevenDaysMs))) := by
  unfold wasValidAt
  split
  · exact decide_eq_true_iff
  · cases strict with
    | false => exact ⟨fun _ => Or.inl rfl, fun _ => rfl⟩
    | true => rw [if_pos rfl, strictValidity_iff]; exact ⟨Or.inr, fun h => h.resolve_left Bool.noConfusion⟩

/-! ## The specification's vocabulary (`Spec`) in the model's terms -/

theorem spec_validAt_eq (k : KeyRes) (t : Nat) (strict : Bool) (now : Nat) :
    Spec.validAt k t strict now = wasValidAt k t strict now := by
  rw [Bool.eq_iff_iff, wasValidAt_iff]
  unfold Spec.validAt
  by_cases he : k.expiredTS ≠ 0
  · simp [he]
  · simp only [he, ↓reduceIte]
    cases strict <;> simp [sevenDaysMs]

theorem lookupIn_eq (m : KeyMap) (q : KeyReq) : Spec.lookupIn m q = AList.lookup q m :=
  (AList.lookup_eq q m).symm

theorem supportedSigs_eq (r : Request) : Spec.edSigs r = supportedSigs r := rfl

theorem nth?_eq_getElem? {α} (l : List α) (i : Nat) : Spec.nth? l i = l[i]? := by
  induction l generalizing i with
  | nil => cases i <;> rfl
  | cons x xs ih => cases i with
    | zero => rfl
    | succ j => simpa [Spec.nth?] using ih j

theorem good_eq (r : Request) (s : SigInfo) (k : KeyRes) (now : Nat) :
    Spec.good r s k now = (wasValidAt k r.atTS r.strict now && verifyJSON s k.key) := by
  unfold Spec.good verifyJSON
  rw [spec_validAt_eq]
  simp only [publicKeySize]
  cases s.reaches <;> cases (k.key.length == 32) <;> cases s.verifies k.key <;> cases wasValidAt k r.atTS r.strict now <;> rfl

/-- a key for signature `s` of a request is usable: present, valid at the time, and the signature verifies -/
def usable (server : Bytes) (atTS : Nat) (strict : Bool) (keys : KeyMap) (now : Nat) (s : SigInfo) : Bool :=
  match AList.lookup ⟨server, s.keyID⟩ keys with
  | none => false
  | some k => wasValidAt k atTS strict now && verifyJSON s k.key

theorem usable_iff (server : Bytes) (atTS : Nat) (strict : Bool) (keys : KeyMap) (now : Nat) (s : SigInfo) :
    usable server atTS strict keys now s = true ↔
      ∃ k, AList.lookup ⟨server, s.keyID⟩ keys = some k ∧ wasValidAt k atTS strict now = true ∧ verifyJSON s k.key = true := by
  unfold usable
  cases AList.lookup ⟨server, s.keyID⟩ keys with
  | none => simp
  | some k => simp

/-- the key-ID loop succeeds iff SOME key ID is usable: the order in which the Go map yields the key IDs
    does not matter for the result -/
theorem checkSigs_eq_any (server : Bytes) (atTS : Nat) (strict : Bool) (keys : KeyMap) (now : Nat) (sigs : List SigInfo) :
    checkSigs server atTS strict keys now sigs = sigs.any (usable server atTS strict keys now) := by
  induction sigs with
  | nil => rfl
  | cons s rest ih =>
    simp only [checkSigs, any_cons, usable]
    cases AList.lookup ⟨server, s.keyID⟩ keys with
    | none => simpa using ih
    | some k =>
      simp only
      cases wasValidAt k atTS strict now <;> cases verifyJSON s k.key <;> simp [ih]

theorem checkSigs_perm (server : Bytes) (atTS : Nat) (strict : Bool) (keys : KeyMap) (now : Nat) {l₁ l₂ : List SigInfo}
    (h : l₁ ~ l₂) : checkSigs server atTS strict keys now l₁ = checkSigs server atTS strict keys now l₂ := by
  rw [checkSigs_eq_any, checkSigs_eq_any, h.any_eq]

/-- what makes request `r` succeed with the key map `keys`: some supported signature has a usable key -/
def okWith (keys : KeyMap) (now : Nat) (r : Request) : Bool :=
  (supportedSigs r).any (usable r.server r.atTS r.strict keys now)

/-- result `i` depends on request `i` alone: over results that are a map of the requests, `checkUsingKeys` is a map -/
theorem checkUsingKeys_map (keys : KeyMap) (now : Nat) (f : Request → Bool) : ∀ reqs : List Request,
    checkUsingKeys keys now reqs (reqs.map f) = reqs.map (fun r => f r || okWith keys now r)
  | [] => rfl
  | r :: rs => by
    rw [map_cons, checkUsingKeys, checkUsingKeys_map keys now f rs, map_cons, checkSigs_eq_any]
    cases f r <;> rfl

/-- the database keeps this entry: it is marked expired or still inside its validity -/
abbrev keeps (now : Nat) (k : KeyRes) : Prop := k.expiredTS ≠ 0 ∨ now < k.validUntilTS

theorem pruneStep_eq (now : Nat) (st : KeyMap × ReqMap) (e : KeyReq × KeyRes) :
    pruneStep now st e = (AList.insert e.1 e.2 st.1, if keeps now e.2 then AList.erase e.1 st.2 else st.2) := by
  obtain ⟨kf, kr⟩ := st
  obtain ⟨q, k⟩ := e
  simp only [pruneStep]
  by_cases h1 : k.expiredTS ≠ 0
  · rw [if_pos h1, if_pos (Or.inl h1)]
  · rw [if_neg h1]
    by_cases h2 : now < k.validUntilTS
    · rw [if_pos ⟨h2, Classical.not_not.1 h1⟩, if_pos (Or.inr h2)]
    · rw [if_neg (fun h => h2 h.1), if_neg (fun h => h.elim h1 h2)]

theorem prune_mem_snd (now : Nat) (l : KeyMap) (st : KeyMap × ReqMap) (x : KeyReq × Nat)
    (h : x ∈ (l.foldl (pruneStep now) st).2) :
    x ∈ st.2 ∧ ∀ k, (x.1, k) ∈ l → ¬ keeps now k := by
  induction l generalizing st with
  | nil => exact ⟨h, fun _ hk => nomatch hk⟩
  | cons e rest ih =>
    obtain ⟨h1, h2⟩ := ih _ h
    rw [pruneStep_eq] at h1
    -- `x` survived the step for `e`: it was requested before, and `e` is not a kept entry for its key
    have h3 : x ∈ st.2 ∧ (e.1 = x.1 → ¬ keeps now e.2) := by
      split at h1
      · exact ⟨(AList.mem_erase h1).1, fun he => absurd he.symm (AList.mem_erase h1).2⟩
      · rename_i hk
        exact ⟨h1, fun _ => hk⟩
    refine ⟨h3.1, fun k hm => ?_⟩
    rcases List.mem_cons.1 hm with rfl | hm
    · exact h3.2 rfl
    · exact h2 k hm

theorem pruneDB_mem_fst {now : Nat} {fromDB : KeyMap} {kr : ReqMap} {x : KeyReq × KeyRes}
    (h : x ∈ (pruneDB now fromDB kr).1) : x ∈ fromDB := by
  refine List.foldlRecOn (motive := fun st => ∀ y ∈ st.1, y ∈ fromDB) fromDB (pruneStep now) (fun _ hy => (List.not_mem_nil hy).elim) ?_ x h
  intro st ih e he y hy
  rw [pruneStep_eq] at hy
  rcases AList.mem_insert hy with rfl | hy
  · exact he
  · exact ih y hy

theorem pruneStep_other (now : Nat) (st : KeyMap × ReqMap) (e : KeyReq × KeyRes) (q : KeyReq) (h : e.1 ≠ q) :
    AList.lookup q (pruneStep now st e).1 = AList.lookup q st.1 ∧ AList.lookup q (pruneStep now st e).2 = AList.lookup q st.2 := by
  rw [pruneStep_eq]
  refine ⟨AList.lookup_insert_ne _ _ (Ne.symm h), ?_⟩
  split
  · exact (AList.lookup_erase ..).trans (if_neg (Ne.symm h))
  · rfl

theorem prune_other (now : Nat) (l : KeyMap) (st : KeyMap × ReqMap) (q : KeyReq) (h : AList.lookup q l = none) :
    AList.lookup q (l.foldl (pruneStep now) st).1 = AList.lookup q st.1 ∧
    AList.lookup q (l.foldl (pruneStep now) st).2 = AList.lookup q st.2 := by
  refine List.foldlRecOn (motive := fun st' => AList.lookup q st'.1 = AList.lookup q st.1 ∧ AList.lookup q st'.2 = AList.lookup q st.2)
    l (pruneStep now) ⟨rfl, rfl⟩ ?_
  intro st' ⟨ih1, ih2⟩ e he
  obtain ⟨o1, o2⟩ := pruneStep_other now st' e q (AList.ne_of_lookup_none h e he)
  exact ⟨o1.trans ih1, o2.trans ih2⟩

theorem prune_exact (now : Nat) (l : KeyMap) (hn : (l.map Prod.fst).Nodup) (st : KeyMap × ReqMap) (q : KeyReq) (k : KeyRes)
    (h : AList.lookup q l = some k) :
    AList.lookup q (l.foldl (pruneStep now) st).1 = some k ∧
    AList.lookup q (l.foldl (pruneStep now) st).2 = if keeps now k then none else AList.lookup q st.2 := by
  induction l generalizing st with
  | nil => cases h
  | cons e rest ih =>
    obtain ⟨q', k'⟩ := e
    simp only [map_cons, nodup_cons] at hn
    simp only [AList.lookup] at h
    simp only [foldl_cons]
    split at h
    · rename_i heq
      subst heq; cases h
      have hnone : AList.lookup q' rest = none := (AList.lookup_eq ..).trans (Assoc.lookup_eq_none.mpr hn.1)
      have := prune_other now rest (pruneStep now st (q', k)) q' hnone
      rw [this.1, this.2, pruneStep_eq]
      refine ⟨AList.lookup_insert_self _ _ _, ?_⟩
      split
      · exact (AList.lookup_erase ..).trans (if_pos rfl)
      · rfl
    · rename_i hne
      have h1 := pruneStep_other now st (q', k') q hne
      have h2 := ih hn.2 (pruneStep now st (q', k')) h
      rw [h2.1, h2.2, h1.2]; exact ⟨rfl, rfl⟩

theorem mergeStep_eq (st : KeyMap × ReqMap × KeyMap) (e : KeyReq × KeyRes) :
    mergeStep st e =
      if !AList.contains e.1 st.2.1 && AList.contains e.1 st.1 then st
      else (AList.insert e.1 e.2 st.1, AList.erase e.1 st.2.1, AList.insert e.1 e.2 st.2.2) := rfl

theorem mergeStep_mem (st : KeyMap × ReqMap × KeyMap) (e : KeyReq × KeyRes) :
    (∀ x ∈ (mergeStep st e).1, x ∈ st.1 ∨ x = e) ∧ (∀ x ∈ (mergeStep st e).2.1, x ∈ st.2.1) ∧
    (∀ x ∈ (mergeStep st e).2.2, x ∈ st.2.2 ∨ x = e) := by
  rw [mergeStep_eq]
  split
  · exact ⟨fun _ h => Or.inl h, fun _ h => h, fun _ h => Or.inl h⟩
  · exact ⟨fun _ h => (AList.mem_insert h).symm, fun _ h => (AList.mem_erase h).1, fun _ h => (AList.mem_insert h).symm⟩

theorem merge_mem (l : KeyMap) (st : KeyMap × ReqMap × KeyMap) :
    (∀ x ∈ (l.foldl mergeStep st).1, x ∈ st.1 ∨ x ∈ l) ∧ (∀ x ∈ (l.foldl mergeStep st).2.1, x ∈ st.2.1) ∧
    (∀ x ∈ (l.foldl mergeStep st).2.2, x ∈ st.2.2 ∨ x ∈ l) := by
  refine List.foldlRecOn (motive := fun st' => (∀ x ∈ st'.1, x ∈ st.1 ∨ x ∈ l) ∧ (∀ x ∈ st'.2.1, x ∈ st.2.1) ∧
    (∀ x ∈ st'.2.2, x ∈ st.2.2 ∨ x ∈ l)) l mergeStep ⟨fun _ => Or.inl, fun _ => id, fun _ => Or.inl⟩ ?_
  intro st' ⟨ih1, ih2, ih3⟩ e he
  obtain ⟨s1, s2, s3⟩ := mergeStep_mem st' e
  exact ⟨fun x h => (s1 x h).elim (ih1 x) (fun hx => Or.inr (hx ▸ he)), fun x h => ih2 x (s2 x h),
    fun x h => (s3 x h).elim (ih3 x) (fun hx => Or.inr (hx ▸ he))⟩

theorem contains_false_iff {α β} [DecidableEq α] (k : α) (m : List (α × β)) : AList.contains k m = false ↔ AList.lookup k m = none := by
  unfold AList.contains; cases AList.lookup k m <;> simp

/-- what the loop holds for one key: the key held, the timestamp still requested, the key noted for storing -/
abbrev View := Option KeyRes × Option Nat × Option KeyRes

def view (q : KeyReq) (st : KeyMap × ReqMap × KeyMap) : View :=
  (AList.lookup q st.1, AList.lookup q st.2.1, AList.lookup q st.2.2)

/-- an answer for the key is taken iff the key is still requested or not held yet; it is then held, noted for storing,
    and no longer requested -/
def take (v : View) : Option KeyRes → View
  | some k => if !v.2.1.isSome && v.1.isSome then v else (some k, none, some k)
  | none => v

theorem mergeStep_view (st : KeyMap × ReqMap × KeyMap) (e : KeyReq × KeyRes) (q : KeyReq) :
    view q (mergeStep st e) = if e.1 = q then take (view q st) (some e.2) else view q st := by
  rw [mergeStep_eq]
  by_cases he : e.1 = q
  · rw [if_pos he, he]
    unfold take view AList.contains
    split
    · rfl
    · simp only [AList.lookup_insert_self, AList.lookup_erase, if_true]
  · rw [if_neg he]
    split
    · rfl
    · simp only [view, AList.lookup_insert, AList.lookup_erase, if_neg he, if_neg (Ne.symm he)]

theorem mergeStep_other_trd (st : KeyMap × ReqMap × KeyMap) (e : KeyReq × KeyRes) (q : KeyReq) (h : e.1 ≠ q) :
    AList.lookup q (mergeStep st e).2.2 = AList.lookup q st.2.2 :=
  congrArg (·.2.2) ((mergeStep_view st e q).trans (if_neg h))

/-- once an answer has been taken (or refused) the key is held and not requested: nothing after it is taken -/
theorem take_take (v : View) (k : KeyRes) (a : Option KeyRes) : take (take v (some k)) a = take v (some k) := by
  obtain ⟨h, r, s⟩ := v
  cases a <;> cases h <;> cases r <;> rfl

/-- merging an answer, key by key: the FIRST entry the answer has for the key is what counts (the answer need not have unique keys) -/
theorem merge_view (l : KeyMap) (st : KeyMap × ReqMap × KeyMap) (q : KeyReq) :
    view q (l.foldl mergeStep st) = take (view q st) (AList.lookup q l) := by
  induction l generalizing st with
  | nil => rfl
  | cons e rest ih =>
    rw [foldl_cons, ih, mergeStep_view]
    obtain ⟨q', k⟩ := e
    simp only [AList.lookup]
    split
    · exact take_take _ _ _
    · rfl

/-- a key held and no longer requested is settled: no answer changes its view -/
theorem take_settled {v : View} {k : KeyRes} (h1 : v.1 = some k) (h2 : v.2.1 = none) (a : Option KeyRes) : take v a = v := by
  cases a with
  | none => rfl
  | some k => unfold take; rw [h1, h2]; rfl

theorem take_requested {v : View} (h : v.2.1.isSome = true) (k : KeyRes) : take v (some k) = (some k, none, some k) := by
  unfold take; rw [h]; rfl

/-- One pass of the loop body: the call is recorded and the answer merged; a fetcher that fails or answers nothing
    merges nothing. -/
def fetchStep (st : FetchState) (idx : Nat) (f : FetchScript) : FetchState :=
  let r := (f.getD []).foldl mergeStep (st.keysFetched, st.keyRequests, st.keysToStore)
  { keysFetched := r.1, keyRequests := r.2.1, keysToStore := r.2.2, calls := st.calls ++ [(idx, st.keyRequests)] }

theorem fetchLoop_cons (idx : Nat) (f : FetchScript) (rest : List (Nat × FetchScript)) (st : FetchState) :
    fetchLoop ((idx, f) :: rest) st = if st.keyRequests.isEmpty then st else fetchLoop rest (fetchStep st idx f) := by
  simp only [fetchLoop]
  split
  · rfl
  · cases f with
    | none => rfl
    | some fetched =>
      simp only
      split
      · rename_i h
        cases List.isEmpty_iff.mp h
        rfl
      · rfl

/-- what every pass of the fetcher loop preserves, the loop preserves (a pass is only made while requests are outstanding) -/
theorem fetchLoop_preserves {Inv : FetchState → Prop} : ∀ (fs : List (Nat × FetchScript)) (st : FetchState),
    (∀ st, Inv st → ∀ p ∈ fs, st.keyRequests.isEmpty = false → Inv (fetchStep st p.1 p.2)) → Inv st → Inv (fetchLoop fs st)
  | [], _, _, h => h
  | (idx, f) :: rest, st, hstep, h => by
    rw [fetchLoop_cons]
    split
    · exact h
    · rename_i hne
      exact fetchLoop_preserves rest _ (fun st hi p hp => hstep st hi p (mem_cons_of_mem _ hp))
        (hstep st h (idx, f) mem_cons_self (Bool.eq_false_iff.mpr hne))

/-- where what a state `st'` of the fetcher loop holds, asks and notes for storing comes from, the loop having started in `st`
    over the fetchers `fs` -/
structure Prov (fs : List (Nat × FetchScript)) (st st' : FetchState) : Prop where
  fetched : ∀ x ∈ st'.keysFetched, x ∈ st.keysFetched ∨ ∃ idx m, (idx, some m) ∈ fs ∧ x ∈ m
  requests : ∀ e ∈ st'.keyRequests, e ∈ st.keyRequests
  asked : ∀ c ∈ st'.calls, c ∈ st.calls ∨ ∀ e ∈ c.2, e ∈ st.keyRequests
  /-- **only what came from a fetcher**: every entry noted for storing is an entry of the answer of a fetcher that was called -/
  toStore : ∀ x ∈ st'.keysToStore, x ∈ st.keysToStore ∨ ∃ idx m asked, (idx, some m) ∈ fs ∧ (idx, asked) ∈ st'.calls ∧ x ∈ m

theorem fetchLoop_prov (fs : List (Nat × FetchScript)) (st : FetchState) : Prov fs st (fetchLoop fs st) := by
  refine fetchLoop_preserves (Inv := Prov fs st) fs st ?_ ⟨fun _ => Or.inl, fun _ => id, fun _ => Or.inl, fun _ => Or.inl⟩
  intro st' i ⟨idx, f⟩ hp _
  obtain ⟨m1, m2, m3⟩ := merge_mem (f.getD []) (st'.keysFetched, st'.keyRequests, st'.keysToStore)
  have hnew : ∀ x ∈ f.getD [], ∃ m, (idx, some m) ∈ fs ∧ x ∈ m := fun x hx => by
    cases f with
    | none => cases hx
    | some m => exact ⟨m, hp, hx⟩
  refine ⟨fun x hx => (m1 x hx).elim (i.fetched x) (fun h => Or.inr ⟨idx, hnew x h⟩), fun e he => i.requests e (m2 e he),
    fun c hc => ?_, fun x hx => ?_⟩
  · rcases List.mem_append.1 hc with hc | hc
    · exact i.asked c hc
    · cases List.mem_singleton.1 hc
      exact Or.inr i.requests
  · rcases m3 x hx with h | h
    · exact (i.toStore x h).imp_right fun ⟨j, m, a, hm, hc, hxm⟩ => ⟨j, m, a, hm, List.mem_append_left _ hc, hxm⟩
    · obtain ⟨m, hm, hxm⟩ := hnew x h
      exact Or.inr ⟨idx, m, st'.keyRequests, hm, List.mem_append_right _ (List.mem_singleton_self _), hxm⟩

def FetchState.view (st : FetchState) (q : KeyReq) : View :=
  (AList.lookup q st.keysFetched, AList.lookup q st.keyRequests, AList.lookup q st.keysToStore)

theorem fetchStep_view (st : FetchState) (idx : Nat) (f : FetchScript) (q : KeyReq) :
    (fetchStep st idx f).view q = take (st.view q) (AList.lookup q (f.getD [])) :=
  -- `st.view q` unfolds to `view q` of the triple of its maps
  merge_view (f.getD []) (st.keysFetched, st.keyRequests, st.keysToStore) q

theorem fetchLoop_view_settled (fs : List (Nat × FetchScript)) (st : FetchState) (q : KeyReq) (v : KeyRes)
    (h1 : AList.lookup q st.keysFetched = some v) (h2 : AList.lookup q st.keyRequests = none) :
    (fetchLoop fs st).view q = st.view q := by
  induction fs generalizing st with
  | nil => rfl
  | cons p rest ih =>
    obtain ⟨idx, f⟩ := p
    rw [fetchLoop_cons]
    split
    · rfl
    · have hs := (fetchStep_view st idx f q).trans (take_settled (v := st.view q) h1 h2 _)
      rw [ih _ ((congrArg (·.1) hs).trans h1) ((congrArg (·.2.1) hs).trans h2), hs]

theorem mem_enumFrom {α} {n : Nat} {l : List α} {i : Nat} {x : α} (h : (i, x) ∈ enumFrom n l) : l[i - n]? = some x ∧ n ≤ i := by
  induction l generalizing n with
  | nil => cases h
  | cons y ys ih =>
    rcases List.mem_cons.1 h with h | h
    · cases h
      exact ⟨by rw [Nat.sub_self]; rfl, Nat.le_refl _⟩
    · obtain ⟨h1, h2⟩ := ih h
      -- `i - (n + 1)` is by definition the predecessor of `i - n`, which is positive
      have : i - n = (i - (n + 1)) + 1 := (Nat.succ_pred_eq_of_pos (Nat.sub_pos_of_lt h2)).symm
      exact ⟨by rw [this]; exact h1, Nat.le_of_succ_le h2⟩

theorem enumFrom_fst_ge {α} {n : Nat} {l : List α} {x : Nat × α} (h : x ∈ enumFrom n l) : n ≤ x.1 :=
  (mem_enumFrom (i := x.1) (x := x.2) h).2

theorem firstAnswer_cons (f : FetchScript) (rest : List FetchScript) (q : KeyReq) :
    Spec.firstAnswer (f :: rest) q = (AList.lookup q (f.getD [])).or (Spec.firstAnswer rest q) := by
  cases f with
  | none => rfl
  | some m =>
    rw [Spec.firstAnswer, lookupIn_eq]
    show _ = (AList.lookup q m).or _
    cases AList.lookup q m <;> rfl

/-- a requested key ends with the first answer given for it — held, noted for storing, no longer requested; without an
    answer its view is unchanged -/
theorem fetchLoop_view_requested (fs : List FetchScript) (n : Nat) (st : FetchState) (q : KeyReq)
    (hreq : AList.contains q st.keyRequests = true) :
    (fetchLoop (enumFrom n fs) st).view q =
      match Spec.firstAnswer fs q with
      | some k => (some k, none, some k)
      | none => st.view q := by
  induction fs generalizing n st with
  | nil => rfl
  | cons f rest ih =>
    have hne : ¬ st.keyRequests.isEmpty = true := by
      cases hk : st.keyRequests with
      | nil => rw [hk] at hreq; cases hreq
      | cons _ _ => exact Bool.false_ne_true
    rw [enumFrom, fetchLoop_cons, if_neg hne, firstAnswer_cons]
    have hs := fetchStep_view st n f q
    cases hl : AList.lookup q (f.getD []) with
    | some k =>
      rw [hl, take_requested (v := st.view q) hreq] at hs
      rw [fetchLoop_view_settled _ _ q k (congrArg (·.1) hs) (congrArg (·.2.1) hs), hs]
      rfl
    | none =>
      rw [hl] at hs
      rw [ih (n + 1) (fetchStep st n f) ((congrArg (fun v => v.2.1.isSome) hs).trans hreq), hs]
      rfl

/-- what a call's answer gives for a key it was asked for is what the ring holds and what is handed to `StoreKeys` for that
    key (calls carry the index of the fetcher; fetchers are tried in order, each at most once; the loop runs over the suffix
    `enumFrom n fs`, so fetcher `c.1` is `fs[c.1 - n]`) -/
def Answered (fs : List FetchScript) (n : Nat) (st st' : FetchState) : Prop :=
  ∀ c ∈ st'.calls, c ∈ st.calls ∨
    (n ≤ c.1 ∧ ∀ m, fs[c.1 - n]? = some (some m) → ∀ (q : KeyReq) (v : KeyRes), AList.lookup q m = some v →
      AList.contains q c.2 = true → st'.view q = (some v, none, some v))

theorem fetchLoop_answered (fs : List FetchScript) (n : Nat) (st : FetchState) :
    Answered fs n st (fetchLoop (enumFrom n fs) st) := by
  refine fetchLoop_preserves (Inv := Answered fs n st) _ st ?_ (fun _ => Or.inl)
  intro st' ih ⟨idx, f⟩ hp _ c hc
  obtain ⟨hf, hge⟩ := mem_enumFrom hp
  rcases List.mem_append.1 hc with hc | hc
  · -- an earlier call: what it settled stays settled
    refine (ih c hc).imp_right fun ⟨h1, h2⟩ => ⟨h1, fun m hm q v hx hcont => ?_⟩
    have hv := h2 m hm q v hx hcont
    rw [fetchStep_view, take_settled (congrArg (·.1) hv) (congrArg (·.2.1) hv), hv]
  · -- the call made in this pass: its answer is taken now
    cases List.mem_singleton.1 hc
    refine Or.inr ⟨hge, fun m hm q v hx hcont => ?_⟩
    cases Option.some.inj (hm.symm.trans hf)
    rw [fetchStep_view, show AList.lookup q ((some m).getD []) = some v from hx, take_requested (v := st'.view q) hcont]

theorem fetchLoop_answers (fs : List FetchScript) (n : Nat) (st : FetchState) :
    ∀ c ∈ (fetchLoop (enumFrom n fs) st).calls, c ∈ st.calls ∨
      (n ≤ c.1 ∧ ∀ m, fs[c.1 - n]? = some (some m) → ∀ (q : KeyReq) (v : KeyRes), AList.lookup q m = some v →
        AList.contains q c.2 = true → AList.lookup q (fetchLoop (enumFrom n fs) st).keysFetched = some v) :=
  fun c hc => (fetchLoop_answered fs n st c hc).imp id
    (fun ⟨hge, h⟩ => ⟨hge, fun m hm q v hx hcont => congrArg (·.1) (h m hm q v hx hcont)⟩)

theorem addKeyRequest_mem {m : ReqMap} {k : KeyReq} {t : Nat} {x : KeyReq × Nat} (h : x ∈ addKeyRequest m k t) :
    x ∈ m ∨ x = (k, t) := by
  unfold addKeyRequest at h
  simp only at h
  split at h
  · exact (AList.mem_insert h).symm
  · exact Or.inl h

theorem addKeyRequest_contains {m : ReqMap} {k q : KeyReq} {t : Nat} (h : AList.contains q m = true ∨ q = k) :
    AList.contains q (addKeyRequest m k t) = true := by
  unfold addKeyRequest AList.contains at *
  simp only
  split
  · by_cases hq : q = k
    · rw [hq, AList.lookup_insert_self]; rfl
    · rw [AList.lookup_insert_ne _ _ hq]; exact h.resolve_right hq
  · rename_i hle
    rcases h with h | rfl
    · exact h
    · cases hl : AList.lookup q m with
      | none => rw [hl] at hle; exact absurd (Nat.zero_le t) hle
      | some v => rfl

theorem addSigs_mem (server : Bytes) (atTS : Nat) (sigs : List SigInfo) (m : ReqMap) (x : KeyReq × Nat) :
    x ∈ sigs.foldl (fun m s => addKeyRequest m ⟨server, s.keyID⟩ atTS) m → x ∈ m ∨ ∃ s ∈ sigs, x = (⟨server, s.keyID⟩, atTS) :=
  List.foldlRecOn (motive := fun m' => x ∈ m' → x ∈ m ∨ ∃ s ∈ sigs, x = (⟨server, s.keyID⟩, atTS)) sigs _ Or.inl
    (fun _ ih s hs hx => (addKeyRequest_mem hx).elim ih (fun hx => Or.inr ⟨s, hs, hx⟩))

theorem addSigs_contains (server : Bytes) (atTS : Nat) (sigs : List SigInfo) (m : ReqMap) (q : KeyReq)
    (h : AList.contains q m = true ∨ ∃ s ∈ sigs, q = ⟨server, s.keyID⟩) :
    AList.contains q (sigs.foldl (fun m s => addKeyRequest m ⟨server, s.keyID⟩ atTS) m) = true := by
  refine Lists.foldl_reaches (Q := fun m => AList.contains q m = true) (R := fun s => q = ⟨server, s.keyID⟩) sigs m (fun m s _ h => ?_) h
  exact addKeyRequest_contains h

/-- while no request has a result yet, `publicKeyRequests` adds the supported signatures of every request -/
theorem publicKeyRequests_eq_foldl (reqs : List Request) (m : ReqMap) :
    publicKeyRequests reqs (reqs.map (fun _ => false)) m =
      reqs.foldl (fun m r => (supportedSigs r).foldl (fun m s => addKeyRequest m ⟨r.server, s.keyID⟩ r.atTS) m) m := by
  induction reqs generalizing m with
  | nil => rfl
  | cons r rs ih => exact ih _

theorem publicKeyRequests_mem (reqs : List Request) (m : ReqMap) (x : KeyReq × Nat) :
    x ∈ publicKeyRequests reqs (reqs.map (fun _ => false)) m →
      x ∈ m ∨ ∃ r ∈ reqs, ∃ s ∈ supportedSigs r, x = (⟨r.server, s.keyID⟩, r.atTS) := by
  rw [publicKeyRequests_eq_foldl]
  exact List.foldlRecOn (motive := fun m' => x ∈ m' → x ∈ m ∨ ∃ r ∈ reqs, ∃ s ∈ supportedSigs r, x = (⟨r.server, s.keyID⟩, r.atTS))
    reqs _ Or.inl (fun _ ih r hr hx => (addSigs_mem _ _ _ _ x hx).elim ih (fun hx => Or.inr ⟨r, hr, hx⟩))

theorem publicKeyRequests_contains (reqs : List Request) (m : ReqMap) (r : Request) (hr : r ∈ reqs)
    (s : SigInfo) (hs : s ∈ supportedSigs r) :
    AList.contains ⟨r.server, s.keyID⟩ (publicKeyRequests reqs (reqs.map (fun _ => false)) m) = true := by
  rw [publicKeyRequests_eq_foldl]
  exact Lists.foldl_reaches (Q := fun m => AList.contains (⟨r.server, s.keyID⟩ : KeyReq) m = true)
    (R := fun r' => ∃ s' ∈ supportedSigs r', (⟨r.server, s.keyID⟩ : KeyReq) = ⟨r'.server, s'.keyID⟩)
    reqs m (fun _ _ _ h => addSigs_contains _ _ _ _ _ h) (Or.inr ⟨r, hr, s, hs, rfl⟩)

/-! ## The phases of verifyJSONs -/

def results0 (reqs : List Request) : List Bool := reqs.map (fun _ => false)
def keyRequests0 (reqs : List Request) : ReqMap := publicKeyRequests reqs (results0 reqs) []
/-- (keysFetched, keyRequests) after the database answered -/
def afterDB (reqs : List Request) (fromDB : KeyMap) (now : Nat) : KeyMap × ReqMap := pruneDB now fromDB (keyRequests0 reqs)
def earlyTry (reqs : List Request) (fromDB : KeyMap) (now : Nat) : Bool := (afterDB reqs fromDB now).1.length == reqs.length
def results1 (reqs : List Request) (fromDB : KeyMap) (now : Nat) : List Bool :=
  if earlyTry reqs fromDB now then checkUsingKeys (afterDB reqs fromDB now).1 now reqs (results0 reqs) else results0 reqs
def finalState (reqs : List Request) (fromDB : KeyMap) (fetchers : List FetchScript) (now : Nat) : FetchState :=
  fetchLoop (enumFrom 0 fetchers) { keyRequests := (afterDB reqs fromDB now).2, keysFetched := (afterDB reqs fromDB now).1, keysToStore := [], calls := [] }

theorem results1_eq (reqs : List Request) (fromDB : KeyMap) (now : Nat) :
    results1 reqs fromDB now = reqs.map (fun r => earlyTry reqs fromDB now && okWith (afterDB reqs fromDB now).1 now r) := by
  unfold results1 results0
  cases earlyTry reqs fromDB now with
  | true => exact checkUsingKeys_map ..
  | false => rfl

theorem verifyJSONs_eq (reqs : List Request) (db : FetchScript) (storeOk : Bool) (fetchers : List FetchScript) (now : Nat) :
    verifyJSONs reqs db storeOk fetchers now =
      if (keyRequests0 reqs).isEmpty then (.ok (results0 reqs), {})
      else match db with
        | none => (.error .db, { dbAsked := some (keyRequests0 reqs) })
        | some fromDB =>
          if earlyTry reqs fromDB now && (results1 reqs fromDB now).all id then
            (.ok (results1 reqs fromDB now), { dbAsked := some (keyRequests0 reqs) })
          else if !storeOk then
            (.error .store, { dbAsked := some (keyRequests0 reqs), fetcherCalls := (finalState reqs fromDB fetchers now).calls,
                              stored := some (finalState reqs fromDB fetchers now).keysToStore })
          else
            (.ok (checkUsingKeys (finalState reqs fromDB fetchers now).keysFetched now reqs (results1 reqs fromDB now)),
             { dbAsked := some (keyRequests0 reqs), fetcherCalls := (finalState reqs fromDB fetchers now).calls,
               stored := some (finalState reqs fromDB fetchers now).keysToStore }) := by
  cases db <;> rfl

/-- The three ways `verifyJSONs` returns results: each is a map over the requests. -/
theorem verifyJSONs_ok {reqs : List Request} {db : FetchScript} {storeOk : Bool} {fetchers : List FetchScript} {now : Nat}
    {rs : List Bool} {tr : Trace} (h : verifyJSONs reqs db storeOk fetchers now = (.ok rs, tr)) :
    (keyRequests0 reqs = [] ∧ rs = reqs.map fun _ => false) ∨
    ∃ fromDB, db = some fromDB ∧
      ((rs.all id = true ∧ rs = reqs.map (okWith (afterDB reqs fromDB now).1 now)) ∨
       rs = reqs.map fun r => (earlyTry reqs fromDB now && okWith (afterDB reqs fromDB now).1 now r) ||
              okWith (finalState reqs fromDB fetchers now).keysFetched now r) := by
  rw [verifyJSONs_eq] at h
  by_cases he : (keyRequests0 reqs).isEmpty = true
  · rw [if_pos he] at h
    cases h
    exact Or.inl ⟨List.isEmpty_iff.mp he, rfl⟩
  rw [if_neg he] at h
  cases db with
  | none => cases h
  | some fromDB =>
    refine Or.inr ⟨fromDB, rfl, ?_⟩
    simp only at h
    by_cases hearly : (earlyTry reqs fromDB now && (results1 reqs fromDB now).all id) = true
    · rw [if_pos hearly] at h
      cases h
      rw [Bool.and_eq_true] at hearly
      refine Or.inl ⟨hearly.2, ?_⟩
      rw [results1_eq, hearly.1]
      rfl
    · rw [if_neg hearly] at h
      cases storeOk <;> cases h
      exact Or.inr (by rw [results1_eq, checkUsingKeys_map])

/-! ## The database phase, exactly (the answer is a Go map: unique keys) -/

/-- **The key the ring ends up holding for a requested (server, key ID)** is the one the specification
    calls supplied: the database's entry if it keeps it (expired-marked or inside validity), else the first
    fetcher's that answers for it, else the database's stale entry. -/
theorem final_key_eq_supplied (reqs : List Request) (fromDB : KeyMap) (fetchers : List FetchScript) (now : Nat)
    (hn : (fromDB.map Prod.fst).Nodup) (q : KeyReq) (hq : AList.contains q (keyRequests0 reqs) = true) :
    AList.lookup q (finalState reqs fromDB fetchers now).keysFetched = Spec.supplied fromDB fetchers q now := by
  unfold finalState afterDB pruneDB Spec.supplied Spec.dbKeeps
  rw [lookupIn_eq]
  cases hl : AList.lookup q fromDB with
  | some k =>
    have hp := prune_exact now fromDB hn ([], keyRequests0 reqs) q k hl
    simp only
    by_cases hk : keeps now k
    · rw [if_pos hk] at hp ⊢
      refine Eq.trans (congrArg (·.1) (fetchLoop_view_settled _ _ q k ?_ hp.2)) hp.1
      exact hp.1
    · rw [if_neg hk] at hp ⊢
      rw [show AList.lookup q _ = _ from congrArg (·.1) (fetchLoop_view_requested _ _ _ q (by rw [AList.contains, hp.2]; exact hq))]
      cases Spec.firstAnswer fetchers q <;> first | rfl | exact hp.1
  | none =>
    have hp := prune_other now fromDB ([], keyRequests0 reqs) q hl
    simp only
    rw [show AList.lookup q _ = _ from congrArg (·.1) (fetchLoop_view_requested _ _ _ q (by rw [AList.contains, hp.2]; exact hq))]
    cases Spec.firstAnswer fetchers q <;> first | rfl | exact hp.1

/-- the final attempt's verdict on a request IS the specification's `mustSucceed` (the database's answer being a Go map) -/
theorem okWith_final_eq_mustSucceed (reqs : List Request) (fromDB : KeyMap) (fetchers : List FetchScript) (now : Nat)
    (hn : (fromDB.map Prod.fst).Nodup) (r : Request) (hr : r ∈ reqs) :
    okWith (finalState reqs fromDB fetchers now).keysFetched now r = Spec.mustSucceed r fromDB fetchers now := by
  unfold okWith Spec.mustSucceed
  rw [supportedSigs_eq, Bool.eq_iff_iff, any_eq_true, any_eq_true]
  refine exists_congr fun s => and_congr_right fun hs => ?_
  unfold usable
  rw [final_key_eq_supplied reqs fromDB fetchers now hn _ (publicKeyRequests_contains reqs [] r hr s hs)]
  cases Spec.supplied fromDB fetchers ⟨r.server, s.keyID⟩ now with
  | none => rfl
  | some k => simp only [good_eq]

/-- a request that succeeds with the key map `keys` has a supported signature verifying under a 32-byte key that the
    map holds for (server, key ID) and that was valid at the requested time -/
theorem okWith_sound {keys : KeyMap} {now : Nat} {r : Request} (h : okWith keys now r = true) :
    r.listOk = true ∧ ∃ s ∈ r.sigs, isAlgorithmSupported s.keyID = true ∧ ∃ k : KeyRes,
      (⟨r.server, s.keyID⟩, k) ∈ keys ∧ wasValidAt k r.atTS r.strict now = true ∧
      s.reaches = true ∧ k.key.length = publicKeySize ∧ s.verifies k.key = true := by
  obtain ⟨s, hs, hu⟩ := List.any_eq_true.1 h
  obtain ⟨k, hl, hv, hj⟩ := (usable_iff _ _ _ _ _ _).1 hu
  unfold supportedSigs at hs
  split at hs
  · rename_i hlo
    obtain ⟨hmem, halg⟩ := List.mem_filter.1 hs
    simp only [verifyJSON, Bool.and_eq_true, beq_iff_eq] at hj
    exact ⟨hlo, s, hmem, halg, k, Assoc.mem_of_lookup_eq_some ((AList.lookup_eq ..).symm.trans hl), hv, hj.1.1, hj.1.2, hj.2⟩
  · cases hs

/-- what the trace records, for every outcome (results, database error, store error) -/
theorem trace_of {reqs : List Request} {db : FetchScript} {storeOk : Bool} {fetchers : List FetchScript} {now : Nat}
    {out : Except CallErr (List Bool)} {tr : Trace} (h : verifyJSONs reqs db storeOk fetchers now = (out, tr)) :
    (tr.fetcherCalls = [] ∧ tr.stored = none) ∨
    ∃ fromDB, db = some fromDB ∧ tr.fetcherCalls = (finalState reqs fromDB fetchers now).calls ∧
      tr.stored = some (finalState reqs fromDB fetchers now).keysToStore := by
  rw [verifyJSONs_eq] at h
  by_cases he : (keyRequests0 reqs).isEmpty = true
  · rw [if_pos he] at h
    cases h
    exact Or.inl ⟨rfl, rfl⟩
  rw [if_neg he] at h
  cases db with
  | none => cases h; exact Or.inl ⟨rfl, rfl⟩
  | some fromDB =>
    simp only at h
    by_cases hearly : (earlyTry reqs fromDB now && (results1 reqs fromDB now).all id) = true
    · rw [if_pos hearly] at h
      cases h
      exact Or.inl ⟨rfl, rfl⟩
    · rw [if_neg hearly] at h
      refine Or.inr ⟨fromDB, rfl, ?_⟩
      cases storeOk <;> (cases h; exact ⟨rfl, rfl⟩)

/-- every entry handed to `StoreKeys` is an entry of the answer of a fetcher this call consulted -/
theorem verifyJSONs_stored_mem {reqs : List Request} {db : FetchScript} {storeOk : Bool} {fetchers : List FetchScript} {now : Nat}
    {out : Except CallErr (List Bool)} {tr : Trace} (h : verifyJSONs reqs db storeOk fetchers now = (out, tr))
    (stored : KeyMap) (hs : tr.stored = some stored) (e : KeyReq × KeyRes) (he : e ∈ stored) :
    ∃ c ∈ tr.fetcherCalls, ∃ m, fetchers[c.1]? = some (some m) ∧ e ∈ m := by
  rcases trace_of h with ⟨_, h1⟩ | ⟨fromDB, _, hcalls, hst⟩
  · rw [h1] at hs; cases hs
  · rw [hst] at hs
    cases hs
    obtain ⟨idx, m, asked, hm, hcall, hem⟩ := ((fetchLoop_prov _ _).toStore e he).resolve_left (nomatch ·)
    exact ⟨(idx, asked), hcalls ▸ hcall, m, (mem_enumFrom hm).1, hem⟩

/-- fetchers that fail or answer nothing: `StoreKeys` is not called, or called with nothing -/
theorem verifyJSONs_stored_silent {reqs : List Request} {db : FetchScript} {storeOk : Bool} {fetchers : List FetchScript} {now : Nat}
    {out : Except CallErr (List Bool)} {tr : Trace} (h : verifyJSONs reqs db storeOk fetchers now = (out, tr))
    (hf : ∀ f ∈ fetchers, f = none ∨ f = some []) : tr.stored = none ∨ tr.stored = some [] := by
  cases hs : tr.stored with
  | none => exact .inl rfl
  | some stored =>
    -- an entry stored would be an entry of a fetcher's answer, and the answers are empty
    refine .inr (congrArg some (List.eq_nil_iff_forall_not_mem.2 fun e he => ?_))
    obtain ⟨_, _, m, hm, hem⟩ := verifyJSONs_stored_mem h stored hs e he
    rcases hf _ (List.mem_of_getElem? hm) with h1 | h1 <;> cases h1
    cases hem

end V.KeyRing
