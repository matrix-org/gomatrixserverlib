/-
  The "last matching member wins" lookups of VModel.GoJson (`lookupField`, `lookupExact`) as one fold, `lastSome`;
  the exact lookup is `V.Assoc.lookup` in the reversed list.  Then the members a field name selects (`sel`, with case
  folding) and the struct decoders as folds over them (`decType_sel`, `decContent_sel`).
-/
import VModel.Redact
import VProofs.Assoc
import VProofs.Lists
namespace V.RedactProofs
open V V.Json V.GoJson V.Redact

abbrev Obj := List (Bytes × JVal)

/-- the value of the last member satisfying `p` -/
def lastSome (p : Bytes × JVal → Bool) (kvs : Obj) : Option JVal :=
  kvs.foldl (fun acc kv => if p kv then some kv.2 else acc) none

theorem lastSome_filter (p : Bytes × JVal → Bool) (kvs : Obj) :
    lastSome p kvs = ((kvs.filter p).getLast?).map (·.2) := by
  rw [List.getLast?_filter]
  exact (Lists.foldl_write (get := id) (v := (·.2)) (fun _ _ => rfl) kvs none).trans Option.or_none

theorem lastSome_cons (p : Bytes × JVal → Bool) (kv : Bytes × JVal) (rest : Obj) :
    lastSome p (kv :: rest) =
      match lastSome p rest with
      | some v => some v
      | none => if p kv then some kv.2 else none := by
  rw [lastSome_filter, lastSome_filter, List.filter_cons]
  cases p kv <;> simp only [Bool.false_eq_true, if_false, if_true, List.getLast?_cons] <;>
    cases (rest.filter p).getLast? <;> rfl

theorem lastSome_none_iff (p : Bytes × JVal → Bool) (kvs : Obj) : lastSome p kvs = none ↔ ∀ kv ∈ kvs, p kv = false := by
  rw [lastSome_filter, Option.map_eq_none_iff, List.getLast?_eq_none_iff, List.filter_eq_nil_iff]
  simp only [Bool.not_eq_true]

theorem lastSome_none_of_forall (p : Bytes × JVal → Bool) (kvs : Obj) (h : ∀ kv ∈ kvs, p kv = false) :
    lastSome p kvs = none := (lastSome_none_iff p kvs).mpr h

theorem lookupField_eq (kvs : Obj) (name : Bytes) :
    lookupField kvs name = lastSome (fun kv => matchesField kv.1 name) kvs := rfl

theorem lookupExact_eq (kvs : Obj) (name : Bytes) :
    lookupExact kvs name = lastSome (fun kv => kv.1 == name) kvs := rfl

theorem lastSome_congr (p q : Bytes × JVal → Bool) (kvs : Obj) (h : ∀ kv ∈ kvs, p kv = q kv) :
    lastSome p kvs = lastSome q kvs := by
  rw [lastSome_filter, lastSome_filter, List.filter_congr h]

theorem lastSome_mem (p : Bytes × JVal → Bool) (l : Obj) (v : JVal) (h : lastSome p l = some v) :
    ∃ kv ∈ l, p kv = true ∧ kv.2 = v := by
  rw [lastSome_filter] at h
  obtain ⟨kv, hkv, hv⟩ := Option.map_eq_some_iff.mp h
  obtain ⟨hm, hp⟩ := List.mem_filter.mp (List.mem_of_getLast? hkv)
  exact ⟨kv, hm, hp, hv⟩

theorem lookupExact_eq_lookup_reverse (l : Obj) (k : Bytes) : lookupExact l k = Assoc.lookup l.reverse k := by
  rw [lookupExact_eq, lastSome_filter, List.getLast?_filter]
  rfl

/-- with distinct keys the members are exactly the answers of the lookup -/
theorem lookupExact_eq_some_iff {l : Obj} (hn : (l.map (·.1)).Nodup) {k : Bytes} {v : JVal} :
    lookupExact l k = some v ↔ (k, v) ∈ l := by
  rw [lookupExact_eq_lookup_reverse, Assoc.lookup_eq_some_iff (((List.reverse_perm l).map _).nodup_iff.mpr hn),
    List.mem_reverse]

theorem lookupExact_mem {l : Obj} {k : Bytes} {v : JVal} (h : lookupExact l k = some v) : (k, v) ∈ l := by
  obtain ⟨⟨k0, v0⟩, hkv, hp, rfl⟩ := lastSome_mem _ l v h
  exact beq_iff_eq.mp hp ▸ hkv

/-- the members encoding/json feeds to the field `name` -/
def sel (name : Bytes) (kvs : Obj) : Obj := kvs.filter (fun kv => matchesField kv.1 name)

theorem matchesField_self (n : Bytes) : matchesField n n = true := by
  simp [matchesField]

theorem matchesField_eq_fold (k n : Bytes) : matchesField k n = (foldBytes k == foldBytes n) :=
  Bool.or_eq_right_iff_imp.mpr fun h => beq_iff_eq.mpr (congrArg foldBytes (eq_of_beq h))

theorem matchesField_fold {k n : Bytes} (h : matchesField k n = true) : foldBytes k = foldBytes n :=
  eq_of_beq (matchesField_eq_fold k n ▸ h)

theorem lookupField_sel (kvs : Obj) (name : Bytes) :
    lookupField kvs name = ((sel name kvs).getLast?).map (·.2) := by
  rw [lookupField_eq, lastSome_filter]; rfl

/-- the unconditional step of `decType` -/
def typeStep (acc : Dec Bytes) (kv : Bytes × JVal) : Dec Bytes :=
  match kv.2 with
  | .str s => ⟨s, acc.err⟩
  | .null => acc
  | _ => ⟨acc.val, true⟩

theorem decType_sel (name : Bytes) (kvs : Obj) :
    decType name kvs = (sel name kvs).foldl typeStep ⟨[], false⟩ := by
  unfold decType sel
  rw [List.foldl_filter]
  rfl

def contentStep (acc : ContentDec) (kv : Bytes × JVal) : ContentDec :=
  match kv.2 with
  | .obj m => { val := some (mergeInto (acc.val.getD []) m), err := acc.err, cls := acc.cls.worst (floatScanMembers m) }
  | .null => { acc with val := none }
  | _ => { acc with err := true }

theorem decContent_sel (name : Bytes) (kvs : Obj) :
    decContent name kvs = (sel name kvs).foldl contentStep {} := by
  unfold decContent sel
  rw [List.foldl_filter]
  rfl

/-- no two fields have names equal up to case folding -/
def foldDistinct (fs : List Field) : Bool := noDupIn (fs.map (fun f => foldBytes f.name))

end V.RedactProofs
