/- Byte-level facts for the C01 proofs: how `encodeStringBody` spells one byte (`esb_one`), the
   two-character escapes as a table, what `utf8Encode` produces (one well-formed sequence, `Utf8Seq`),
   and how the escapes written by `compactUnicodeEscape` relate to `encodeStringBody`. -/
import VModel.Json
import VProofs.Guard
namespace V.Json

/-! ### `encodeStringBody`, one byte at a time -/

/-- The two-character escapes as a table: escape letter, byte denoted. -/
def simpleEscapes : List (UInt8 × UInt8) :=
  [(0x22, 0x22), (0x5C, 0x5C), (0x2F, 0x2F), (0x62, 0x08), (0x66, 0x0C), (0x6E, 0x0A), (0x72, 0x0D), (0x74, 0x09)]

theorem simpleEscape_mem {e x : UInt8} (h : simpleEscape e = some x) : (e, x) ∈ simpleEscapes := by
  unfold simpleEscape at h
  iterate 8
    replace h := Guard.ite_cases h
    rcases h with ⟨he, h⟩ | ⟨-, h⟩
    · cases eq_of_beq he; cases h; decide
  cases h

theorem esb_nil : encodeStringBody [] = [] := rfl

theorem esb_append : ∀ a b : Bytes, encodeStringBody (a ++ b) = encodeStringBody a ++ encodeStringBody b
  | [], b => rfl
  | c :: a, b => by
    simp only [List.cons_append, encodeStringBody, esb_append a b, List.append_assoc]

/-- A byte `encodeStringBody` writes unchanged. -/
def plainByte (c : UInt8) : Bool := !(c == 0x22) && !(c == 0x5C) && !(c < 0x20)

theorem plainByte_iff {c : UInt8} :
    plainByte c = true ↔ (c == 0x22) = false ∧ (c == 0x5C) = false ∧ ¬ c < 0x20 := by
  simp only [plainByte, Bool.and_eq_true, Bool.not_eq_true', decide_eq_false_iff_not, and_assoc]

theorem esb_plain_cons (c : UInt8) (rest : Bytes) (h : plainByte c = true) :
    encodeStringBody (c :: rest) = c :: encodeStringBody rest := by
  obtain ⟨h1, h2, h3⟩ := plainByte_iff.mp h
  have ctrl : ∀ k : UInt8, k < 0x20 → c ≠ k := fun k hk e => h3 (e ▸ hk)
  simp [encodeStringBody, h1, h2, h3, ctrl 0x08 (by decide), ctrl 0x09 (by decide), ctrl 0x0A (by decide),
    ctrl 0x0C (by decide), ctrl 0x0D (by decide)]

theorem esb_plain : ∀ l : Bytes, (∀ c ∈ l, plainByte c = true) → encodeStringBody l = l
  | [], _ => rfl
  | c :: l, h => by
    rw [esb_plain_cons c l (h c List.mem_cons_self), esb_plain l (fun x hx => h x (List.mem_cons_of_mem _ hx))]

theorem esb_quote : encodeStringBody [0x22] = [0x5C, 0x22] := by decide
theorem esb_backslash : encodeStringBody [0x5C] = [0x5C, 0x5C] := by decide
theorem esb_slash : encodeStringBody [0x2F] = [0x2F] := by decide
theorem esb_b : encodeStringBody [0x08] = [0x5C, 0x62] := by decide
theorem esb_f : encodeStringBody [0x0C] = [0x5C, 0x66] := by decide
theorem esb_n : encodeStringBody [0x0A] = [0x5C, 0x6E] := by decide
theorem esb_r : encodeStringBody [0x0D] = [0x5C, 0x72] := by decide
theorem esb_t : encodeStringBody [0x09] = [0x5C, 0x74] := by decide

theorem esb_one (c : UInt8) :
    (∃ e, simpleEscape e = some c ∧ encodeStringBody [c] = [0x5C, e]) ∨
    (c < 0x20 ∧ encodeStringBody [c] =
      [0x5C, 0x75, 0x30, 0x30, UInt8.ofNat (0x30 + c.toNat / 16), hexDigitLower (c.toNat % 16)]) ∨
    (plainByte c = true ∧ encodeStringBody [c] = [c]) := by
  by_cases h1 : c = 0x22
  · subst h1; exact .inl ⟨_, by decide, esb_quote⟩
  by_cases h2 : c = 0x5C
  · subst h2; exact .inl ⟨_, by decide, esb_backslash⟩
  by_cases h3 : c = 0x08
  · subst h3; exact .inl ⟨_, by decide, esb_b⟩
  by_cases h4 : c = 0x09
  · subst h4; exact .inl ⟨_, by decide, esb_t⟩
  by_cases h5 : c = 0x0A
  · subst h5; exact .inl ⟨_, by decide, esb_n⟩
  by_cases h6 : c = 0x0C
  · subst h6; exact .inl ⟨_, by decide, esb_f⟩
  by_cases h7 : c = 0x0D
  · subst h7; exact .inl ⟨_, by decide, esb_r⟩
  by_cases h8 : c < 0x20
  · exact .inr (.inl ⟨h8, by simp [encodeStringBody, h1, h2, h3, h4, h5, h6, h7, h8]⟩)
  · have hp : plainByte c = true := by simp [plainByte, h1, h2, h8]
    exact .inr (.inr ⟨hp, esb_plain [c] (by simpa using hp)⟩)

theorem esb_cons (c : UInt8) (d : Bytes) : encodeStringBody (c :: d) = encodeStringBody [c] ++ encodeStringBody d :=
  esb_append [c] d

theorem esb_one_length (c : UInt8) : 1 ≤ (encodeStringBody [c]).length := by
  rcases esb_one c with ⟨e, -, h⟩ | ⟨-, h⟩ | ⟨-, h⟩ <;> rw [h] <;> exact Nat.le_add_left 1 _

/-! ### `utf8Valid` and well-formed sequences (`Utf8Seq`) -/

theorem utf8Valid_cons (a : UInt8) (rest : Bytes) : utf8Valid (a :: rest) =
    (if a < 0x80 then utf8Valid rest
    else if a < 0xC2 then false
    else if a < 0xE0 then
      match rest with
      | b :: r => (0x80 ≤ b && b < 0xC0) && utf8Valid r
      | _ => false
    else if a < 0xF0 then
      match rest with
      | b :: c :: r =>
        (0x80 ≤ b && b < 0xC0) && (0x80 ≤ c && c < 0xC0) &&
        !(a == 0xE0 && b < 0xA0) && !(a == 0xED && b ≥ 0xA0) && utf8Valid r
      | _ => false
    else if a < 0xF5 then
      match rest with
      | b :: c :: d :: r =>
        (0x80 ≤ b && b < 0xC0) && (0x80 ≤ c && c < 0xC0) && (0x80 ≤ d && d < 0xC0) &&
        !(a == 0xF0 && b < 0x90) && !(a == 0xF4 && b ≥ 0x90) && utf8Valid r
      | _ => false
    else false) := by
  conv => lhs; unfold utf8Valid
  rfl

theorem utf8Valid_cons_ascii {c : UInt8} (hc : c < 0x80) (r : Bytes) : utf8Valid (c :: r) = utf8Valid r := by
  rw [utf8Valid_cons, if_pos hc]

def Cont (b : UInt8) : Prop := 0x80 ≤ b ∧ b < 0xC0

/-- One well-formed UTF-8 sequence (RFC 3629 §4): exactly the tests `utf8Valid` makes on it. -/
inductive Utf8Seq : Bytes → Prop
  | one {a : UInt8} : a < 0x80 → Utf8Seq [a]
  | two {a b : UInt8} : ¬ a < 0xC2 → a < 0xE0 → Cont b → Utf8Seq [a, b]
  | three {a b c : UInt8} : ¬ a < 0xE0 → a < 0xF0 → Cont b → Cont c →
      (a == 0xE0 && decide (b < 0xA0)) = false → (a == 0xED && decide (b ≥ 0xA0)) = false → Utf8Seq [a, b, c]
  | four {a b c d : UInt8} : ¬ a < 0xF0 → a < 0xF5 → Cont b → Cont c → Cont d →
      (a == 0xF0 && decide (b < 0x90)) = false → (a == 0xF4 && decide (b ≥ 0x90)) = false → Utf8Seq [a, b, c, d]

theorem not_lt_of_not_lt_of_le {a k m : UInt8} (h : ¬ a < m) (hk : k ≤ m) : ¬ a < k :=
  fun hlt => h (UInt8.lt_of_lt_of_le hlt hk)

theorem Utf8Seq.ascii_or_high {q : Bytes} (h : Utf8Seq q) :
    (∃ a, a < 0x80 ∧ q = [a]) ∨ (2 ≤ q.length ∧ ∀ c ∈ q, 0x80 ≤ c) := by
  have lead : ∀ {a m : UInt8}, ¬ a < m → 0x80 ≤ m → 0x80 ≤ a :=
    fun h hm => UInt8.le_trans hm (UInt8.not_lt.mp h)
  cases h with
  | one h1 => exact .inl ⟨_, h1, rfl⟩
  | two a2 _ hb => exact .inr ⟨by simp, by simp [lead a2 (by decide), hb.1]⟩
  | three a3 _ hb hc => exact .inr ⟨by simp, by simp [lead a3 (by decide), hb.1, hc.1]⟩
  | four a4 _ hb hc hd => exact .inr ⟨by simp, by simp [lead a4 (by decide), hb.1, hc.1, hd.1]⟩

theorem Utf8Seq.valid_append {q : Bytes} (h : Utf8Seq q) (r : Bytes) : utf8Valid (q ++ r) = utf8Valid r := by
  cases h with
  | one h1 => exact utf8Valid_cons_ascii h1 r
  | two a2 a3 hb =>
    rw [List.cons_append, utf8Valid_cons, if_neg (not_lt_of_not_lt_of_le a2 (by decide)), if_neg a2, if_pos a3]
    simp only [List.cons_append, List.nil_append, hb.1, hb.2, decide_true, Bool.and_self, Bool.true_and]
  | three a3 a4 hb hc d1 d2 =>
    have a2 := not_lt_of_not_lt_of_le a3 (k := 0xC2) (by decide)
    rw [List.cons_append, utf8Valid_cons, if_neg (not_lt_of_not_lt_of_le a2 (by decide)), if_neg a2, if_neg a3, if_pos a4]
    simp only [List.cons_append, List.nil_append, hb.1, hb.2, hc.1, hc.2, d1, d2, decide_true, Bool.and_self,
      Bool.true_and, Bool.not_false]
  | four a4 a5 hb hc hd d1 d2 =>
    have a3 := not_lt_of_not_lt_of_le a4 (k := 0xE0) (by decide)
    have a2 := not_lt_of_not_lt_of_le a3 (k := 0xC2) (by decide)
    rw [List.cons_append, utf8Valid_cons, if_neg (not_lt_of_not_lt_of_le a2 (by decide)), if_neg a2, if_neg a3, if_neg a4, if_pos a5]
    simp only [List.cons_append, List.nil_append, hb.1, hb.2, hc.1, hc.2, hd.1, hd.2, d1, d2, decide_true, Bool.and_self,
      Bool.true_and, Bool.not_false]

/-! ### `utf8Encode` writes one well-formed sequence, which `encodeStringBody` copies -/

theorem ofNat_lt_ofNat {n m : Nat} (h : n < m) (hm : m < 256) : UInt8.ofNat n < UInt8.ofNat m := by
  rwa [UInt8.lt_iff_toNat_lt, UInt8.toNat_ofNat_of_lt' (Nat.lt_trans h hm), UInt8.toNat_ofNat_of_lt' hm]

theorem ofNat_le_ofNat {n m : Nat} (h : n ≤ m) (hm : m < 256) : UInt8.ofNat n ≤ UInt8.ofNat m := by
  rwa [UInt8.le_iff_toNat_le, UInt8.toNat_ofNat_of_lt' (Nat.lt_of_le_of_lt h hm), UInt8.toNat_ofNat_of_lt' hm]

theorem ofNat_inj {n k : Nat} (hn : n < 256) (hk : k < 256) (h : UInt8.ofNat n = UInt8.ofNat k) : n = k := by
  have := congrArg UInt8.toNat h
  rwa [UInt8.toNat_ofNat_of_lt' hn, UInt8.toNat_ofNat_of_lt' hk] at this

theorem cont_ofNat {n : Nat} (h1 : 0x80 ≤ n) (h2 : n < 0xC0) : Cont (UInt8.ofNat n) :=
  ⟨ofNat_le_ofNat h1 (by omega), ofNat_lt_ofNat h2 (by decide)⟩

theorem cont_mod (x : Nat) : Cont (UInt8.ofNat (0x80 + x % 64)) :=
  cont_ofNat (by omega) (by omega)

theorem not_ofNat_lt {n k : Nat} (h : k ≤ n) (hn : n < 256) : ¬ UInt8.ofNat n < UInt8.ofNat k :=
  UInt8.not_lt.mpr (ofNat_le_ofNat h hn)

/-- the guard `a == k && P` of `utf8Valid` is off when `a = k` excludes `P` -/
theorem guard_off {a k : UInt8} {P : Prop} [Decidable P] (h : a = k → ¬ P) : (a == k && decide P) = false := by
  by_cases ha : a = k
  · simp [h ha]
  · simp [ha]

theorem utf8Encode_seq (cp : Nat) : Utf8Seq (utf8Encode cp) := by
  unfold utf8Encode
  split
  · exact .one (ofNat_lt_ofNat (m := 0x80) ‹_› (by decide))
  split
  · exact .two (not_ofNat_lt (k := 0xC2) (by omega) (by omega)) (ofNat_lt_ofNat (m := 0xE0) (by omega) (by decide))
      (cont_mod _)
  split
  · exact .three (by decide) (by decide) ⟨by decide, by decide⟩ ⟨by decide, by decide⟩ (by decide) (by decide)
  rename_i hs
  simp only [Bool.or_eq_true, Bool.and_eq_true, decide_eq_true_eq, not_or, not_and, Nat.not_lt] at hs
  split
  · refine .three (not_ofNat_lt (k := 0xE0) (by omega) (by omega)) (ofNat_lt_ofNat (m := 0xF0) (by omega) (by decide))
      (cont_mod _) (cont_mod _) (guard_off fun e => ?_) (guard_off fun e => ?_)
    · have := ofNat_inj (k := 0xE0) (by omega) (by decide) e
      exact not_ofNat_lt (k := 0xA0) (by omega) (by omega)
    · have := ofNat_inj (k := 0xED) (by omega) (by decide) e
      exact UInt8.not_le.mpr (ofNat_lt_ofNat (m := 0xA0) (by omega) (by decide))
  · refine .four (not_ofNat_lt (k := 0xF0) (by omega) (by omega)) (ofNat_lt_ofNat (m := 0xF5) (by omega) (by decide))
      (cont_mod _) (cont_mod _) (cont_mod _)
      (guard_off fun e => ?_) (guard_off fun e => ?_)
    · have := ofNat_inj (k := 0xF0) (by omega) (by decide) e
      exact not_ofNat_lt (k := 0x90) (by omega) (by omega)
    · have := ofNat_inj (k := 0xF4) (by omega) (by decide) e
      exact UInt8.not_le.mpr (ofNat_lt_ofNat (m := 0x90) (by omega) (by decide))

theorem utf8Encode_length {cp : Nat} (h : ¬ cp < 0x80) : 2 ≤ (utf8Encode cp).length := by
  unfold utf8Encode
  rw [if_neg h]
  repeat' split
  all_goals simp

theorem plainByte_of_high {c : UInt8} (h : 0x80 ≤ c) : plainByte c = true := by
  have ne : ∀ k : UInt8, k < 0x80 → (c == k) = false :=
    fun k hk => beq_eq_false_iff_ne.mpr fun e => absurd (e ▸ h) (UInt8.not_le.mpr hk)
  exact plainByte_iff.mpr ⟨ne _ (by decide), ne _ (by decide), not_lt_of_not_lt_of_le (UInt8.not_lt.mpr h) (by decide)⟩

theorem utf8Encode_plain (cp : Nat) (h1 : 0x20 ≤ cp) (h2 : cp ≠ 0x22) (h3 : cp ≠ 0x5C) :
    ∀ c ∈ utf8Encode cp, plainByte c = true := by
  intro c hc
  by_cases h : cp < 0x80
  · rw [utf8Encode, if_pos h, List.mem_singleton] at hc
    subst hc
    exact plainByte_iff.mpr ⟨beq_eq_false_iff_ne.mpr fun e => h2 (ofNat_inj (by omega) (by decide) e),
      beq_eq_false_iff_ne.mpr fun e => h3 (ofNat_inj (by omega) (by decide) e),
      not_ofNat_lt (k := 0x20) h1 (by omega)⟩
  · have hl := utf8Encode_length h
    rcases (utf8Encode_seq cp).ascii_or_high with ⟨a, _, e⟩ | ⟨_, hh⟩
    · rw [e] at hl; cases hl with | step h => cases h
    · exact plainByte_of_high (hh c hc)

theorem esb_utf8Encode (cp : Nat) (h1 : 0x20 ≤ cp) (h2 : cp ≠ 0x22) (h3 : cp ≠ 0x5C) :
    encodeStringBody (utf8Encode cp) = utf8Encode cp :=
  esb_plain _ (utf8Encode_plain cp h1 h2 h3)

/-! ### The escapes `compactUnicodeEscape` writes for code points below U+0020 -/

theorem esb_control : ∀ cp, cp < 0x20 →
    encodeStringBody (utf8Encode cp) =
      if escapeLetter cp == 0x75 then
        [0x5C, escapeLetter cp, 0x30, 0x30, UInt8.ofNat (0x30 + cp / 16), hexDigitLower (cp % 16)]
      else [0x5C, escapeLetter cp] := by
  decide +kernel

theorem hexVal_le (c : UInt8) : hexVal c ≤ 15 := by
  have range : ∀ {lo hi : UInt8}, (decide (lo ≤ c) && decide (c ≤ hi)) = true → (c - lo).toNat ≤ hi.toNat - lo.toNat := by
    intro lo hi h
    simp only [Bool.and_eq_true, decide_eq_true_eq] at h
    rw [UInt8.toNat_sub_of_le _ _ h.1]
    exact Nat.sub_le_sub_right (UInt8.le_iff_toNat_le.mp h.2) _
  unfold hexVal
  split
  · exact Nat.le_trans (range ‹_›) (by decide)
  split
  · exact Nat.le_trans (Nat.add_le_add_right (range ‹_›) 10) (by decide)
  split
  · exact Nat.le_trans (Nat.add_le_add_right (range ‹_›) 10) (by decide)
  · exact Nat.zero_le _

theorem hex4_lt (a b c d : UInt8) : hex4 a b c d < 65536 := by
  have := hexVal_le a; have := hexVal_le b; have := hexVal_le c; have := hexVal_le d
  unfold hex4; omega

end V.Json
