/-
  VProofs.ConcDnsClient — the DNS-cache invariants of C19 also cover runs in which a CLIENT of the cache
  (`DNSCache.DialContext`: lookup; on a cache hit delete the name and look it up once more) pushes new ops onto the FRONT
  of a thread's to-do list in the middle of a run (`injectOps`, as the driver `VDriver/Conc.lean` does).

  The invariant theorems of `VProps/C19.lean` are stated for `Reachable c todos t0 s`: runs from `init todos t0` with
  fixed to-do lists.  `step` only looks at the head of the mover's to-do list, so a run commutes with replacing what lies
  behind the ops a thread consumes (`step_retail`, `retail_reachable`).  Hence a reachable state with ops injected at the
  front of thread g's remaining list is reachable from the to-do lists with those ops spliced in after what thread g had
  already consumed (`inject_reachable`), and every state of `ClientReach`, the closure of `init` under `step` and
  `injectOps`, is `Reachable` for some to-do lists.  The driver's harness-granularity move `poke` is a sequence of `step`s,
  so both closures contain what it returns.
-/
import VProps.C19
namespace V.C19Client
open V.Conc V.Conc.Dns

/-- append `extra` at the END of thread `g`'s to-do list -/
def extendTodo (s : State) (g : Nat) (extra : List Op) : State :=
  match s.threads[g]? with
  | some th => { s with threads := s.threads.set g { th with todo := th.todo ++ extra } }
  | none => s

/-- prepend `ops` to thread `g`'s to-do list (the definition of `V.Driver.ConcOps.injectOps`, restated) -/
def injectOps (s : State) (g : Nat) (ops : List Op) : State :=
  match s.threads[g]? with
  | some th => { s with threads := s.threads.set g { th with todo := ops ++ th.todo } }
  | none => s

/-! ### `step` is insensitive to the unconsumed tails -/

/-- `s` with `l` as the to-do list of thread `g`, which is `th` in `s` -/
def withTodo (s : State) (g : Nat) (th : Thread) (l : List Op) : State :=
  { s with threads := s.threads.set g { th with todo := l } }

/-- `step` does not look behind the ops it consumes: if thread `g` keeps `rest` at the end of its list over a step, the
    same step is made with any `rest'` in its place.  (`pre` is `pre'`, or `pre'` with the op the step consumed in front.) -/
theorem step_retail {c : Cfg} {s s' : State} {m : Move} {g : Nat} {th' : Thread} {pre' rest : List Op}
    (h : step c s m = some s') (hth' : s'.threads[g]? = some th') (e' : th'.todo = pre' ++ rest) (rest' : List Op) :
    ∃ th pre, s.threads[g]? = some th ∧ th.todo = pre ++ rest ∧
      step c (withTodo s g th (pre ++ rest')) m = some (withTodo s' g th' (pre' ++ rest')) := by
  obtain ⟨hnow, thm, thm', es', mx', hthm, hreg, rfl⟩ := step_region h
  rw [Lists.get_set hthm] at hth'
  split at hth'
  · next hg =>
    -- thread `g` moves: its region is a region for every tail (`Region.todo`)
    subst hg; cases hth'
    have hg : ∀ l, (withTodo s m.tid thm l).threads[m.tid]? = some { thm with todo := l } := fun l => by
      simp [withTodo, Lists.get_set hthm]
    rcases hreg.todo with ⟨e, hr⟩ | ⟨op, e, hr⟩
    · refine ⟨thm, pre', hthm, e ▸ e', ?_⟩
      rw [(hr _).step (s := withTodo s m.tid thm _) (hg _) hnow]
      simp [withTodo]
    · refine ⟨thm, op :: pre', hthm, by rw [e, e']; rfl, ?_⟩
      rw [List.cons_append, (hr _).step (s := withTodo s m.tid thm _) (hg _) hnow]
      simp [withTodo]
  · next hg =>
    -- another thread moves: the same region, and the two updates of the thread table commute
    refine ⟨th', pre', hth', e', ?_⟩
    have hm : (withTodo s g th' (pre' ++ rest')).threads[m.tid]? = some thm := by
      simp only [withTodo, Lists.get_set hth', if_neg (Ne.symm hg), hthm]
    rw [hreg.step (s := withTodo s g th' _) hm hnow]
    simp only [withTodo, List.set_comm _ _ hg]

theorem retail_reachable {c : Cfg} {todos : List (List Op)} {t0 : Int} {s : State} {g : Nat} {consumed rest : List Op}
    (h : Reachable c todos t0 s) (h0 : todos[g]? = some (consumed ++ rest)) (rest' : List Op) :
    ∀ th pre, s.threads[g]? = some th → th.todo = pre ++ rest →
      Reachable c (todos.set g (consumed ++ rest')) t0 (withTodo s g th (pre ++ rest')) := by
  induction h with
  | init =>
    intro th pre hth e
    obtain ⟨ops, hops, rfl⟩ := init_thread hth
    rw [h0] at hops; cases hops
    rw [List.append_cancel_right e]
    have : withTodo (init todos t0) g ⟨.idle, pre ++ rest, []⟩ (pre ++ rest') = init (todos.set g (pre ++ rest')) t0 := by
      simp [withTodo, init, List.map_set]
    rw [this]; exact .init
  | step m _ hs ih =>
    intro th' pre' hth' e'
    obtain ⟨th, pre, hth, e, hstep⟩ := step_retail hs hth' e' rest'
    exact .step m (ih th pre hth e) hstep

theorem step_extendTodo {c : Cfg} {s s' : State} {m : Move} (g : Nat) (extra : List Op)
    (h : step c s m = some s') : step c (extendTodo s g extra) m = some (extendTodo s' g extra) := by
  cases hth' : s'.threads[g]? with
  | none =>
    have : s.threads[g]? = none := by
      obtain ⟨-, _, _, _, _, -, -, rfl⟩ := step_region h
      simpa using hth'
    simp only [extendTodo, hth', this, h]
  | some th' =>
    obtain ⟨th, pre, hth, e, hstep⟩ := step_retail (rest := []) h hth' (List.append_nil _).symm extra
    rw [List.append_nil] at e
    simpa only [extendTodo, hth, hth', withTodo, e] using hstep

theorem run_extendTodo {c : Cfg} (g : Nat) (extra : List Op) {ms : List Move} {s s' : State}
    (h : run c s ms = some s') : run c (extendTodo s g extra) ms = some (extendTodo s' g extra) := by
  induction ms generalizing s with
  | nil => cases h; rfl
  | cons m ms ih =>
    obtain ⟨s₁, hs, hr⟩ := run_cons.1 h
    exact run_cons.2 ⟨_, step_extendTodo g extra hs, ih hr⟩

/-- the initial to-do lists with `extra` appended to list `g` -/
def extendTodos (todos : List (List Op)) (g : Nat) (extra : List Op) : List (List Op) :=
  match todos[g]? with
  | some l => todos.set g (l ++ extra)
  | none => todos

theorem extendTodo_init (todos : List (List Op)) (g : Nat) (extra : List Op) (t0 : Int) :
    extendTodo (init todos t0) g extra = init (extendTodos todos g extra) t0 := by
  unfold extendTodo extendTodos init
  simp only [List.getElem?_map]
  cases todos[g]? with
  | none => rfl
  | some l => simp [List.map_set]

theorem reachable_extendTodo {c : Cfg} {todos : List (List Op)} {t0 : Int} {s : State} (g : Nat) (extra : List Op)
    (h : Reachable c todos t0 s) : Reachable c (extendTodos todos g extra) t0 (extendTodo s g extra) := by
  induction h with
  | init => rw [extendTodo_init]; exact .init
  | step m _ hs ih => exact .step m ih (step_extendTodo g extra hs)

theorem todo_suffix {c : Cfg} {todos : List (List Op)} {t0 : Int} {s : State} (g : Nat)
    (h : Reachable c todos t0 s) :
    ∀ th, s.threads[g]? = some th → ∃ consumed, todos[g]? = some (consumed ++ th.todo) := by
  induction h with
  | init =>
    intro th hth
    obtain ⟨ops, hops, rfl⟩ := init_thread hth
    exact ⟨[], hops⟩
  | step m _ hs ih =>
    intro th' hth'
    obtain ⟨th, pre, hth, e, -⟩ := step_retail (pre' := []) hs hth' rfl []
    obtain ⟨consumed, hc⟩ := ih th hth
    exact ⟨consumed ++ pre, by rw [hc, e]; simp⟩

theorem inject_reachable {c : Cfg} {todos : List (List Op)} {t0 : Int} {s : State} {g : Nat}
    {consumed rest : List Op} {th : Thread} (ops : List Op)
    (h : Reachable c todos t0 s) (h0 : todos[g]? = some (consumed ++ rest))
    (hth : s.threads[g]? = some th) (hrest : th.todo = rest) :
    Reachable c (todos.set g (consumed ++ (ops ++ rest))) t0 (injectOps s g ops) := by
  have := retail_reachable h h0 (ops ++ rest) th [] hth hrest
  simpa only [injectOps, hth, hrest, withTodo, List.nil_append] using this

/-- the same without having to name the consumed prefix: some to-do lists (as many as before) explain the state -/
theorem inject_reachable' {c : Cfg} {todos : List (List Op)} {t0 : Int} {s : State} (g : Nat) (ops : List Op)
    (h : Reachable c todos t0 s) :
    ∃ todos', todos'.length = todos.length ∧ Reachable c todos' t0 (injectOps s g ops) := by
  cases hth : s.threads[g]? with
  | none => exact ⟨todos, rfl, by unfold injectOps; rw [hth]; exact h⟩
  | some th =>
    obtain ⟨consumed, hc⟩ := todo_suffix g h th hth
    exact ⟨_, by simp, inject_reachable ops h hc hth rfl⟩

/-- closure of `init todos t0` under enabled moves AND under injections of ops at the front of any thread's to-do
    list (the driver injects only while the thread is idle, right after its lookup returned; nothing below needs that) -/
inductive ClientReach (c : Cfg) (todos : List (List Op)) (t0 : Int) : State → Prop where
  | init : ClientReach c todos t0 (init todos t0)
  | step {s s' : State} (m : Move) : ClientReach c todos t0 s → step c s m = some s' → ClientReach c todos t0 s'
  | inject {s : State} (g : Nat) (ops : List Op) : ClientReach c todos t0 s → ClientReach c todos t0 (injectOps s g ops)

theorem clientReach_reachable {c : Cfg} {todos : List (List Op)} {t0 : Int} {s : State}
    (h : ClientReach c todos t0 s) : ∃ todos', todos'.length = todos.length ∧ Reachable c todos' t0 s := by
  induction h with
  | init => exact ⟨todos, rfl, .init⟩
  | step m _ hs ih =>
    obtain ⟨todos', hl, hr⟩ := ih
    exact ⟨todos', hl, .step m hr hs⟩
  | inject g ops _ ih =>
    obtain ⟨todos', hl, hr⟩ := ih
    obtain ⟨todos'', hl', hr'⟩ := inject_reachable' g ops hr
    exact ⟨todos'', hl'.trans hl, hr'⟩

theorem size_bounded_with_injections {c : Cfg} {todos : List (List Op)} {t0 : Int} {s : State}
    (h : ClientReach c todos t0 s) : (s.entries.length : Int) ≤ max c.size 0 := by
  obtain ⟨_, _, hr⟩ := clientReach_reachable h
  exact V.C19.dns_size_bounded hr

theorem no_dup_keys_with_injections {c : Cfg} {todos : List (List Op)} {t0 : Int} {s : State}
    (h : ClientReach c todos t0 s) : (s.entries.map (·.1)).Nodup := by
  obtain ⟨_, _, hr⟩ := clientReach_reachable h
  exact V.C19.dns_no_dup_keys hr

theorem right_host_with_injections {c : Cfg} {ans : Name → Addrs}
    (hres : ∀ n k a, c.resolver n k = some a → a = ans n)
    {todos : List (List Op)} {t0 : Int} {s : State} (h : ClientReach c todos t0 s) :
    (∀ p ∈ s.entries, p.2.addrs = ans p.1) ∧
    (∀ th ∈ s.threads, ∀ r ∈ th.rets, ∀ n e, (r = .hit n e ∨ r = .miss n e) → e.addrs = ans n) := by
  obtain ⟨_, _, hr⟩ := clientReach_reachable h
  exact V.C19.dns_right_host hres hr

/-- the hypotheses are satisfiable by a run that really injects: thread 0 looks "a" up (miss, resolve, store), looks it up
    again (hit), then the client pushes `del "a"; lookup "a"` and the delete runs -/
example : ∃ s, ClientReach ⟨2, 10, fun _ _ => some [1]⟩ [[.lookup "a" 0, .lookup "a" 0]] 0 s ∧
    s.threads.map (·.todo) = [[.lookup "a" 0]] ∧ s.entries = [] := by
  refine ⟨_, .step ⟨0, 5, 0⟩ (.inject 0 [.del "a", .lookup "a" 0]
    (.step ⟨0, 4, 0⟩ (.step ⟨0, 3, 0⟩ (.step ⟨0, 2, 0⟩ (.step ⟨0, 1, 0⟩ (.step ⟨0, 0, 0⟩ .init rfl) rfl) rfl) rfl) rfl)) rfl,
    ?_, ?_⟩ <;> decide

/-! ### the driver's harness-granularity move `poke` is a sequence of `step`s -/

theorem evictLoop_closed {c : Cfg} {P : State → Prop} (hP : ∀ s s' m, P s → step c s m = some s' → P s')
    (g : Nat) (t : Int) : ∀ (fuel : Nat) (s s' : State), P s → evictLoop c g t fuel s = some s' → P s' := by
  intro fuel
  induction fuel with
  | zero => intro s s' _ h; simp [evictLoop] at h
  | succ fuel ih =>
    intro s s' hs h
    unfold evictLoop at h
    split at h
    · split at h
      · split at h
        · rename_i s1 hs1; exact ih _ _ (hP _ _ _ hs hs1) h
        · cases h
      · cases h; exact hs
    · cases h

theorem poke_closed {c : Cfg} {P : State → Prop} (hP : ∀ s s' m, P s → step c s m = some s' → P s')
    (fuel : Nat) (s : State) (g : Nat) (t : Int) (hs : P s) : P (poke c fuel s g t).1 := by
  unfold poke
  split
  · exact hs
  · split
    · split
      · exact hs
      · split
        · exact hs
        · rename_i s' hs'
          have := hP _ _ _ hs hs'
          split
          · split <;> exact this
          · exact this
    · split
      · exact hs
      · rename_i s1 hs1
        have h1 := hP _ _ _ hs hs1
        split
        · split
          · split
            · exact h1
            · rename_i s2 hs2
              have h2 := hP _ _ _ h1 hs2
              split
              · rename_i s3 hs3; exact evictLoop_closed hP g t _ _ _ h2 hs3
              · exact h2
          · exact h1
        · exact h1
    · exact hs

theorem clientReach_poke {c : Cfg} {todos : List (List Op)} {t0 : Int} {s : State} (fuel g : Nat) (t : Int)
    (h : ClientReach c todos t0 s) : ClientReach c todos t0 (poke c fuel s g t).1 :=
  poke_closed (fun _ _ m hs hstep => .step m hs hstep) fuel s g t h

theorem reachable_poke {c : Cfg} {todos : List (List Op)} {t0 : Int} {s : State} (fuel g : Nat) (t : Int)
    (h : Reachable c todos t0 s) : Reachable c todos t0 (poke c fuel s g t).1 :=
  poke_closed (fun _ _ m hs hstep => .step m hs hstep) fuel s g t h

#print axioms V.C19Client.step_extendTodo
#print axioms V.C19Client.run_extendTodo
#print axioms V.C19Client.reachable_extendTodo
#print axioms V.C19Client.todo_suffix
#print axioms V.C19Client.inject_reachable
#print axioms V.C19Client.clientReach_reachable
#print axioms V.C19Client.size_bounded_with_injections
#print axioms V.C19Client.no_dup_keys_with_injections
#print axioms V.C19Client.right_host_with_injections
#print axioms V.C19Client.clientReach_poke
end V.C19Client
