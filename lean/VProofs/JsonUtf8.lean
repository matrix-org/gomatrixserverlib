/- UTF-8 validity through the JSON model (used by C13): a text that is valid UTF-8 parses to a value
   whose strings, keys and number literals are valid UTF-8 (`parse_utf8Ok`), sorting keeps that, and
   the canonical encoding of such a value is valid UTF-8 (`utf8Valid_encodeCanon`); hence the canonical
   JSON of a valid UTF-8 text is valid UTF-8 (`canonical_utf8`). -/
import VProofs.JsonCompact
import VProofs.JsonHered
namespace V.Json

theorem utf8Valid_uncons {a : UInt8} {s : Bytes} (h : utf8Valid (a :: s) = true) :
    ∃ q r, a :: s = q ++ r ∧ Utf8Seq q ∧ utf8Valid r = true := by
  rw [utf8Valid_cons] at h
  replace h := Guard.ite_cases h
  rcases h with ⟨h1, h⟩ | ⟨-, h⟩
  · exact ⟨[a], s, rfl, .one h1, h⟩
  replace h := Guard.ite_cases h
  rcases h with ⟨-, h⟩ | ⟨h2, h⟩
  · cases h
  replace h := Guard.ite_cases h
  rcases h with ⟨h3, h⟩ | ⟨h3, h⟩
  · rcases s with _ | ⟨b, r⟩ <;> simp only [Bool.and_eq_true, decide_eq_true_eq, reduceCtorEq] at h
    exact ⟨[a, b], r, rfl, .two h2 h3 h.1, h.2⟩
  replace h := Guard.ite_cases h
  rcases h with ⟨h4, h⟩ | ⟨h4, h⟩
  · rcases s with _ | ⟨b, _ | ⟨c, r⟩⟩ <;>
      simp only [Bool.and_eq_true, Bool.not_eq_true', decide_eq_true_eq, reduceCtorEq] at h
    obtain ⟨⟨⟨⟨hb, hc⟩, d1⟩, d2⟩, hr⟩ := h
    exact ⟨[a, b, c], r, rfl, .three h3 h4 hb hc d1 d2, hr⟩
  replace h := Guard.ite_cases h
  rcases h with ⟨h5, h⟩ | ⟨-, h⟩
  · rcases s with _ | ⟨b, _ | ⟨c, _ | ⟨d, r⟩⟩⟩ <;>
      simp only [Bool.and_eq_true, Bool.not_eq_true', decide_eq_true_eq, reduceCtorEq] at h
    obtain ⟨⟨⟨⟨⟨hb, hc⟩, hd⟩, d1⟩, d2⟩, hr⟩ := h
    exact ⟨[a, b, c, d], r, rfl, .four h4 h5 hb hc hd d1 d2, hr⟩
  · cases h

/-- Induction over a valid text, one well-formed sequence at a time. -/
theorem utf8Valid_ind {P : Bytes → Prop} (nil : P [])
    (step : ∀ q r, Utf8Seq q → utf8Valid r = true → P r → P (q ++ r)) (s : Bytes) (h : utf8Valid s = true) : P s := by
  induction hn : s.length using Nat.strongRecOn generalizing s with
  | _ n ih =>
    cases s with
    | nil => exact nil
    | cons a s =>
      obtain ⟨q, r, e, hq, hr⟩ := utf8Valid_uncons h
      have : 0 < q.length := by cases hq <;> exact Nat.succ_pos _
      exact e ▸ step q r hq hr (ih r.length (by rw [← hn, e, List.length_append]; omega) r hr rfl)

theorem utf8Valid_append {a : Bytes} (ha : utf8Valid a = true) (b : Bytes) : utf8Valid (a ++ b) = utf8Valid b :=
  utf8Valid_ind (P := fun a => utf8Valid (a ++ b) = utf8Valid b) rfl
    (fun q r hq _ ih => by rw [List.append_assoc, hq.valid_append, ih]) a ha

/-- an ASCII byte is never inside a multi-byte sequence: a valid text splits around it -/
theorem utf8Valid_split {c : UInt8} (hc : c < 0x80) {a r : Bytes} (h : utf8Valid (a ++ c :: r) = true) :
    utf8Valid a = true ∧ utf8Valid r = true := by
  refine utf8Valid_ind (P := fun s => ∀ a, s = a ++ c :: r → utf8Valid a = true ∧ utf8Valid r = true)
    (fun a e => by cases a <;> cases e) (fun q r' hq hr' ih a e => ?_) _ h a rfl
  rcases List.append_eq_append_iff.mp e with ⟨a', rfl, rfl⟩ | ⟨c', rfl, e'⟩
  · obtain ⟨h1, h2⟩ := ih a' rfl
    exact ⟨by rw [hq.valid_append, h1], h2⟩
  · rcases c' with _ | ⟨x, c'⟩
    · rw [List.nil_append] at e'; subst e'
      obtain ⟨h1, h2⟩ := ih [] rfl
      exact ⟨by have := hq.valid_append []; rwa [List.append_nil, List.append_nil] at this, h2⟩
    · rw [List.cons_append, List.cons.injEq] at e'
      obtain ⟨rfl, rfl⟩ := e'
      rcases hq.ascii_or_high with ⟨y, _, e⟩ | ⟨_, hh⟩
      · rcases a with _ | ⟨z, a⟩
        · rw [List.nil_append, List.cons.injEq] at e
          rw [e.2, List.nil_append]; exact ⟨rfl, hr'⟩
        · rw [List.cons_append, List.cons.injEq] at e; cases a <;> cases e.2
      · exact absurd hc (UInt8.not_lt.mpr (hh c (List.mem_append_right _ List.mem_cons_self)))

theorem utf8Valid_utf8Encode (cp : Nat) : utf8Valid (utf8Encode cp) = true := by
  have := (utf8Encode_seq cp).valid_append []
  rwa [List.append_nil] at this

abbrev allAscii (l : Bytes) : Prop := ∀ c ∈ l, c < 0x80

theorem utf8Valid_ascii_append : ∀ (l r : Bytes), allAscii l → utf8Valid (l ++ r) = utf8Valid r
  | [], _, _ => rfl
  | c :: l, r, h => by
    rw [List.cons_append, utf8Valid_cons_ascii (h c List.mem_cons_self),
      utf8Valid_ascii_append l r (fun x hx => h x (List.mem_cons_of_mem _ hx))]

theorem utf8Valid_of_ascii (l : Bytes) (h : allAscii l) : utf8Valid l = true := by
  have := utf8Valid_ascii_append l [] h
  rw [List.append_nil] at this; rw [this]; rfl

theorem isHex_ascii (c : UInt8) (h : isHex c = true) : c < 0x80 := by
  simp only [isHex, Bool.or_eq_true, Bool.and_eq_true, decide_eq_true_eq] at h
  rcases h with (⟨_, h⟩ | ⟨_, h⟩) | ⟨_, h⟩ <;> exact UInt8.lt_of_le_of_lt h (by decide)

theorem isWs_ascii (c : UInt8) (h : isWs c = true) : c < 0x80 :=
  UInt8.lt_of_le_of_lt (isWs_facts h).1 (by decide)

theorem isDigit_ascii (c : UInt8) (h : isDigit c = true) : c < 0x80 := by
  simp only [isDigit, Bool.and_eq_true, decide_eq_true_eq] at h
  exact UInt8.lt_of_le_of_lt h.2 (by decide)

theorem simpleEscapes_ascii : ∀ p ∈ simpleEscapes, p.1 < 0x80 ∧ p.2 < 0x80 := by decide

theorem simpleEscape_ascii (e x : UInt8) (h : simpleEscape e = some x) : e < 0x80 ∧ x < 0x80 :=
  simpleEscapes_ascii _ (simpleEscape_mem h)

theorem skipWs_utf8 : ∀ s : Bytes, utf8Valid (skipWs s) = utf8Valid s
  | [] => rfl
  | c :: rest => by
    unfold skipWs
    split
    · rename_i h
      rw [skipWs_utf8 rest, utf8Valid_cons_ascii (isWs_ascii c h)]
    · rfl

theorem utf8Valid_hex_tail {a b c d : UInt8} {rest : Bytes} (hx : (isHex a && isHex b && isHex c && isHex d) = true)
    (hu : utf8Valid (a :: b :: c :: d :: rest) = true) : utf8Valid rest = true := by
  simp only [Bool.and_eq_true] at hx
  obtain ⟨⟨⟨ha, hb⟩, hc⟩, hd⟩ := hx
  rwa [utf8Valid_cons_ascii (isHex_ascii _ ha), utf8Valid_cons_ascii (isHex_ascii _ hb),
    utf8Valid_cons_ascii (isHex_ascii _ hc), utf8Valid_cons_ascii (isHex_ascii _ hd)] at hu

theorem UEsc.utf8 {s ru du s' : Bytes} (h : UEsc s ru du s') (hu : utf8Valid s = true) :
    utf8Valid du = true ∧ utf8Valid s' = true := by
  cases h with
  | plain hx _ => exact ⟨utf8Valid_utf8Encode _, utf8Valid_hex_tail hx hu⟩
  | lone hx _ _ => exact ⟨utf8Valid_utf8Encode _, utf8Valid_hex_tail hx hu⟩
  | pair hx _ hx2 =>
    have := utf8Valid_hex_tail hx hu
    rw [utf8Valid_cons_ascii (by decide), utf8Valid_cons_ascii (by decide)] at this
    exact ⟨utf8Valid_utf8Encode _, utf8Valid_hex_tail hx2 this⟩

/-- the decoded bytes of a string of a valid text are valid UTF-8, and so is what follows the string;
    `pre` is what has been decoded so far (a plain byte may be in the middle of a sequence) -/
theorem StrBody.utf8 {s r d rest : Bytes} (h : StrBody s r d rest) :
    ∀ pre, utf8Valid (pre ++ s) = true → utf8Valid (pre ++ d) = true ∧ utf8Valid rest = true := by
  induction h with
  | quote => intro pre hu; rw [List.append_nil]; exact utf8Valid_split (by decide) hu
  | @byte c _ _ _ _ _ _ _ _ ih =>
    intro pre hu
    have := ih (pre ++ [c]) (by rwa [List.append_assoc])
    rwa [List.append_assoc] at this
  | @esc e x _ _ _ _ hx _ ih =>
    intro pre hu
    obtain ⟨hp, hr⟩ := utf8Valid_split (c := 0x5C) (by decide) hu
    obtain ⟨he, hxa⟩ := simpleEscape_ascii e x hx
    rw [utf8Valid_cons_ascii he] at hr
    have := ih (pre ++ [x]) (by
      rw [List.append_assoc, utf8Valid_append hp, List.cons_append, List.nil_append, utf8Valid_cons_ascii hxa]
      exact hr)
    rwa [List.append_assoc] at this
  | @uesc _ _ du _ _ _ _ hue _ ih =>
    intro pre hu
    obtain ⟨hp, hr⟩ := utf8Valid_split (c := 0x5C) (by decide) hu
    rw [utf8Valid_cons_ascii (by decide)] at hr
    obtain ⟨hdu, hs'⟩ := hue.utf8 hr
    have := ih (pre ++ du) (by rw [List.append_assoc, utf8Valid_append hp, utf8Valid_append hdu]; exact hs')
    rwa [List.append_assoc] at this

theorem StrBody.utf8_nil {s r d rest : Bytes} (h : StrBody s r d rest) (hu : utf8Valid s = true) :
    utf8Valid d = true ∧ utf8Valid rest = true := h.utf8 [] hu

/-! ### number literals are ASCII -/

theorem allAscii_digits {l : Bytes} (h : allDigits l) : allAscii l := fun c hc => isDigit_ascii c (h c hc)

theorem allAscii_cons {c : UInt8} {l : Bytes} (hc : c < 0x80) (hl : allAscii l) : allAscii (c :: l) :=
  List.forall_mem_cons.mpr ⟨hc, hl⟩

theorem numParts_ascii {sign ip fp ep : Bytes} (h : NumParts sign ip fp ep) : allAscii (sign ++ ip ++ fp ++ ep) := by
  have h1 : allAscii sign := by rcases h.sign with rfl | rfl <;> decide
  have h2 : allAscii ip := by
    rcases h.ip with rfl | ⟨c, ds, rfl, hc, _, hds⟩
    · decide
    · exact allAscii_cons (isDigit_ascii c hc) (allAscii_digits hds)
  have h3 : allAscii fp := by
    rcases h.fp with rfl | ⟨c, ds, rfl, hds⟩
    · decide
    · exact allAscii_cons (by decide) (allAscii_digits hds)
  have h4 : allAscii ep := by
    rcases h.ep with rfl | ⟨e, sg, c, ds, rfl, he, hsg, hds⟩
    · decide
    · have hsg' : allAscii sg := by rcases hsg with rfl | rfl | rfl <;> decide
      have he' : e < 0x80 := by rcases he with rfl | rfl <;> decide
      exact allAscii_cons he' (List.forall_mem_append.mpr ⟨hsg', allAscii_digits hds⟩)
  exact List.forall_mem_append.mpr ⟨List.forall_mem_append.mpr ⟨List.forall_mem_append.mpr ⟨h1, h2⟩, h3⟩, h4⟩

theorem parseNumber_utf8 {s lit rest : Bytes} (h : parseNumber s = some (lit, rest)) (hu : utf8Valid s = true) :
    utf8Valid lit = true ∧ utf8Valid rest = true := by
  obtain ⟨sign, ip, fp, ep, hp, rfl, hs, _⟩ := parseNumber_parts h
  have ha := numParts_ascii hp
  rw [hs, utf8Valid_ascii_append _ _ ha] at hu
  exact ⟨utf8Valid_of_ascii _ ha, hu⟩

/-! ### values whose strings, keys and number literals are valid UTF-8 -/

mutual
def JVal.utf8Ok : JVal → Bool
  | .num lit => utf8Valid lit
  | .str s => utf8Valid s
  | .arr xs => utf8OkList xs
  | .obj kvs => utf8OkMembers kvs
  | _ => true
def utf8OkList : List JVal → Bool
  | [] => true
  | x :: xs => x.utf8Ok && utf8OkList xs
def utf8OkMembers : List (Bytes × JVal) → Bool
  | [] => true
  | (k, v) :: kvs => utf8Valid k && v.utf8Ok && utf8OkMembers kvs
end

theorem utf8OkList_append : ∀ (a b : List JVal), utf8OkList (a ++ b) = (utf8OkList a && utf8OkList b)
  | [], _ => by simp [utf8OkList]
  | x :: a, b => by simp only [List.cons_append, utf8OkList, utf8OkList_append a b, Bool.and_assoc]

theorem utf8OkMembers_append : ∀ (a b : List (Bytes × JVal)), utf8OkMembers (a ++ b) = (utf8OkMembers a && utf8OkMembers b)
  | [], _ => by simp [utf8OkMembers]
  | (k, v) :: a, b => by simp only [List.cons_append, utf8OkMembers, utf8OkMembers_append a b, Bool.and_assoc]

theorem utf8Valid_of_skipWs_eq_append {s rest : Bytes} (l : Bytes) (h : skipWs s = l ++ rest) (hl : allAscii l)
    (hu : utf8Valid s = true) : utf8Valid rest = true := by
  rwa [← skipWs_utf8, h, utf8Valid_ascii_append _ _ hl] at hu

theorem skipWs_tail {s rest : Bytes} {c : UInt8} (h : skipWs s = c :: rest) (hu : utf8Valid s = true) (hc : c < 0x80) :
    utf8Valid rest = true :=
  utf8Valid_of_skipWs_eq_append [c] h (fun _ hx => List.mem_singleton.mp hx ▸ hc) hu

theorem Parsed.utf8 {s p rest} (h : Parsed s p rest) : utf8Valid s = true →
    p.toJVal.utf8Ok = true ∧ utf8Valid rest = true := by
  apply Parsed.rec (t := h)
    (motive_1 := fun s p rest _ => utf8Valid s = true → p.toJVal.utf8Ok = true ∧ utf8Valid rest = true)
    (motive_2 := fun s xs rest _ => utf8Valid s = true →
      utf8OkList (toJVals xs) = true ∧ utf8Valid rest = true)
    (motive_3 := fun s kvs rest _ => utf8Valid s = true →
      utf8OkMembers (toJMembers kvs) = true ∧ utf8Valid rest = true)
  case null => exact fun hs hu => ⟨rfl, utf8Valid_of_skipWs_eq_append [0x6E, 0x75, 0x6C, 0x6C] hs (by decide) hu⟩
  case btrue => exact fun hs hu => ⟨rfl, utf8Valid_of_skipWs_eq_append [0x74, 0x72, 0x75, 0x65] hs (by decide) hu⟩
  case bfalse => exact fun hs hu => ⟨rfl, utf8Valid_of_skipWs_eq_append [0x66, 0x61, 0x6C, 0x73, 0x65] hs (by decide) hu⟩
  case num => exact fun hs hp hu => parseNumber_utf8 hp (by rwa [← hs, skipWs_utf8])
  case str => exact fun hs hp hu => hp.utf8_nil (skipWs_tail hs hu (by decide))
  case arrNil | objNil =>
    exact fun hs hs2 hu => ⟨rfl, skipWs_tail hs2 (skipWs_tail hs hu (by decide)) (by decide)⟩
  case arr | obj => exact fun hs _ ih hu => ih (by rw [skipWs_utf8]; exact skipWs_tail hs hu (by decide))
  case last =>
    intro _ _ _ _ _ hs ih hu
    have ⟨hv, hr⟩ := ih hu
    exact ⟨by simp only [toJVals, utf8OkList, hv, Bool.and_self], skipWs_tail hs hr (by decide)⟩
  case more =>
    intro _ _ _ _ _ _ _ hs _ ih iht hu
    have ⟨hv, hr⟩ := ih hu
    have ⟨hvs, hr'⟩ := iht (skipWs_tail hs hr (by decide))
    exact ⟨by simp only [toJVals, utf8OkList, hv, hvs, Bool.and_self], hr'⟩
  case lastM =>
    intro _ _ _ _ _ _ _ _ _ hs hp hs1 _ hs3 ih hu
    have ⟨hk, hr1⟩ := hp.utf8_nil (skipWs_tail hs hu (by decide))
    have ⟨hv, hr3⟩ := ih (skipWs_tail hs1 hr1 (by decide))
    exact ⟨by simp only [toJMembers, utf8OkMembers, hk, hv, Bool.and_self], skipWs_tail hs3 hr3 (by decide)⟩
  case moreM =>
    intro _ _ _ _ _ _ _ _ _ _ _ hs hp hs1 _ hs3 _ ih iht hu
    have ⟨hk, hr1⟩ := hp.utf8_nil (skipWs_tail hs hu (by decide))
    have ⟨hv, hr3⟩ := ih (skipWs_tail hs1 hr1 (by decide))
    have ⟨hkvs, hr'⟩ := iht (skipWs_tail hs3 hr3 (by decide))
    exact ⟨by simp only [toJMembers, utf8OkMembers, hk, hv, hkvs, Bool.and_self], hr'⟩

theorem parse_utf8Ok {t : Bytes} {p : PVal} (hp : parse t = some p) (hu : utf8Valid t = true) :
    p.toJVal.utf8Ok = true :=
  let ⟨_, h, _⟩ := Parsed.of_parse hp; (h.utf8 hu).1

theorem utf8Ok_hered :
    Hered (·.utf8Ok = true) (utf8OkList · = true) (utf8OkMembers · = true) (utf8Valid · = true) (fun _ => True) where
  arr _ := Iff.rfl
  obj _ := ⟨.intro trivial, And.right⟩
  list xs := by induction xs <;> simp [utf8OkList, *]
  members kvs := by induction kvs <;> simp [utf8OkMembers, *]

theorem utf8Ok_sorted : (v : JVal) → v.utf8Ok = true → v.sorted.utf8Ok = true :=
  (utf8Ok_hered.map sorted_hmap (fun _ h => h) fun _ h => h).1
theorem utf8OkList_sorted : (xs : List JVal) → utf8OkList xs = true → utf8OkList (sortedList xs) = true :=
  fun xs => utf8Ok_sorted (.arr xs)
theorem utf8OkMembers_sorted : (kvs : List (Bytes × JVal)) → utf8OkMembers kvs = true →
    utf8OkMembers (sortedMembers kvs) = true :=
  (utf8Ok_hered.map sorted_hmap (fun _ h => h) fun _ h => h).2.2

theorem esb_one_ascii (c : UInt8) (hc : c < 0x80) : allAscii (encodeStringBody [c]) := by
  rcases esb_one c with ⟨e, he, h⟩ | ⟨hlt, h⟩ | ⟨-, h⟩ <;> rw [h]
  · exact allAscii_cons (by decide) (allAscii_cons (simpleEscape_ascii e c he).1 nofun)
  · obtain ⟨t1, t2, _⟩ := ctrl_table c.toNat (by simpa using UInt8.lt_iff_toNat_lt.mp hlt)
    exact allAscii_cons (by decide) (allAscii_cons (by decide) (allAscii_cons (by decide) (allAscii_cons (by decide)
      (allAscii_cons (isHex_ascii _ t1) (allAscii_cons (isHex_ascii _ t2) nofun)))))
  · exact allAscii_cons hc nofun

theorem utf8Valid_esb {s : Bytes} (h : utf8Valid s = true) : utf8Valid (encodeStringBody s) = true := by
  refine utf8Valid_ind (P := fun s => utf8Valid (encodeStringBody s) = true) rfl (fun q r hq _ ih => ?_) s h
  rw [esb_append]
  rcases hq.ascii_or_high with ⟨a, ha, rfl⟩ | ⟨_, hh⟩
  · rwa [utf8Valid_ascii_append _ _ (esb_one_ascii a ha)]
  · rwa [esb_plain q fun c hc => plainByte_of_high (hh c hc), hq.valid_append]

theorem utf8Valid_joinWith {sep : UInt8} (hs : sep < 0x80) : ∀ l : List Bytes, (∀ x ∈ l, utf8Valid x = true) →
    utf8Valid (joinWith sep l) = true
  | [], _ => rfl
  | [x], h => by simpa [joinWith] using h x (by simp)
  | x :: y :: l, h => by
    have hx := h x (by simp)
    have := utf8Valid_joinWith hs (y :: l) (fun z hz => h z (List.mem_cons_of_mem _ hz))
    rw [joinWith_cons_ne sep x (List.cons_ne_nil y l), utf8Valid_append hx, utf8Valid_cons_ascii hs]
    exact this

theorem utf8Valid_wrap {o c : UInt8} (ho : o < 0x80) (hc : c < 0x80) {m : Bytes} (hm : utf8Valid m = true) :
    utf8Valid (o :: m ++ [c]) = true := by
  rw [List.cons_append, utf8Valid_cons_ascii ho, utf8Valid_append hm, utf8Valid_cons_ascii hc]; rfl

/-- one member as `encodeMembers` writes it -/
theorem utf8Valid_member {k e : Bytes} (hk : utf8Valid k = true) (he : utf8Valid e = true) :
    utf8Valid (0x22 :: encodeStringBody k ++ [0x22, 0x3A] ++ e) = true := by
  rw [List.cons_append, List.cons_append, utf8Valid_cons_ascii (by decide), List.append_assoc,
    utf8Valid_append (utf8Valid_esb hk)]
  simp only [List.cons_append, List.nil_append]
  rwa [utf8Valid_cons_ascii (by decide), utf8Valid_cons_ascii (by decide)]

theorem utf8Valid_encode : (v : JVal) → v.utf8Ok = true → utf8Valid (encode v) = true := by
  intro v
  induction v using JVal.ind with
  | null => exact fun _ => by decide
  | bool b => cases b <;> exact fun _ => by decide
  | num lit =>
    intro h
    simp only [encode, encodeNum]
    split
    · decide
    · exact h
  | str s => exact fun h => utf8Valid_wrap (by decide) (by decide) (utf8Valid_esb h)
  | arr xs ih =>
    intro h
    refine utf8Valid_wrap (by decide) (by decide) (utf8Valid_joinWith (by decide) _ ?_)
    rw [encodeList_eq_map]
    exact List.forall_mem_map.mpr fun x hx => ih x hx ((utf8Ok_hered.list xs).mp h x hx)
  | obj kvs ih =>
    intro h
    refine utf8Valid_wrap (by decide) (by decide) (utf8Valid_joinWith (by decide) _ ?_)
    rw [encodeMembers_eq_map]
    exact List.forall_mem_map.mpr fun kv hkv =>
      have hm := (utf8Ok_hered.members kvs).mp h kv hkv
      utf8Valid_member hm.1 (ih kv hkv hm.2)
theorem utf8Valid_encodeMembers : (kvs : List (Bytes × JVal)) → utf8OkMembers kvs = true →
    ∀ x ∈ encodeMembers kvs, utf8Valid x = true := by
  intro kvs h
  rw [encodeMembers_eq_map]
  exact List.forall_mem_map.mpr fun kv hkv =>
    have hm := (utf8Ok_hered.members kvs).mp h kv hkv
    utf8Valid_member hm.1 (utf8Valid_encode kv.2 hm.2)

theorem utf8Valid_encodeCanon (v : JVal) (h : v.utf8Ok = true) : utf8Valid (encodeCanon v) = true :=
  utf8Valid_encode _ (utf8Ok_sorted v h)

theorem canonical_utf8 {t : Bytes} {p : PVal} (hp : parse t = some p) (hu : utf8Valid t = true) :
    utf8Valid (encodeCanon p.toJVal) = true :=
  utf8Valid_encodeCanon _ (parse_utf8Ok hp hu)

end V.Json
