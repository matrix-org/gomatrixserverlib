/-
  Kahn's algorithm of VModel.StateRes (`kahn`, `kahnLoop`): named pieces, the de-duplicated node list and
  the in-degree table (as a lookup function).
-/
import VProofs.StateResBasic
import VProofs.Assoc
namespace V.StateRes
open List

/-! ## The pieces of `kahn` / `kahnLoop`, by name -/

def kahnDedupStep {κ} (acc : List (KNode κ)) (n : KNode κ) : List (KNode κ) :=
  if acc.any (fun m => m.ev.eventID == n.ev.eventID) then acc else acc ++ [n]

/-- the node list with duplicates (same event ID) removed, first occurrence kept -/
def kNodes {κ} (nodes0 : List (KNode κ)) : List (KNode κ) := nodes0.foldl kahnDedupStep []

def kBump (deg : List (ID × Nat)) (id : ID) (by_ : Nat) : List (ID × Nat) :=
  if (deg.find? (fun d => d.1 == id)).isSome then deg.map (fun d => if d.1 == id then (d.1, d.2 + by_) else d)
  else deg ++ [(id, by_)]

def kahnInDeg {κ} (parents : Event → List ID) (nodes : List (KNode κ)) : List (ID × Nat) :=
  nodes.foldl (fun deg n => (parents n.ev).foldl (fun d pid => kBump d pid 1) (kBump deg n.ev.eventID 0)) []

/-- lookup in an in-degree table -/
def kDegOf (deg : List (ID × Nat)) (id : ID) : Option Nat := (deg.find? (fun d => d.1 == id)).map (·.2)

def kahnZero {κ} (inDeg : List (ID × Nat)) (nodes : List (KNode κ)) : List (KNode κ) :=
  nodes.filter (fun n => kDegOf inDeg n.ev.eventID == some 0)

def kahnRemaining {κ} (inDeg : List (ID × Nat)) (nodes : List (KNode κ)) : List (KNode κ) :=
  nodes.filter (fun n => !(kDegOf inDeg n.ev.eventID == some 0))

def kahnOut {κ} (lt : κ → κ → Bool) (r : List (KNode κ) × List (KNode κ)) : List Event :=
  ((sortBy (fun a b => lt a.key b.key) r.1) ++ r.2).map (·.ev)

/-- the loop as `kahn` starts it; it returns (strays, placed) -/
def kahnRun {κ} (lt : κ → κ → Bool) (parents : Event → List ID) (nodes0 : List (KNode κ)) : List (KNode κ) × List (KNode κ) :=
  kahnLoop lt parents ((kNodes nodes0).length + 1)
    (kahnRemaining (kahnInDeg parents (kNodes nodes0)) (kNodes nodes0))
    (kahnInDeg parents (kNodes nodes0))
    (sortBy (fun a b => lt a.key b.key) (kahnZero (kahnInDeg parents (kNodes nodes0)) (kNodes nodes0))) []

theorem kahn_eq {κ} (lt : κ → κ → Bool) (parents : Event → List ID) (nodes0 : List (KNode κ)) :
    kahn lt parents nodes0 = kahnOut lt (kahnRun lt parents nodes0) := rfl

def decMap (deg : List (ID × Nat)) (pid : ID) : List (ID × Nat) :=
  deg.map (fun d => if d.1 == pid then (d.1, d.2 - 1) else d)

/-- what the inner fold of `kahnLoop` carries: the in-degree table, the remaining nodes, the nodes without incoming edge -/
abbrev KAcc (κ : Type) := List (ID × Nat) × List (KNode κ) × List (KNode κ)

/-- the inner-fold step of `kahnLoop` (lambda copied verbatim) -/
def kDecStep {κ} (acc : List (ID × Nat) × List (KNode κ) × List (KNode κ)) (pid : ID) :
    List (ID × Nat) × List (KNode κ) × List (KNode κ) :=
  let (deg, rem, ni) := acc
  let deg' := deg.map (fun d => if d.1 == pid then (d.1, d.2 - 1) else d)
  let now := (deg'.find? (fun d => d.1 == pid)).map (·.2)
  if now == some 0 then
    match rem.find? (fun n => n.ev.eventID == pid) with
    | some n => (deg', rem.filter (fun m => m.ev.eventID != pid), ni ++ [n])
    | none => (deg', rem, ni)
  else (deg', rem, ni)

theorem kDecStep_eq {κ} (deg : List (ID × Nat)) (rem ni : List (KNode κ)) (pid : ID) :
    kDecStep (deg, rem, ni) pid =
      if kDegOf (decMap deg pid) pid == some 0 then
        match rem.find? (fun n => n.ev.eventID == pid) with
        | some n => (decMap deg pid, rem.filter (fun m => m.ev.eventID != pid), ni ++ [n])
        | none => (decMap deg pid, rem, ni)
      else (decMap deg pid, rem, ni) := rfl

theorem kahnLoop_zero_eq {κ} (lt : κ → κ → Bool) (parents : Event → List ID) (rem : List (KNode κ)) (deg : List (ID × Nat))
    (ni graph : List (KNode κ)) : kahnLoop lt parents 0 rem deg ni graph = (rem, graph) := rfl

theorem kahnLoop_succ {κ} (lt : κ → κ → Bool) (parents : Event → List ID) (fuel : Nat) (rem : List (KNode κ))
    (deg : List (ID × Nat)) (ni graph : List (KNode κ)) :
    kahnLoop lt parents (fuel + 1) rem deg ni graph =
      match ni.reverse with
      | [] => (rem, graph)
      | node :: restRev =>
        kahnLoop lt parents fuel ((parents node.ev).foldl kDecStep (deg, rem, restRev.reverse)).2.1
          ((parents node.ev).foldl kDecStep (deg, rem, restRev.reverse)).1
          (sortBy (fun a b => lt a.key b.key) ((parents node.ev).foldl kDecStep (deg, rem, restRev.reverse)).2.2)
          (node :: graph) := rfl

/-! ## De-duplication: first node per event ID

  `kahnDedupStep` is `dedupByStep (·.ev.eventID)` by definition, so the `dedupBy_*` lemmas apply to `kNodes` as they stand. -/

def KIdNodup {κ} (l : List (KNode κ)) : Prop := (l.map (·.ev.eventID)).Nodup

theorem KIdNodup.nodup {κ} {l : List (KNode κ)} (h : KIdNodup l) : l.Nodup := Lists.nodup_of_nodup_map _ h

theorem KIdNodup.perm {κ} {l l' : List (KNode κ)} (h : KIdNodup l) (hp : l ~ l') : KIdNodup l' := by
  unfold KIdNodup at *; exact (hp.map _).nodup_iff.mp h

theorem KIdNodup.sublist {κ} {l l' : List (KNode κ)} (h : KIdNodup l) (hs : l' <+ l) : KIdNodup l' := by
  unfold KIdNodup at *; exact List.Nodup.sublist (hs.map _) h

theorem mem_kNodes {κ} {l : List (KNode κ)} {n : KNode κ} (h : n ∈ kNodes l) : n ∈ l :=
  (dedupBy_mem _ h).resolve_left List.not_mem_nil

theorem kNodes_idNodup {κ} (l : List (KNode κ)) : KIdNodup (kNodes l) := dedupBy_nodup _ List.nodup_nil

/-- the event ID identifies the node within `U` -/
def KId {κ} (U : KNode κ → Prop) : Prop := ∀ a b, U a → U b → a.ev.eventID = b.ev.eventID → a = b

theorem mem_kNodes_of_mem {κ} {U : KNode κ → Prop} (hU : KId U) {l : List (KNode κ)} (hl : ∀ n ∈ l, U n)
    {n : KNode κ} (h : n ∈ l) : n ∈ kNodes l := dedupBy_mem_of_mem _ hU hl h

theorem kNodes_perm {κ} {U : KNode κ → Prop} (hU : KId U) {l l' : List (KNode κ)} (hl : ∀ n ∈ l, U n)
    (hl' : ∀ n ∈ l', U n) (h : SameSet l l') : kNodes l ~ kNodes l' := by
  refine SameSet.perm ?_ (kNodes_idNodup l).nodup (kNodes_idNodup l').nodup
  intro n
  constructor
  · intro hn; exact mem_kNodes_of_mem hU hl' ((h n).mp (mem_kNodes hn))
  · intro hn; exact mem_kNodes_of_mem hU hl ((h n).mpr (mem_kNodes hn))

/-! ## In-degree tables as lookup functions -/

/-- two tables that answer every lookup alike -/
def KDegEq (d d' : List (ID × Nat)) : Prop := ∀ x, kDegOf d x = kDegOf d' x

theorem KDegEq.symm {d d' : List (ID × Nat)} (h : KDegEq d d') : KDegEq d' d := fun x => (h x).symm
theorem kDegOf_nil (x : ID) : kDegOf [] x = none := rfl

/-! `kDegOf` is `Assoc.lookup`, `kBump d id by_` is `Assoc.upsert d id (· + by_) by_`, both by definition. -/

theorem kDegOf_cons (a : ID × Nat) (deg : List (ID × Nat)) (x : ID) :
    kDegOf (a :: deg) x = if a.1 = x then some a.2 else kDegOf deg x :=
  (Assoc.lookup_cons a deg x).trans (Assoc.ite_beq _ _ _ _)

theorem kDegOf_decMap (deg : List (ID × Nat)) (pid x : ID) :
    kDegOf (decMap deg pid) x = if x = pid then (kDegOf deg x).map (· - 1) else kDegOf deg x :=
  (Assoc.lookup_mapVal (· - 1) deg pid x).trans (Assoc.ite_beq _ _ _ _)

theorem getD_kDegOf_decMap (deg : List (ID × Nat)) (pid x : ID) :
    (kDegOf (decMap deg pid) x).getD 0 = (kDegOf deg x).getD 0 - (if x = pid then 1 else 0) := by
  rw [kDegOf_decMap]
  by_cases h : x = pid
  · simp only [h, if_true]; cases kDegOf deg pid <;> simp
  · simp [h]

theorem isSome_kDegOf_decMap (deg : List (ID × Nat)) (pid x : ID) :
    (kDegOf (decMap deg pid) x).isSome = (kDegOf deg x).isSome := by
  rw [kDegOf_decMap]; split <;> simp

theorem kDegOf_kBump (deg : List (ID × Nat)) (id : ID) (by_ : Nat) (x : ID) :
    kDegOf (kBump deg id by_) x = if x = id then some ((kDegOf deg id).getD 0 + by_) else kDegOf deg x := by
  refine ((Assoc.lookup_upsert deg id (· + by_) by_ x).trans (Assoc.ite_beq _ _ _ _)).trans ?_
  show (if x = id then some (((kDegOf deg id).map (· + by_)).getD by_) else kDegOf deg x) = _
  cases kDegOf deg id
  · simp only [Option.map_none, Option.getD_none, Nat.zero_add]
  · rfl

/-- the kBump operations `kahnInDeg` performs, as a list -/
def kahnOps {κ} (parents : Event → List ID) (nodes : List (KNode κ)) : List (ID × Nat) :=
  nodes.flatMap (fun n => (n.ev.eventID, 0) :: (parents n.ev).map (fun pid => (pid, 1)))

def kBumpOp (d : List (ID × Nat)) (op : ID × Nat) : List (ID × Nat) := kBump d op.1 op.2

theorem kahnInDeg_eq {κ} (parents : Event → List ID) (nodes : List (KNode κ)) :
    kahnInDeg parents nodes = (kahnOps parents nodes).foldl kBumpOp [] := by
  unfold kahnInDeg kahnOps
  rw [List.foldl_flatMap]
  congr 1
  funext deg n
  rw [List.foldl_cons, List.foldl_map]
  rfl

end V.StateRes
