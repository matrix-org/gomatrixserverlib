/- What a successful SignJSON does to an object: the shape of the result, which signature VerifyJSON finds
   in it, and that every other signature, every signed member and `unsigned` are kept. -/
import VProofs.SignMaps
namespace V.Sign
open V V.Json V.GoJson List

/-- the inner map SignJSON extends (empty when the name has no entry yet) -/
def innerOf (m : SigMap) (n : Bytes) : List (Bytes × Bytes) :=
  match mapGet m n with
  | some (some i) => i
  | _ => []

/-- `signatures[name][kid]` in a decoded map -/
def lookupIn (m : SigMap) (n k : Bytes) : SigLookup :=
  match mapGet m n with
  | some (some inner) =>
    match mapGet inner k with
    | some s => .found s
    | none => .noSig
  | _ => .noSig

def SigLookup.sigAt : SigLookup → Option Bytes
  | .found s => some s
  | _ => none

theorem sigAt_eq_some {l : SigLookup} {s : Bytes} (h : l.sigAt = some s) : l = .found s := by
  cases l <;> simp [SigLookup.sigAt] at h
  rw [h]

theorem signJSON_ok_shape (S : SigScheme) (n k : Bytes) (sk : S.SK) (o : List (Bytes × JVal)) (v' : JVal)
    (h : signJSON S n k sk (.obj o) = .ok v') :
    ∃ p, readPreserve o = some p ∧
      v' = .obj (assemble (body o)
        (sigMapToJVal (mapSet (p.sigs.getD []) n (some (mapSet (innerOf (p.sigs.getD []) n) k (S.sign sk (payload o))))))
        p.unsigned) := by
  unfold signJSON at h
  cases hd : readPreserve o with
  | none => simp [hd] at h
  | some p =>
    simp only [hd, Option.map_some] at h
    refine ⟨p, rfl, ?_⟩
    rcases hg : mapGet (p.sigs.getD []) n with _ | _ | inner <;>
      simp only [hg, Except.ok.injEq] at h <;> rw [← h] <;> simp [innerOf, hg, mapSet, membersOf, payload]

theorem wf_mapSet_innerOf (m : SigMap) (n k sig : Bytes) (hw : WF m) :
    WF (mapSet m n (some (mapSet (innerOf m n) k sig))) := by
  apply wf_mapSet m n _ hw
  intro es hes
  cases hes
  apply uniqueKeys_mapSet
  unfold innerOf
  cases hg : mapGet m n with
  | none => exact Pairwise.nil
  | some i =>
    cases i with
    | none => exact Pairwise.nil
    | some inner => exact hw.2 (n, some inner) (mem_of_mapGet hg) inner rfl

/-- In the object SignJSON assembles, VerifyJSON's lookup is a lookup in the marshalled map. -/
theorem sigLookup_assemble (b : List (Bytes × JVal)) (m : SigMap) (hw : WF m) (uns : Option JVal) (n k : Bytes) :
    sigLookup (assemble b (sigMapToJVal m) uns) n k = lookupIn m n k := by
  have hd := decode_sigMapToJVal m hw
  unfold sigLookup
  rw [getLast_assemble_sig]
  unfold sigMapToJVal at hd ⊢
  simp only [hd]
  unfold lookupIn
  cases mapGet m n with
  | none => rfl
  | some i => cases i <;> rfl

theorem lookupIn_set_same (m : SigMap) (i : List (Bytes × Bytes)) (n k sig : Bytes) :
    lookupIn (mapSet m n (some (mapSet i k sig))) n k = .found sig := by
  simp only [lookupIn, mapGet_mapSet, if_true]

/-- Every other lookup is unchanged.  The two cases are one statement because `sign_effect` quantifies over the pair:
    under another name any new inner map would do; under `n` it has to be the old inner map with `k` assigned. -/
theorem lookupIn_set_other (m : SigMap) (n k sig n' k' : Bytes) (hne : (n', k') ≠ (n, k)) :
    (lookupIn (mapSet m n (some (mapSet (innerOf m n) k sig))) n' k').sigAt = (lookupIn m n' k').sigAt := by
  unfold lookupIn
  by_cases hn : n' = n
  · subst hn
    have hk : k' ≠ k := fun e => hne (by rw [e])
    simp only [mapGet_mapSet, if_true, if_neg hk, innerOf]
    rcases mapGet m n' with _ | _ | inner <;> rfl
  · rw [mapGet_mapSet, if_neg hn]

/-- What SignJSON preserves: the map it extends (the decoded one, or an empty one when it is nil) is well formed and holds
    the signatures VerifyJSON would have found; `unsigned` is the member. -/
theorem readPreserve_spec (o : List (Bytes × JVal)) (p : Preserve) (hd : readPreserve o = some p) :
    WF (p.sigs.getD []) ∧ (∀ n k, (sigLookup o n k).sigAt = (lookupIn (p.sigs.getD []) n k).sigAt) ∧
      p.unsigned = getLast o kUnsigned := by
  obtain ⟨s, hs, rfl⟩ := Option.map_eq_some_iff.mp hd
  suffices WF (s.getD []) ∧ ∀ n k, (sigLookup o n k).sigAt = (lookupIn (s.getD []) n k).sigAt from ⟨this.1, this.2, rfl⟩
  cases hg : getLast o kSignatures with
  | none =>
    simp only [hg, Option.some.injEq] at hs
    subst hs
    exact ⟨wf_nil, fun n k => by simp [sigLookup, hg, lookupIn, mapGet, SigLookup.sigAt]⟩
  | some v =>
    simp only [hg] at hs
    cases v with
    | obj ms =>
      obtain ⟨r, hr, rfl⟩ := Option.map_eq_some_iff.mp hs
      refine ⟨decodeOuterInto_wf (some []) _ r (fun b hb => by cases hb; exact wf_nil) hs, fun n k => ?_⟩
      simp only [sigLookup, hg, decodeOuterInto, Option.getD_none, Option.getD_some, hr, Option.map_some] at hr ⊢
      rfl
    | null =>
      cases hs
      exact ⟨wf_nil, fun n k => by simp [sigLookup, hg, lookupIn, mapGet, SigLookup.sigAt]⟩
    | _ => simp [decodeOuterInto] at hs

theorem uniqueKeys_body (o : List (Bytes × JVal)) (hu : UniqueKeys o) : UniqueKeys (body o) :=
  (hu.sublist List.filter_sublist).sublist List.filter_sublist

theorem uniqueKeys_assemble (o : List (Bytes × JVal)) (hu : UniqueKeys o) (sigs : JVal) (uns : Option JVal) :
    UniqueKeys (assemble (body o) sigs uns) := by
  have h1 : UniqueKeys (body o ++ [(kSignatures, sigs)]) := uniqueKeys_snoc (uniqueKeys_body o hu) (body_no_sig o)
  cases uns with
  | none => simpa only [assemble, List.append_nil] using h1
  | some u =>
    refine uniqueKeys_snoc h1 fun a ha => ?_
    rcases List.mem_append.mp ha with ha | ha
    · exact body_no_uns o a ha
    · exact List.mem_singleton.mp ha ▸ kSig_ne_kUns

theorem mapGet_map {α β : Type} (g : α → β) (m : List (Bytes × α)) (n : Bytes) :
    mapGet (m.map fun e => (e.1, g e.2)) n = (mapGet m n).map g := by
  rw [mapGet_eq_lookup, mapGet_eq_lookup, Assoc.lookup_map_snd]

/-- On the object SignJSON assembles, `ListKeyIDs(name)` lists exactly the key IDs for which VerifyJSON
    finds a signature of `name`. -/
theorem listKeyIDs_assemble (b : List (Bytes × JVal)) (m : SigMap) (hw : WF m) (uns : Option JVal) (n : Bytes) :
    ∃ ks, listKeyIDs n (.obj (assemble b (sigMapToJVal m) uns)) = some ks ∧
      ∀ k, k ∈ ks ↔ ((lookupIn m n k).sigAt).isSome = true := by
  have hdec := decodeOuterInto_sigMapToJVal (fun x => some x) (fun b => JVal.str (b64Encode b)) (fun _ => rfl) m hw
  simp only [listKeyIDs, getLast_assemble_sig, hdec, mapGet_map, lookupIn]
  rcases mapGet m n with _ | _ | es
  · exact ⟨[], rfl, fun k => by simp [SigLookup.sigAt]⟩
  · exact ⟨[], rfl, fun k => by simp [SigLookup.sigAt]⟩
  · refine ⟨_, rfl, fun k => ?_⟩
    rw [List.map_map]
    show k ∈ Assoc.keys es ↔ _
    rw [← Assoc.isSome_lookup, ← mapGet_eq_lookup]
    cases hm : mapGet es k <;> simp [SigLookup.sigAt, hm]

/-- **Everything a successful SignJSON does to an object.** -/
theorem sign_effect (S : SigScheme) (n k : Bytes) (sk : S.SK) (o : List (Bytes × JVal)) (v' : JVal)
    (h : signJSON S n k sk (.obj o) = .ok v') :
    ∃ o', v' = .obj o' ∧ (UniqueKeys o → UniqueKeys o') ∧ body o' = body o ∧
      getLast o' kUnsigned = getLast o kUnsigned ∧
      sigLookup o' n k = .found (S.sign sk (payload o)) ∧
      (∀ n' k', (n', k') ≠ (n, k) → (sigLookup o' n' k').sigAt = (sigLookup o n' k').sigAt) ∧
      ∀ n', ∃ ks, listKeyIDs n' (.obj o') = some ks ∧ ∀ k', k' ∈ ks ↔ ((sigLookup o' n' k').sigAt).isSome = true := by
  obtain ⟨p, hd, hv⟩ := signJSON_ok_shape S n k sk o v' h
  obtain ⟨hwm, hlook, huns⟩ := readPreserve_spec o p hd
  have hw' := wf_mapSet_innerOf (p.sigs.getD []) n k (S.sign sk (payload o)) hwm
  refine ⟨_, hv, fun hu => uniqueKeys_assemble o hu _ _, body_assemble o _ _, ?_, ?_, ?_, fun n' => ?_⟩
  · rw [getLast_assemble_uns, huns]
  · rw [sigLookup_assemble _ _ hw', lookupIn_set_same]
  · intro n' k' hne
    rw [sigLookup_assemble _ _ hw', lookupIn_set_other _ n k _ n' k' hne, hlook]
  · simp only [sigLookup_assemble _ _ hw']
    exact listKeyIDs_assemble (body o) _ hw' p.unsigned n'

end V.Sign
