/- Base64 as `spec.Base64Bytes` reads and writes it: decoding what `Encode` wrote gives the bytes back
   (so a signature stored by SignJSON is the signature VerifyJSON reads). -/
import VModel.Sign
namespace V.Sign
open V

/-- the sextets `b64Encode` writes -/
def sextets : Bytes → List Nat
  | [] => []
  | [a] => [a.toNat / 4, a.toNat % 4 * 16]
  | [a, b] => [a.toNat / 4, a.toNat % 4 * 16 + b.toNat / 16, b.toNat % 16 * 4]
  | a :: b :: c :: rest =>
    a.toNat / 4 :: (a.toNat % 4 * 16 + b.toNat / 16) :: (b.toNat % 16 * 4 + c.toNat / 64) :: c.toNat % 64 :: sextets rest

theorem b64Encode_eq_map : ∀ b : Bytes, b64Encode b = (sextets b).map stdChar
  | [] => rfl
  | [_] => rfl
  | [_, _] => rfl
  | a :: b :: c :: rest => by
    simp only [b64Encode, sextets, List.map_cons, b64Encode_eq_map rest]

/-! ### regrouping bits

A sextet is `q * n + r` with `r < n`, a high part `q` of one byte above a low part `r` of the next; the
decoder takes it apart again with `/ n` and `% n`. -/

theorem regroup {n r : Nat} (q : Nat) (h : r < n) : (q * n + r) / n = q ∧ (q * n + r) % n = r := by
  have hn : 0 < n := Nat.lt_of_le_of_lt (Nat.zero_le _) h
  rw [Nat.mul_comm, Nat.mul_add_div hn, Nat.mul_add_mod, Nat.div_eq_of_lt h, Nat.mod_eq_of_lt h]
  exact ⟨rfl, rfl⟩

theorem sextet_lt {m n q r : Nat} (hq : q < m) (hr : r < n) (h : m * n = 64) : q * n + r < 64 :=
  h ▸ Nat.lt_of_lt_of_le (Nat.add_lt_add_left hr _) (Nat.succ_mul q n ▸ Nat.mul_le_mul_right n hq)

theorem byte0 (a x : Nat) (hx : x < 16) : a / 4 * 4 + (a % 4 * 16 + x) / 16 = a := by
  rw [(regroup _ hx).1, Nat.div_add_mod']

theorem byte1 (x b y : Nat) (hb : b < 256) (hy : y < 4) : (x * 16 + b / 16) % 16 * 16 + (b % 16 * 4 + y) / 4 = b := by
  rw [(regroup _ (Nat.div_lt_of_lt_mul hb : b / 16 < 16)).2, (regroup _ hy).1, Nat.div_add_mod']

theorem byte2 (x c : Nat) (hc : c < 256) : (x * 4 + c / 64) % 4 * 64 + c % 64 = c := by
  rw [(regroup _ (Nat.div_lt_of_lt_mul hc : c / 64 < 4)).2, Nat.div_add_mod']

theorem sextets_lt : ∀ b : Bytes, ∀ n ∈ sextets b, n < 64
  | [], n, h => by cases h
  | [a], n, h => by
    simp only [sextets, List.mem_cons, List.not_mem_nil, or_false] at h
    rcases h with rfl | rfl
    · exact Nat.div_lt_of_lt_mul a.toNat_lt
    · exact sextet_lt (r := 0) (Nat.mod_lt _ (by decide)) (by decide : 0 < 16) rfl
  | [a, b], n, h => by
    simp only [sextets, List.mem_cons, List.not_mem_nil, or_false] at h
    rcases h with rfl | rfl | rfl
    · exact Nat.div_lt_of_lt_mul a.toNat_lt
    · exact sextet_lt (Nat.mod_lt _ (by decide)) (Nat.div_lt_of_lt_mul b.toNat_lt : _ < 16) rfl
    · exact sextet_lt (r := 0) (Nat.mod_lt _ (by decide)) (by decide : 0 < 4) rfl
  | a :: b :: c :: rest, n, h => by
    simp only [sextets, List.mem_cons] at h
    rcases h with rfl | rfl | rfl | rfl | h
    · exact Nat.div_lt_of_lt_mul a.toNat_lt
    · exact sextet_lt (Nat.mod_lt _ (by decide)) (Nat.div_lt_of_lt_mul b.toNat_lt : _ < 16) rfl
    · exact sextet_lt (Nat.mod_lt _ (by decide)) (Nat.div_lt_of_lt_mul c.toNat_lt : _ < 4) rfl
    · exact Nat.mod_lt _ (by decide)
    · exact sextets_lt rest n h

theorem stdChar_facts : ∀ n : Fin 64,
    b64Val false (stdChar n.val) = some n.val ∧ isURLMark (stdChar n.val) = false ∧ isCRLF (stdChar n.val) = false := by
  decide +kernel

theorem b64Vals_map_stdChar : ∀ l : List Nat, (∀ n ∈ l, n < 64) → b64Vals false (l.map stdChar) = some l
  | [], _ => rfl
  | n :: ns, h => by
    simp only [List.map_cons, b64Vals, (stdChar_facts ⟨n, h n List.mem_cons_self⟩).1,
      b64Vals_map_stdChar ns (fun m hm => h m (List.mem_cons_of_mem _ hm))]

theorem byte_eq (a : UInt8) (n : Nat) (h : n = a.toNat) : UInt8.ofNat n = a :=
  h ▸ UInt8.ofNat_toNat

theorem b64Bytes_sextets : ∀ b : Bytes, b64Bytes (sextets b) = some b
  | [] => rfl
  | [a] => congrArg (fun x => some [x]) (byte_eq a _ (byte0 _ 0 (by decide)))
  | [a, b] => by
    simp only [sextets, b64Bytes]
    rw [byte_eq a _ (byte0 _ _ (Nat.div_lt_of_lt_mul b.toNat_lt))]
    exact congrArg (fun x => some [a, x]) (byte_eq b _ (byte1 _ _ 0 b.toNat_lt (by decide)))
  | a :: b :: c :: rest => by
    simp only [sextets, b64Bytes, b64Bytes_sextets rest]
    rw [byte_eq a _ (byte0 _ _ (Nat.div_lt_of_lt_mul b.toNat_lt)),
      byte_eq b _ (byte1 _ _ _ b.toNat_lt (Nat.div_lt_of_lt_mul c.toNat_lt)), byte_eq c _ (byte2 _ _ c.toNat_lt)]

/-- **Round trip**: `Base64Bytes.Decode(b.Encode()) = b`. -/
theorem b64Decode_encode (b : Bytes) : b64Decode (b64Encode b) = some b := by
  have hlt := sextets_lt b
  have hc : ∀ c ∈ (sextets b).map stdChar, isURLMark c = false ∧ isCRLF c = false := fun c hc => by
    obtain ⟨n, hn, rfl⟩ := List.mem_map.mp hc
    exact (stdChar_facts ⟨n, hlt n hn⟩).2
  unfold b64Decode
  rw [b64Encode_eq_map, List.any_eq_false.mpr fun c h => by simp [(hc c h).1],
    List.filter_eq_self.mpr fun c h => by simp [(hc c h).2], b64Vals_map_stdChar _ hlt]
  exact b64Bytes_sextets b

end V.Sign
