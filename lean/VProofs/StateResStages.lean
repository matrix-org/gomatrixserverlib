/-
  `resolveV2New` cut into named stages (the definitions are the `let`s of the model, verbatim), with the equations
  `resolveV2New_eq` / `resolveV2New_result` tying the model's answer to the stages (the model's early return for empty
  input computes what the general path computes: `finalState_eq_stateS4`); and the part it shares with the deprecated
  `resolveV2Old`: from (conflicted, unconflicted, auth map, create event, auth difference) to the control set and the
  remaining conflicted events (`mkPrep`), then ordering, iterative auth checks and re-application of the unconflicted
  events starting from some partial state (`flowFrom`).
-/
import VProofs.StateResBasic
namespace V.StateRes

/-- the room's create event as `ResolveStateConflictsV2New` remembers it for the power ordering -/
def createEvOf (unconflicted auth conflicted : List Event) : Option Event :=
  match getCreateEvent unconflicted with
  | some c => some c
  | none => match getCreateEvent auth with
    | some c => some c
    | none => getCreateEvent conflicted

def rootsOf (unconfIDs : List ID) (fullConflicted : List Event) : List Event :=
  fullConflicted.filter (fun p => !unconfIDs.contains p.eventID && isControlEvent p)

def controlIDsOf (confMap roots : List Event) : List ID :=
  controlClosure confMap (confMap.length + 1) roots (eventMapFromEvents roots |>.map (·.eventID))

def lookupAny (fullConflicted confMap : List Event) (id : ID) : Option Event :=
  match findByID fullConflicted id with
  | some e => some e
  | none => findByID confMap id

def othersOf (unconfIDs controlIDs : List ID) (fullConflicted : List Event) : List Event :=
  (eventMapFromEvents fullConflicted).filter (fun p =>
    !unconfIDs.contains p.eventID && !isControlEvent p && !controlIDs.contains p.eventID)

def createFor (createEv : Option Event) (s : State) : Option Event :=
  match s.get b!"m.room.create" [] with
  | some c => some c
  | none => createEv

/-- everything `resolveV2New` computes before it touches the partial state -/
structure Prep where
  conflicted : List Event
  unconflicted : List Event
  authMap : List Event
  createEv : Option Event
  authDiff : List Event
  controlIDs : List ID
  controlEvents : List Event
  others : List Event

def prepOf (algo : Nat) (sets : List (List Event)) (auth : List Event) : Prep :=
  let cu := splitConflictedUnconflicted false sets
  let authMap := eventMapFromEvents auth
  let confMap := eventMapFromEvents cu.1
  let unconfIDs := cu.2.map (·.eventID)
  let authDiff := authDifferenceNew algo authMap cu.1 sets
  let fullConflicted := cu.1 ++ authDiff
  let controlIDs := controlIDsOf confMap (rootsOf unconfIDs fullConflicted)
  { conflicted := cu.1, unconflicted := cu.2, authMap := authMap, createEv := createEvOf cu.2 auth cu.1,
    authDiff := authDiff, controlIDs := controlIDs,
    controlEvents := controlIDs.filterMap (lookupAny fullConflicted confMap),
    others := othersOf unconfIDs controlIDs fullConflicted }

/-- the state after the unconflicted events have been applied first (v2 only) -/
def stateS1 (algo : Nat) (p : Prep) : State :=
  if algo == 2 then applyEvents [] (reverseTopoAuth p.authMap p.createEv p.unconflicted) else []

def controlOrderOf (algo : Nat) (p : Prep) : List Event :=
  reverseTopoAuth p.authMap (createFor p.createEv (stateS1 algo p)) p.controlEvents

def stateS2 (algo : Nat) (p : Prep) (rejected : List ID) : State :=
  authAndApply p.authMap rejected (stateS1 algo p) (controlOrderOf algo p)

def othersOrderOf (algo : Nat) (p : Prep) (rejected : List ID) : List Event :=
  mainlineOrdering p.authMap (createMainline p.authMap ((stateS2 algo p rejected).get b!"m.room.power_levels" [])) p.others

def stateS3 (algo : Nat) (p : Prep) (rejected : List ID) : State :=
  authAndApply p.authMap rejected (stateS2 algo p rejected) (othersOrderOf algo p rejected)

def stateS4 (algo : Nat) (p : Prep) (rejected : List ID) : State :=
  applyEvents (stateS3 algo p rejected) p.unconflicted

/-- the resolved state (`[]` when nothing at all was supplied) -/
def finalState (algo : Nat) (sets : List (List Event)) (auth : List Event) (rejected : List ID) : State :=
  let p := prepOf algo sets auth
  if p.conflicted.isEmpty && p.unconflicted.isEmpty && auth.isEmpty then [] else stateS4 algo p rejected

theorem createFor_nil (c : Option Event) : createFor c [] = c := rfl

/-! ## The lookup with a fallback (`lookupAny`)

  `resolveV2New` looks a control ID up in conflicted ++ auth difference, then in the conflicted map; `authDifferenceNew`
  looks an ID up in the auth map, then among the conflicted events. -/

theorem lookupAny_congr {a a' b b' : List Event} (ha : findByID a = findByID a') (hb : findByID b = findByID b') :
    lookupAny a b = lookupAny a' b' := by
  funext id; unfold lookupAny; rw [ha, hb]

theorem mem_of_lookupAny {a b : List Event} {id : ID} {e : Event} (h : lookupAny a b id = some e) : e ∈ a ∨ e ∈ b := by
  unfold lookupAny at h
  split at h
  · rename_i x hx
    cases h
    exact Or.inl (findByID_some hx).1
  · exact Or.inr (findByID_some h).1

/-- all stage outputs of `resolveV2New`, in terms of the named stages -/
def stagesFrom (algo : Nat) (p : Prep) (rejected : List ID) : Stages :=
  { conflicted := p.conflicted.map (·.eventID), unconflicted := p.unconflicted.map (·.eventID),
    authDiff := p.authDiff.map (·.eventID), control := p.controlIDs, others := p.others.map (·.eventID),
    controlOrder := (controlOrderOf algo p).map (·.eventID), othersOrder := (othersOrderOf algo p rejected).map (·.eventID),
    result := (stateS4 algo p rejected).map (·.2.eventID) }

/-! ## The part shared with the deprecated entry point -/

/-- everything computed before the partial state is touched, from the split and the auth difference -/
def mkPrep (c u am : List Event) (ce : Option Event) (d : List Event) : Prep :=
  let confMap := eventMapFromEvents c
  let unconfIDs := u.map (·.eventID)
  let full := c ++ d
  let controlIDs := controlIDsOf confMap (rootsOf unconfIDs full)
  { conflicted := c, unconflicted := u, authMap := am, createEv := ce, authDiff := d, controlIDs := controlIDs,
    controlEvents := controlIDs.filterMap (lookupAny full confMap), others := othersOf unconfIDs controlIDs full }

theorem prepOf_eq_mkPrep (algo : Nat) (sets : List (List Event)) (auth : List Event) :
    prepOf algo sets auth =
      mkPrep (splitConflictedUnconflicted false sets).1 (splitConflictedUnconflicted false sets).2 (eventMapFromEvents auth)
        (createEvOf (splitConflictedUnconflicted false sets).2 auth (splitConflictedUnconflicted false sets).1)
        (authDifferenceNew algo (eventMapFromEvents auth) (splitConflictedUnconflicted false sets).1 sets) := rfl

theorem mkPrep_control_sub {c u am : List Event} {ce : Option Event} {d : List Event} {e : Event}
    (h : e ∈ (mkPrep c u am ce d).controlEvents) : e ∈ c ∨ e ∈ d := by
  simp only [mkPrep] at h
  obtain ⟨id, _, hid⟩ := List.mem_filterMap.mp h
  exact (mem_of_lookupAny hid).elim List.mem_append.mp (fun h' => Or.inl (mem_eventMap h'))

theorem mkPrep_others_sub {c u am : List Event} {ce : Option Event} {d : List Event} {e : Event}
    (h : e ∈ (mkPrep c u am ce d).others) : e ∈ c ∨ e ∈ d := by
  simp only [mkPrep, othersOf] at h
  exact List.mem_append.mp (mem_eventMap (List.mem_filter.mp h).1)

def controlOrderFrom (p : Prep) (s1 : State) : List Event :=
  reverseTopoAuth p.authMap (createFor p.createEv s1) p.controlEvents

def stateS2From (p : Prep) (rej : List ID) (s1 : State) : State :=
  authAndApply p.authMap rej s1 (controlOrderFrom p s1)

def othersOrderFrom (p : Prep) (rej : List ID) (s1 : State) : List Event :=
  mainlineOrdering p.authMap (createMainline p.authMap ((stateS2From p rej s1).get b!"m.room.power_levels" [])) p.others

def stateS3From (p : Prep) (rej : List ID) (s1 : State) : State :=
  authAndApply p.authMap rej (stateS2From p rej s1) (othersOrderFrom p rej s1)

/-- ordering of the control events, iterative auth checks, mainline ordering of the others, iterative auth checks,
    re-application of the unconflicted events — starting from the partial state `s1` -/
def flowFrom (p : Prep) (rej : List ID) (s1 : State) : State :=
  applyEvents (stateS3From p rej s1) p.unconflicted

theorem stateS4_eq_flowFrom (algo : Nat) (p : Prep) (rej : List ID) : stateS4 algo p rej = flowFrom p rej (stateS1 algo p) := rfl

/-! ## The early return computes what the general path computes

  `resolveV2New` returns at once when no event at all is supplied.  On such input every stage of the general path is empty
  as well (`stagesFrom_nil`), so the model's answer is `stagesFrom` of the preparation for every input and `finalState` is
  `stateS4` of it: nothing proved about the stages needs to look at the `if`. -/

theorem authDifferenceNew_nil (algo : Nat) (sets : List (List Event)) : authDifferenceNew algo [] [] sets = [] := by
  unfold authDifferenceNew
  exact List.filterMap_eq_nil_iff.mpr fun _ _ => rfl

theorem prepOf_nil (algo : Nat) (sets : List (List Event))
    (h1 : (splitConflictedUnconflicted false sets).1 = []) (h2 : (splitConflictedUnconflicted false sets).2 = []) :
    prepOf algo sets [] = mkPrep [] [] [] (createEvOf [] [] []) [] := by
  rw [prepOf_eq_mkPrep, h1, h2]
  show mkPrep [] [] [] _ (authDifferenceNew algo [] [] sets) = _
  rw [authDifferenceNew_nil]

theorem stagesFrom_nil (algo : Nat) (sets : List (List Event)) (rejected : List ID)
    (h1 : (splitConflictedUnconflicted false sets).1 = []) (h2 : (splitConflictedUnconflicted false sets).2 = []) :
    stagesFrom algo (prepOf algo sets []) rejected =
      { conflicted := [], unconflicted := [], authDiff := [], control := [], others := [], controlOrder := [],
        othersOrder := [], result := [] } := by
  rw [prepOf_nil algo sets h1 h2]
  unfold stagesFrom stateS4 stateS3 othersOrderOf stateS2 controlOrderOf stateS1
  split <;> rfl

theorem resolveV2New_eq (algo : Nat) (sets : List (List Event)) (auth : List Event) (rejected : List ID) :
    resolveV2New algo sets auth rejected = stagesFrom algo (prepOf algo sets auth) rejected := by
  unfold resolveV2New
  cases h : splitConflictedUnconflicted false sets with
  | mk c u =>
    simp only
    split
    · rename_i hc
      simp only [Bool.and_eq_true, List.isEmpty_iff] at hc
      obtain ⟨⟨rfl, rfl⟩, rfl⟩ := hc
      exact (stagesFrom_nil algo sets rejected (by rw [h]) (by rw [h])).symm
    · simp only [prepOf, h]
      rfl

theorem stateS4_nil (algo : Nat) (sets : List (List Event)) (rejected : List ID)
    (h1 : (splitConflictedUnconflicted false sets).1 = []) (h2 : (splitConflictedUnconflicted false sets).2 = []) :
    stateS4 algo (prepOf algo sets []) rejected = [] :=
  List.map_eq_nil_iff.mp (congrArg Stages.result (stagesFrom_nil algo sets rejected h1 h2))

theorem finalState_eq_stateS4 (algo : Nat) (sets : List (List Event)) (auth : List Event) (rejected : List ID) :
    finalState algo sets auth rejected = stateS4 algo (prepOf algo sets auth) rejected := by
  unfold finalState
  simp only
  split
  · rename_i hc
    simp only [Bool.and_eq_true, List.isEmpty_iff] at hc
    obtain ⟨⟨hc1, hc2⟩, rfl⟩ := hc
    exact (stateS4_nil algo sets rejected hc1 hc2).symm
  · rfl

theorem resolveV2New_result (algo : Nat) (sets : List (List Event)) (auth : List Event) (rejected : List ID) :
    (resolveV2New algo sets auth rejected).result = (finalState algo sets auth rejected).map (·.2.eventID) := by
  rw [resolveV2New_eq, finalState_eq_stateS4]
  rfl

end V.StateRes
