/-
  C10, version 1 (R1, R2).  The definition's relations (`AuthBlockRun`, `PhaseRun`, `NormalRun`, `V1Resolves`) are the
  graphs of the functions of the executable rendering (`X.eq_run`, under "no two candidates tie" where an order has to
  be unique), and the model's `resolveV1` IS `Exec.v1Resolve`, by computation, on every input
  (`resolveV1_eq_v1Resolve`).  Hence the model computes what `V1Resolves` defines, the definition determines its
  result, and it does not depend on the order of the blocks.
-/
import VModel.StateResSpec
import VProofs.StateResSort
import VProofs.StateResSpecSplit
import VProofs.StateResV1f
import VProofs.StateResSpecExecV1
namespace V.StateResSpec
open List
open V.StateRes

theorem IsV1Order.unique {sha : ID → Bytes} {block o₁ o₂ : List Event}
    (hk : ∀ a ∈ block, ∀ b ∈ block, v1Key sha a = v1Key sha b → a = b)
    (h1 : IsV1Order sha block o₁) (h2 : IsV1Order sha block o₂) : o₁ = o₂ := by
  refine sorted_unique (v1Key sha) v1Lt_strictTotal (h1.1.trans h2.1.symm) ?_ h1.2 h2.2
  intro a ha b hb
  exact hk a (h1.1.mem_iff.mp ha) b (h1.1.mem_iff.mp hb)

theorem sortV1_nil (sha : ID → Bytes) : sortV1 sha [] = [] := rfl

theorem resolveAuthBlock_nil (sha : ID → Bytes) (valid : Bool) (s : V1State) :
    resolveAuthBlock sha valid s [] = (none, s) := rfl

theorem resolveNormalBlock_nil (sha : ID → Bytes) (valid : Bool) (s : V1State) : resolveNormalBlock sha valid s [] = none := rfl


/-! ## the definition's relations are the graphs of the executable rendering's functions -/

theorem AuthBlockRun.eq_run {valid : Bool} {s s' : V1State} {w w' : Event} {l : List Event}
    (h : AuthBlockRun valid s w l w' s') : Exec.authBlockRun valid s w l = (w', s') := by
  induction h with
  | done => rw [Exec.authBlockRun]
  | stop hf => rw [Exec.authBlockRun, hf]; rfl
  | next ht _ ih => rw [Exec.authBlockRun, ht]; exact ih

theorem IsV1Order.eq_v1Order {sha : ID → Bytes} {block o : List Event}
    (hk : ∀ a ∈ block, ∀ b ∈ block, v1Key sha a = v1Key sha b → a = b) (h : IsV1Order sha block o) :
    Exec.v1Order sha block = o := IsV1Order.unique hk (Exec.v1Order_isV1Order sha block) h

theorem PhaseRun.eq_run {sha : ID → Bytes} {valid : Bool} {U : List Event}
    (hk : ∀ a ∈ U, ∀ b ∈ U, v1Key sha a = v1Key sha b → a = b)
    {s s' : V1State} {blocks : List (List Event)} {ws : List Event} (h : PhaseRun sha valid s blocks s' ws)
    (hsub : ∀ b ∈ blocks, ∀ e ∈ b, e ∈ U) : Exec.phaseRun sha valid s blocks = (s', ws) := by
  induction h with
  | nil => rw [Exec.phaseRun]
  | skip _ ih =>
    rw [Exec.phaseRun]
    exact ih fun b hb => hsub b (List.mem_cons_of_mem _ hb)
  | block ho hrun _ ih =>
    have hb := hsub _ List.mem_cons_self
    rw [Exec.phaseRun, ho.eq_v1Order fun a ha b hb' => hk a (hb a ha) b (hb b hb')]
    simp only [hrun.eq_run, ih fun b hb => hsub b (List.mem_cons_of_mem _ hb)]

theorem NormalRun.eq_run {sha : ID → Bytes} {valid : Bool} {U : List Event}
    (hk : ∀ a ∈ U, ∀ b ∈ U, v1Key sha a = v1Key sha b → a = b)
    {s : V1State} {blocks : List (List Event)} {ws : List Event} (h : NormalRun sha valid s blocks ws)
    (hsub : ∀ b ∈ blocks, ∀ e ∈ b, e ∈ U) :
    blocks.filterMap (fun b => Exec.normalWinner valid s (Exec.v1Order sha b)) = ws := by
  induction h with
  | nil => rfl
  | cons ho hw _ ih =>
    have hb := hsub _ List.mem_cons_self
    obtain ⟨c0, rest, rfl, _⟩ := id hw
    rw [List.filterMap_cons, ho.eq_v1Order fun a ha b hb' => hk a (hb a ha) b (hb b hb'),
      ih fun b hb => hsub b (List.mem_cons_of_mem _ hb), isNormalWinner_iff.mp hw]
    exact congrArg (fun o => o.getD c0 :: _) List.getLast?_filter

/-! ## the model's resolver is the executable rendering -/

theorem sortV1_eq_v1Order (sha : ID → Bytes) (b : List Event) : sortV1 sha b = Exec.v1Order sha b := by
  rw [Exec.v1Order_eq]
  exact sortOn_eq_sortBy v1Lt (v1Key sha) b

theorem go_eq_authBlockRun (valid : Bool) : ∀ (l : List Event) (s : V1State) (w : Event),
    resolveAuthBlock.go valid s w l = Exec.authBlockRun valid s w l
  | [], s, w => by rw [resolveAuthBlock.go, Exec.authBlockRun]
  | e :: more, s, w => by
    rw [resolveAuthBlock.go, Exec.authBlockRun, go_eq_authBlockRun valid more]

theorem resolveAuthBlock_eq (sha : ID → Bytes) (valid : Bool) (s : V1State) (b : List Event) :
    resolveAuthBlock sha valid s b =
      match Exec.v1Order sha b with
      | [] => (none, s)
      | c0 :: rest =>
        (some (Exec.authBlockRun valid (s.addAuthEvent c0) c0 rest).1,
          afterBlock s (Exec.authBlockRun valid (s.addAuthEvent c0) c0 rest).2 c0
            (Exec.authBlockRun valid (s.addAuthEvent c0) c0 rest).1) := by
  unfold resolveAuthBlock
  rw [sortV1_eq_v1Order]
  cases Exec.v1Order sha b with
  | nil => rfl
  | cons c0 rest => simp only [go_eq_authBlockRun]; rfl

/-- the fold with the winners accumulated (`authBlocksStep` of `VProofs.StateResV1`) is the recursion over the blocks -/
theorem foldl_authBlocksStep (sha : ID → Bytes) (valid : Bool) : ∀ (blocks : List (List Event)) (s : V1State) (acc : List Event),
    blocks.foldl (authBlocksStep sha valid) (s, acc) =
      ((Exec.phaseRun sha valid s blocks).1, acc ++ (Exec.phaseRun sha valid s blocks).2)
  | [], s, acc => by simp [Exec.phaseRun]
  | b :: bs, s, acc => by
    rw [List.foldl_cons, authBlocksStep_eq, resolveAuthBlock_eq, Exec.phaseRun]
    cases Exec.v1Order sha b with
    | nil => simpa using foldl_authBlocksStep sha valid bs s acc
    | cons c0 rest => simp [foldl_authBlocksStep sha valid bs]

theorem resolveAndAddAuthBlocks_eq_phaseRun (sha : ID → Bytes) (valid : Bool) (s : V1State) (blocks : List (List Event)) :
    resolveAndAddAuthBlocks sha valid s blocks =
      (registerAll (Exec.phaseRun sha valid s blocks).1 (Exec.phaseRun sha valid s blocks).2,
        (Exec.phaseRun sha valid s blocks).2) := by
  rw [V.StateRes.resolveAndAddAuthBlocks_eq, foldl_authBlocksStep]
  simp only [List.nil_append]
  rfl

theorem resolveNormalBlock_eq (sha : ID → Bytes) (valid : Bool) (s : V1State) (b : List Event) :
    resolveNormalBlock sha valid s b = Exec.normalWinner valid s (Exec.v1Order sha b) := by
  unfold resolveNormalBlock
  rw [sortV1_eq_v1Order]
  cases Exec.v1Order sha b with
  | nil => rfl
  | cons c0 rest =>
    simp only [Exec.normalWinner, List.getLast?_filter]
    cases rest.reverse.find? (fun e => v1Allowed s valid e) <;> rfl

theorem phaseBlocks_eq_spec (evs : List Event) (n : Nat) : V.StateRes.phaseBlocks evs (fibre n) = phaseBlocks evs n := by
  unfold V.StateRes.phaseBlocks phaseBlocks
  rw [groups_eq, List.filter_map, List.map_map]
  rfl

theorem v1Valid_iff (auth : List Event) : v1Valid auth = true ↔ SameRoom auth := AuthNeeded.valid_ofEvents auth

theorem v1Valid_eq_sameRoom (auth : List Event) : v1Valid auth = Exec.sameRoom auth := by
  rw [Bool.eq_iff_iff, v1Valid_iff, Exec.sameRoom_iff]

theorem resolveV1_eq_v1Resolve (sha : ID → Bytes) (conflicted auth : List Event) :
    resolveV1 sha conflicted auth = Exec.v1Resolve sha conflicted auth := by
  rw [resolveV1_eq]
  simp only [show List.range 5 = [0, 1, 2, 3, 4] from rfl, List.map, runPhases, V.StateRes.phaseRun, resolveAndAddAuthBlocks_eq_phaseRun,
    v1Valid_eq_sameRoom, phaseBlocks_eq_spec, List.append_nil, ← List.append_assoc]
  -- `resolveNormalBlock sha valid s` stands unapplied under `filterMap`: rewrite it as a function
  have hn : ∀ s, resolveNormalBlock sha (Exec.sameRoom auth) s =
      fun b => Exec.normalWinner (Exec.sameRoom auth) s (Exec.v1Order sha b) :=
    fun s => funext (resolveNormalBlock_eq sha _ s)
  have h0 : v1S0 auth = registerAll {} auth := rfl
  simp only [hn, h0]
  rfl

theorem resolveV1_eq_spec (sha : ID → Bytes) (conflicted auth : List Event) :
    V1Resolves sha conflicted auth (resolveV1 sha conflicted auth) :=
  resolveV1_eq_v1Resolve sha conflicted auth ▸ Exec.v1Resolve_resolves sha conflicted auth

theorem v1_entry_eq_spec (sha : ID → Bytes) (sets : List (List Event)) (auth : List Event)
    (hids : IDsIdentify (· ∈ sets.flatten)) :
    V1Result sha sets auth ((resolveV1 sha (splitConflictedUnconflicted true sets).1 auth ++
      (splitConflictedUnconflicted true sets).2).map (·.eventID)) := by
  obtain ⟨h1, h2⟩ := split_v1_eq_spec sets hids
  exact ⟨_, _, _, h1, h2, resolveV1_eq_spec sha _ auth, rfl⟩

theorem phaseBlocks_sub (evs : List Event) (p : Nat) : ∀ b ∈ phaseBlocks evs p, ∀ e ∈ b, e ∈ evs := by
  intro b hb e he
  unfold phaseBlocks at hb
  obtain ⟨k, _, rfl⟩ := List.mem_map.mp hb
  exact (List.mem_filter.mp he).1

theorem V1Resolves.eq_v1Resolve {sha : ID → Bytes} {conflicted auth : List Event}
    (hk : ∀ a ∈ conflicted, ∀ b ∈ conflicted, v1Key sha a = v1Key sha b → a = b) {r : List Event}
    (h : V1Resolves sha conflicted auth r) : r = Exec.v1Resolve sha conflicted auth := by
  obtain ⟨v, s1, s2, s3, s4, s5, a1, a2, a3, a4, a5, a6, hv, p1, p2, p3, p4, p5, p6, rfl⟩ := h
  have : v = Exec.sameRoom auth := by rw [Bool.eq_iff_iff]; exact hv.trans (Exec.sameRoom_iff auth).symm
  subst this
  unfold Exec.v1Resolve
  simp only [p1.eq_run hk (phaseBlocks_sub conflicted 0), p2.eq_run hk (phaseBlocks_sub conflicted 1),
    p3.eq_run hk (phaseBlocks_sub conflicted 2), p4.eq_run hk (phaseBlocks_sub conflicted 3),
    p5.eq_run hk (phaseBlocks_sub conflicted 4), p6.eq_run hk (phaseBlocks_sub conflicted 5)]

theorem V1Resolves.unique {sha : ID → Bytes} {conflicted auth : List Event}
    (hk : ∀ a ∈ conflicted, ∀ b ∈ conflicted, v1Key sha a = v1Key sha b → a = b) {r₁ r₂ : List Event}
    (h1 : V1Resolves sha conflicted auth r₁) (h2 : V1Resolves sha conflicted auth r₂) : r₁ = r₂ :=
  (h1.eq_v1Resolve hk).trans (h2.eq_v1Resolve hk).symm

theorem resolveV1_unique {sha : ID → Bytes} {conflicted auth : List Event}
    (hk : ∀ a ∈ conflicted, ∀ b ∈ conflicted, v1Key sha a = v1Key sha b → a = b) {r : List Event}
    (h : V1Resolves sha conflicted auth r) : r = resolveV1 sha conflicted auth :=
  (h.eq_v1Resolve hk).trans (resolveV1_eq_v1Resolve sha conflicted auth).symm

/-! ## the block order does not matter

  The result the definition determines does not depend on the order in which the conflicted events (hence the blocks
  of a phase) are presented: every block leaves the registered auth events as it found them (`afterBlock`).  Uses the
  C11 development (`StateResV1*.lean`: verdicts depend on the registered events only through slot lookups;
  `v1_perm_invariant`). -/

/-- the model's result is the same set of events for every presentation of the conflicted events
    (`P1`: one supplied auth event per slot; `hk`: no two conflicted events tie on (depth, SHA-1)) -/
theorem resolveV1_perm (sha : ID → Bytes) {l₁ l₂ auth : List Event} (hp : l₁ ~ l₂)
    (P1 : ∀ a ∈ auth, ∀ b ∈ auth, a.stateKey.isSome → V.StateRes.keyOf a = V.StateRes.keyOf b → b.stateKey.isSome → a = b)
    (hk : ∀ a ∈ l₁, ∀ b ∈ l₁, v1Key sha a = v1Key sha b → a = b) :
    resolveV1 sha l₁ auth ~ resolveV1 sha l₂ auth := by
  refine v1_perm_invariant sha hp (SameSet.refl auth) P1 ?_
  intro a ha b hb _ _ _ hd hs
  apply hk a ha b hb
  unfold v1Key
  rw [hd, hs]

end V.StateResSpec
