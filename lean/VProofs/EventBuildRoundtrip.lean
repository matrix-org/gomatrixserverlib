/-
  Lemmas for C03's `build_roundtrip`: what the canonical text of a
  value reads back as, which predicates survive canonicalisation, the number literals `Build`
  writes, the members `Build` signs (the struct marshalling as a list of fields, some omitted), the
  lookups of a member in an object and in its canonical form, the content hash, and redaction of a
  canonicalised event.
-/
import VProofs.Assoc
import VProofs.EventParse
import VModel.EventBuild
import VProofs.B64
import VProofs.JsonClosure
import VProofs.RedactCongr
import VProofs.RedactValues
import VProps.C01
namespace V.BuildProofs
open V V.Json V.GoJson V.Redact V.EventParse V.RedactProofs V.EventProofs V.EventBuild

/-- a member with its value in canonical form -/
def canonMember (kv : Bytes × JVal) : Bytes × JVal := (kv.1, kv.2.sorted.normNums)

/-- the members of the canonical form of an object -/
def canonMembers (l : EventParse.Obj) : EventParse.Obj := normNumsMembers (sortByKey (sortedMembers l))

theorem canon_obj (l : EventParse.Obj) : (JVal.obj l).sorted.normNums = .obj (canonMembers l) := rfl

theorem canonMembers_perm (l : EventParse.Obj) : (canonMembers l).Perm (l.map canonMember) := by
  unfold canonMembers
  rw [normNumsMembers_eq_map, sortedMembers_eq_map]
  have := (sortByKey_perm (l.map (fun kv => (kv.1, kv.2.sorted)))).map (fun kv : Bytes × JVal => (kv.1, kv.2.normNums))
  have e : l.map canonMember = (l.map (fun kv => (kv.1, kv.2.sorted))).map (fun kv : Bytes × JVal => (kv.1, kv.2.normNums)) := by
    simp [List.map_map, canonMember, Function.comp_def]
  rw [e]; exact this

theorem keysOf_map_cm (l : EventParse.Obj) : keysOf (l.map canonMember) = keysOf l := by
  simp [keysOf, canonMember, List.map_map, Function.comp_def]

theorem canonMembers_keys_perm (l : EventParse.Obj) : (keysOf (canonMembers l)).Perm (keysOf l) := by
  have := (canonMembers_perm l).map (·.1)
  rw [← keysOf_map_cm l]
  exact this

theorem canonMembers_nodup {m : EventParse.Obj} (h : (keysOf m).Nodup) : (keysOf (canonMembers m)).Nodup :=
  (canonMembers_keys_perm m).nodup_iff.mpr h

theorem parse_canon_text {l : EventParse.Obj} (hn : (JVal.obj l).numsOk = true) {p : PVal}
    (hp : parse (encodeCanon (.obj l)) = some p) : p.toJVal = .obj (canonMembers l) := by
  obtain ⟨h1, h2⟩ := parse_encodeCanon (.obj l) hn
  rw [h1] at hp
  rw [← Option.some.inj hp, h2, canon_obj]

/-! ### predicates that survive canonicalisation -/

theorem noDup_sortedList : (xs : List JVal) → jNoDupList xs = true → jNoDupList (sortedList xs) = true :=
  noDupKeys_sortedList

theorem noDup_sortedMembers : (kvs : List (Bytes × JVal)) → jNoDupMembers kvs = true → jNoDupMembers (sortedMembers kvs) = true :=
  noDupKeys_sortedMembers

theorem noDup_normNums : (v : JVal) → v.noDupKeys = true → v.normNums.noDupKeys = true :=
  (noDupKeys_hered.map normNums_hmap (fun p => p.nodup_iff.mp) fun _ h => h).1
theorem noDup_normNumsList : (xs : List JVal) → jNoDupList xs = true → jNoDupList (normNumsList xs) = true :=
  fun xs => noDup_normNums (.arr xs)
theorem noDup_normNumsMembers : (kvs : List (Bytes × JVal)) → jNoDupMembers kvs = true → jNoDupMembers (normNumsMembers kvs) = true :=
  (noDupKeys_hered.map normNums_hmap (fun p => p.nodup_iff.mp) fun _ h => h).2.2

theorem noDup_canon (v : JVal) (h : v.noDupKeys = true) : v.sorted.normNums.noDupKeys = true :=
  noDup_normNums _ (noDupKeys_sorted v h)

theorem jNumbersOk_hered :
    Hered (jNumbersOk · = true) (jNumbersOkList · = true) (jNumbersOkMembers · = true) (fun _ => True) (fun _ => True) where
  arr _ := Iff.rfl
  obj _ := ⟨.intro trivial, And.right⟩
  list xs := by induction xs <;> simp [jNumbersOkList, *]
  members kvs := by induction kvs <;> simp [jNumbersOkMembers, *]

theorem jNum_sorted : (v : JVal) → jNumbersOk v = true → jNumbersOk v.sorted = true :=
  (jNumbersOk_hered.map sorted_hmap (fun _ h => h) fun _ h => h).1
theorem jNum_sortedList : (xs : List JVal) → jNumbersOkList xs = true → jNumbersOkList (sortedList xs) = true :=
  fun xs => jNum_sorted (.arr xs)
theorem jNum_sortedMembers : (kvs : List (Bytes × JVal)) → jNumbersOkMembers kvs = true → jNumbersOkMembers (sortedMembers kvs) = true :=
  (jNumbersOk_hered.map sorted_hmap (fun _ h => h) fun _ h => h).2.2

theorem numOk_encodeNum {lit : Bytes} (h : numOk lit = true) : encodeNum lit = lit := by
  unfold encodeNum
  split
  · rename_i he
    have : lit = [0x2D, 0x30] := by simpa using he
    subst this
    exact absurd h (by decide)
  · rfl

theorem jNum_normNums : (v : JVal) → jNumbersOk v = true → v.normNums = v := by
  intro v
  induction v using JVal.ind with
  | num lit => exact fun h => congrArg JVal.num (numOk_encodeNum h)
  | arr xs ih =>
    intro h
    rw [JVal.normNums, normNumsList_eq_map, List.map_congr_left fun x hx => ih x hx ((jNumbersOk_hered.list xs).mp h x hx),
      List.map_id']
  | obj kvs ih =>
    intro h
    rw [JVal.normNums, normNumsMembers_eq_map,
      List.map_congr_left fun kv hkv => congrArg (Prod.mk kv.1) (ih kv hkv ((jNumbersOk_hered.members kvs).mp h kv hkv).2),
      List.map_id']
  | _ => exact fun _ => rfl
theorem jNum_normNumsList : (xs : List JVal) → jNumbersOkList xs = true → normNumsList xs = xs :=
  fun xs h => JVal.arr.inj (jNum_normNums (.arr xs) h)
theorem jNum_normNumsMembers : (kvs : List (Bytes × JVal)) → jNumbersOkMembers kvs = true → normNumsMembers kvs = kvs :=
  fun kvs h => JVal.obj.inj (jNum_normNums (.obj kvs) h)

theorem jNum_canon (v : JVal) (h : jNumbersOk v = true) : jNumbersOk v.sorted.normNums = true := by
  have h1 := jNum_sorted v h
  rw [jNum_normNums _ h1]; exact h1

/-! ## The number literals `Build` writes (`depth`, `origin_server_ts`) -/

def digitByte (d : Nat) : UInt8 := UInt8.ofNat (Nat.digitChar d).toNat

theorem digitByte_facts : ∀ d, d < 10 → isDigit (digitByte d) = true ∧ (d ≠ 0 → (digitByte d == 0x30) = false) := by
  decide +kernel

theorem natDigits_eq (n : Nat) :
    natDigits n = if n < 10 then [digitByte n] else natDigits (n / 10) ++ [digitByte (n % 10)] := by
  unfold natDigits
  rw [Nat.toDigits_eq_if (by decide)]
  split <;> simp [digitByte]

theorem natDigits_shape : ∀ n : Nat, allDigits (natDigits n) ∧
    (0 < n → ∃ c ds, natDigits n = c :: ds ∧ (c == 0x30) = false) := by
  intro n
  induction n using Nat.strongRecOn with
  | _ n ih =>
    rw [natDigits_eq]
    by_cases h : n < 10
    · rw [if_pos h]
      refine ⟨?_, fun hp => ⟨_, [], rfl, (digitByte_facts n h).2 (by omega)⟩⟩
      intro c hc
      rcases List.mem_singleton.mp hc with rfl
      exact (digitByte_facts n h).1
    · rw [if_neg h]
      obtain ⟨ih1, ih2⟩ := ih (n / 10) (by omega)
      refine ⟨?_, fun _ => ?_⟩
      · intro c hc
        rcases List.mem_append.mp hc with hc | hc
        · exact ih1 c hc
        · rcases List.mem_singleton.mp hc with rfl
          exact (digitByte_facts (n % 10) (Nat.mod_lt _ (by decide))).1
      · obtain ⟨c, ds, he, hz⟩ := ih2 (by omega)
        exact ⟨c, ds ++ [digitByte (n % 10)], by rw [he]; rfl, hz⟩

theorem natDigits_intPart (n : Nat) : IntPart (natDigits n) := by
  obtain ⟨h1, h2⟩ := natDigits_shape n
  by_cases hn : n = 0
  · subst hn; exact Or.inl (by decide)
  · obtain ⟨c, ds, he, hz⟩ := h2 (by omega)
    rw [he] at h1 ⊢
    exact Or.inr ⟨c, ds, rfl, h1 c List.mem_cons_self, hz, fun x hx => h1 x (List.mem_cons_of_mem _ hx)⟩

theorem natDigits_isNumLit (n : Nat) : isNumLit (natDigits n) = true := by
  have := parseNumber_of_parts (sign := []) (ip := natDigits n) (fp := []) (ep := []) []
    ⟨Or.inl rfl, natDigits_intPart n, Or.inl rfl, Or.inl rfl⟩ rfl
  simp only [List.append_nil, List.nil_append] at this
  simp only [isNumLit, this, beq_self_eq_true]

theorem intLit_isNumLit (i : Int) : isNumLit (intLit i) = true := by
  cases i with
  | ofNat n => exact natDigits_isNumLit n
  | negSucc n =>
    have := parseNumber_of_parts (sign := [0x2D]) (ip := natDigits (n + 1)) (fp := []) (ep := []) []
      ⟨Or.inr rfl, natDigits_intPart (n + 1), Or.inl rfl, Or.inl rfl⟩ rfl
    simp only [List.append_nil] at this
    simp only [intLit, isNumLit]
    simp only [List.cons_append, List.nil_append] at this
    simp only [this, beq_self_eq_true]

theorem mem_setFirst {k : Bytes} {v : JVal} : ∀ {l : EventParse.Obj} {kv : Bytes × JVal}, kv ∈ setFirst k v l → kv = (k, v) ∨ kv ∈ l
  | [], kv, h => by
    simp only [setFirst, List.mem_singleton] at h
    exact Or.inl h
  | x :: rest, kv, h => by
    unfold setFirst at h
    split at h
    · rcases List.mem_cons.mp h with h | h
      · exact Or.inl h
      · exact Or.inr (List.mem_cons_of_mem _ h)
    · rcases List.mem_cons.mp h with h | h
      · exact Or.inr (by rw [h]; exact List.mem_cons_self)
      · rcases mem_setFirst h with h | h
        · exact Or.inl h
        · exact Or.inr (List.mem_cons_of_mem _ h)

theorem setFirst_all {P : Bytes × JVal → Prop} {k : Bytes} {v : JVal} {l : EventParse.Obj} (hv : P (k, v)) (hl : ∀ kv ∈ l, P kv) :
    ∀ kv ∈ setFirst k v l, P kv :=
  fun kv hkv => (mem_setFirst hkv).elim (fun e => e ▸ hv) (hl kv)

theorem mem_setFirst_self (k : Bytes) (v : JVal) : ∀ l : EventParse.Obj, (k, v) ∈ setFirst k v l
  | [] => by simp [setFirst]
  | x :: rest => by
    unfold setFirst
    split
    · exact List.mem_cons_self
    · exact List.mem_cons_of_mem _ (mem_setFirst_self k v rest)

theorem mem_setFirst_of_ne {k : Bytes} {v : JVal} {kv : Bytes × JVal} (hne : kv.1 ≠ k) :
    ∀ {l : EventParse.Obj}, kv ∈ l → kv ∈ setFirst k v l
  | [], h => by cases h
  | x :: rest, h => by
    unfold setFirst
    split
    · rename_i hx
      rcases List.mem_cons.mp h with h | h
      · exfalso; apply hne; rw [h]; simpa using hx
      · exact List.mem_cons_of_mem _ h
    · rcases List.mem_cons.mp h with h | h
      · rw [h]; exact List.mem_cons_self
      · exact List.mem_cons_of_mem _ (mem_setFirst_of_ne hne h)

theorem ite_deleteFirst_subset (c : Prop) [Decidable c] (k : Bytes) (l : EventParse.Obj) :
    ∀ kv ∈ (if c then deleteFirst k l else l), kv ∈ l := by
  split
  · exact fun _ h => (deleteFirst_sublist k l).subset h
  · exact fun _ h => h

theorem deleteFirst_eq_filter (k : Bytes) : ∀ l : EventParse.Obj, (keysOf l).Nodup → deleteFirst k l = l.filter (fun kv => !(kv.1 == k))
  | [], _ => rfl
  | x :: rest, h => by
    have hnd := List.nodup_cons.mp (show (x.1 :: keysOf rest).Nodup from h)
    unfold deleteFirst
    split
    · rename_i hx
      have hx' : x.1 = k := by simpa using hx
      simp only [List.filter_cons, hx, Bool.not_true, Bool.false_eq_true, if_false]
      symm
      apply List.filter_eq_self.mpr
      intro y hy
      simp only [Bool.not_eq_true', beq_eq_false_iff_ne, ne_eq]
      intro hyk
      apply hnd.1
      rw [hx', ← hyk]
      exact List.mem_map.mpr ⟨y, hy, rfl⟩
    · rename_i hx
      have hx' : (x.1 == k) = false := by simpa using hx
      simp only [List.filter_cons, hx', Bool.not_false, if_true]
      rw [deleteFirst_eq_filter k rest hnd.2]

theorem deleteKeys_eq_filter (ks : List Bytes) : ∀ l : EventParse.Obj, (keysOf l).Nodup →
    deleteKeys ks l = l.filter (fun kv => !ks.contains kv.1) := by
  induction ks with
  | nil =>
    intro l _
    simp only [deleteKeys, List.foldl_nil, List.contains_nil, Bool.not_false]
    exact (List.filter_eq_self.mpr fun _ _ => rfl).symm
  | cons k rest ih =>
    intro l h
    have : deleteKeys (k :: rest) l = deleteKeys rest (deleteFirst k l) := rfl
    rw [this, ih _ (deleteFirst_keys_nodup k l h), deleteFirst_eq_filter k l h, List.filter_filter]
    apply List.filter_congr
    intro x _
    simp only [List.contains_cons]
    cases h1 : (x.1 == k) <;> simp

theorem setFirst_absent (k : Bytes) (v : JVal) : ∀ l : EventParse.Obj, (∀ kv ∈ l, (kv.1 == k) = false) → setFirst k v l = l ++ [(k, v)]
  | [], _ => rfl
  | x :: rest, h => by
    have hx := h x List.mem_cons_self
    simp only [setFirst, hx, Bool.false_eq_true, if_false, List.cons_append]
    rw [setFirst_absent k v rest (fun kv hkv => h kv (List.mem_cons_of_mem _ hkv))]

theorem deleteFirst_append_absent (k : Bytes) (v : JVal) : ∀ l : EventParse.Obj, (∀ kv ∈ l, (kv.1 == k) = false) →
    deleteFirst k (l ++ [(k, v)]) = l
  | [], _ => by simp [deleteFirst]
  | x :: rest, h => by
    have hx := h x List.mem_cons_self
    simp only [List.cons_append, deleteFirst, hx, Bool.false_eq_true, if_false]
    rw [deleteFirst_append_absent k v rest (fun kv hkv => h kv (List.mem_cons_of_mem _ hkv))]

/-! ## The members `Build` signs -/

/-! ### the struct marshalling as a list of fields, some of them omitted -/

/-- the JSON names of the fields of the event struct, in struct order (`structFields_keys`) -/
def buildKeys : List Bytes := [b!"sender", b!"room_id", b!"type", b!"state_key", b!"prev_events", b!"auth_events", b!"redacts",
  b!"depth", b!"signatures", b!"content", b!"unsigned", b!"event_id", b!"origin_server_ts", b!"origin", b!"prev_state"]

theorem optMembers_nil : optMembers [] = [] := rfl

theorem optMembers_cons_some (k : Bytes) (v : JVal) (l : List (Bytes × Option JVal)) :
    optMembers ((k, some v) :: l) = (k, v) :: optMembers l := rfl

theorem optMembers_cons_none (k : Bytes) (l : List (Bytes × Option JVal)) : optMembers ((k, none) :: l) = optMembers l := rfl

theorem optMembers_cons_ite (c : Prop) [Decidable c] (k : Bytes) (a b : Option JVal) (l : List (Bytes × Option JVal)) :
    optMembers ((k, if c then a else b) :: l) = (if c then optMembers [(k, a)] else optMembers [(k, b)]) ++ optMembers l := by
  split <;> cases a <;> cases b <;> rfl

theorem optMembers_cons (k : Bytes) (o : Option JVal) (l : List (Bytes × Option JVal)) :
    optMembers ((k, o) :: l) = (match o with
      | some v => [(k, v)]
      | none => []) ++ optMembers l := by
  cases o <;> rfl

theorem optMembers_cons_map (k : Bytes) (o : Option Bytes) (l : List (Bytes × Option JVal)) :
    optMembers ((k, o.map JVal.str) :: l) = (match o with
      | some v => [(k, JVal.str v)]
      | none => []) ++ optMembers l := by
  cases o <;> rfl

theorem optMembers_forall {P : JVal → Prop} {l : List (Bytes × Option JVal)} (h : ∀ ko ∈ l, ∀ v, ko.2 = some v → P v) :
    ∀ kv ∈ optMembers l, P kv.2 :=
  fun _ hkv => h _ (mem_optMembers.mp hkv) _ rfl

/-- the fields of `json.Marshal(&eventStruct)` in struct order -/
def structFields (pe : Proto) (content : JVal) (prev auth : List JVal) (eventID : Bytes) (now : Nat) (origin : Bytes) :
    List (Bytes × Option JVal) :=
  [(b!"sender", some (.str pe.sender)),
   (b!"room_id", if pe.roomID.isEmpty then none else some (.str pe.roomID)),
   (b!"type", some (.str pe.type)), (b!"state_key", pe.stateKey.map JVal.str),
   (b!"prev_events", some (.arr prev)), (b!"auth_events", some (.arr auth)),
   (b!"redacts", if pe.redacts.isEmpty then none else some (.str pe.redacts)),
   (b!"depth", some (.num (intLit pe.depth))), (b!"signatures", pe.signatures),
   (b!"content", some content), (b!"unsigned", pe.unsigned),
   (b!"event_id", some (.str eventID)), (b!"origin_server_ts", some (.num (natDigits now))),
   (b!"origin", some (.str origin)),
   (b!"prev_state", if pe.stateKey.isSome then some (.arr []) else none)]

theorem structFields_keys (pe : Proto) (content : JVal) (prev auth : List JVal) (eid : Bytes) (now : Nat) (origin : Bytes) :
    (structFields pe content prev auth eid now origin).map (·.1) = buildKeys := rfl

/-- `json.Marshal(&eventStruct)` (the `members` of `signedMembers`): the fields in struct order, `omitempty` as tagged -/
def membersOf (pe : Proto) (content : JVal) (prev auth : List JVal) (eventID : Bytes) (now : Nat) (origin : Bytes) : EventParse.Obj :=
  optMembers (structFields pe content prev auth eventID now origin)

theorem membersOf_keys (pe : Proto) (content : JVal) (prev auth : List JVal) (eid : Bytes) (now : Nat) (origin : Bytes) :
    List.Sublist (keysOf (membersOf pe content prev auth eid now origin)) buildKeys :=
  optMembers_keys _

theorem buildKeys_nodup : buildKeys.Nodup := by decide +kernel

/-- the members the content hash covers -/
def hashP (kv : Bytes × JVal) : Bool := !(kv.1 == b!"signatures" || kv.1 == b!"unsigned" || kv.1 == b!"hashes")

/-- the reference lists `Build` marshals -/
def RefsOf (row : VGen.VersionRow) (pe : Proto) (prev auth : List JVal) : Prop :=
  if row.eventFormat == 1 then refsV1 pe.prev = .ok prev ∧ refsV1 pe.auth = .ok auth
  else prev = pe.prev.map JVal.str ∧ auth = pe.auth.map JVal.str

theorem signedMembers_ok {H : Bytes → Bytes} {row : VGen.VersionRow} {ver : Bytes} {pe : Proto} {now : Nat}
    {origin kid rand16 sig : Bytes} {signed : EventParse.Obj}
    (h : signedMembers H row ver pe now origin kid rand16 sig = .ok signed) :
    ∃ content prev auth eid ms sigs ns, pe.content = some content ∧ RefsOf row pe prev auth ∧
      ms = (if row.eventFormat == 2 then deleteFirst b!"event_id" (membersOf pe content prev auth eid now origin)
            else membersOf pe content prev auth eid now origin) ∧
      signaturesOf ver (.obj (setFirst b!"hashes"
        (.obj [(b!"sha256", .str (B64.encode (H (encodeCanon (.obj (ms.filter hashP))))))]) ms)) = .ok sigs ∧
      (∀ s, sigs = some s → sigsCanonical s = true) ∧
      addSignature sigs origin kid sig = some ns ∧
      signed = setFirst b!"signatures" ns (setFirst b!"hashes"
        (.obj [(b!"sha256", .str (B64.encode (H (encodeCanon (.obj (ms.filter hashP))))))]) ms) := by
  unfold signedMembers at h
  obtain ⟨-, h⟩ := Guard.ok_iff.mp h
  split at h
  · cases h
  · rename_i content hcontent
    simp only at h
    split at h
    · cases h
    · rename_i prev auth hrefs
      split at h
      · split at h <;> cases h
      · cases h
      · rename_i sigs hsigs
        obtain ⟨hcanon, h⟩ := Guard.ok_iff.mp h
        split at h
        · cases h
        · rename_i ns hns
          cases h
          refine ⟨content, prev, auth, if row.eventIDFormat == 1 then 0x24 :: rand16 ++ 0x3A :: origin else [], _, sigs, ns, hcontent,
            ?_, ?_, hsigs, ?_, hns, rfl⟩
          · unfold RefsOf
            split at hrefs
            · rename_i hf
              rw [if_pos hf]
              split at hrefs <;> cases hrefs
              exact ⟨‹_›, ‹_›⟩
            · rename_i hf
              rw [if_neg hf]
              cases hrefs
              exact ⟨rfl, rfl⟩
          · -- the marshalling as the model writes it, field by field; `signatures` and `unsigned` are the two fields
            -- whose presence is not a condition but a variable
            unfold membersOf structFields
            simp only [optMembers_cons_ite, optMembers_cons_some, optMembers_cons_none, optMembers_nil, optMembers_cons_map]
            rw [optMembers_cons]
            simp only [optMembers_cons_some]
            rw [optMembers_cons]
            simp only [optMembers_cons_ite, optMembers_cons_some, optMembers_cons_none, optMembers_nil, List.append_assoc,
              List.cons_append, List.nil_append, List.append_nil]
            rfl
          · intro s hs
            subst hs
            simpa using hcanon

/-! ### number literals of the signed members -/

/-- The three raw-JSON inputs of a proto-event are JSON values: their number literals follow the
    JSON grammar (true of every value a text denotes: `parse_numsOk`). -/
structure ProtoOk (pe : Proto) : Prop where
  content : ∀ c, pe.content = some c → c.numsOk = true
  unsigned : ∀ u, pe.unsigned = some u → u.numsOk = true
  signatures : ∀ s, pe.signatures = some s → s.numsOk = true

theorem numsOkList_map_str : ∀ l : List Bytes, numsOkList (l.map JVal.str) = true
  | [] => rfl
  | x :: xs => by simp [numsOkList, JVal.numsOk, numsOkList_map_str xs]

theorem refsV1_numsOk : ∀ (ids : List Bytes) (out : List JVal), refsV1 ids = .ok out → numsOkList out = true
  | [], out, h => by
    simp only [refsV1, List.mapM_nil, pure, Except.pure] at h
    cases h; rfl
  | id :: ids, out, h => by
    simp only [refsV1, List.mapM_cons, bind, Except.bind] at h
    split at h
    · cases h
    · rename_i x hx
      split at h
      · cases h
      · rename_i rest hrest
        simp only [pure, Except.pure] at h
        cases h
        have ih := refsV1_numsOk ids rest hrest
        split at hx
        · cases hx
        · cases hx
          simp [numsOkList, JVal.numsOk, numsOkMembers, ih]

theorem refsOf_numsOk {row : VGen.VersionRow} {pe : Proto} {prev auth : List JVal} (h : RefsOf row pe prev auth) :
    numsOkList prev = true ∧ numsOkList auth = true := by
  unfold RefsOf at h
  split at h
  · exact ⟨refsV1_numsOk _ _ h.1, refsV1_numsOk _ _ h.2⟩
  · rw [h.1, h.2]; exact ⟨numsOkList_map_str _, numsOkList_map_str _⟩

theorem membersOf_numsOk {pe : Proto} (hpe : ProtoOk pe) {content : JVal} (hc : pe.content = some content)
    {prev auth : List JVal} (hp : numsOkList prev = true) (ha : numsOkList auth = true) (eid : Bytes) (now : Nat) (origin : Bytes) :
    ∀ kv ∈ membersOf pe content prev auth eid now origin, kv.2.numsOk = true := by
  refine optMembers_forall (P := fun v => v.numsOk = true) ?_
  simp only [structFields, List.forall_mem_cons, List.not_mem_nil, false_imp_iff, implies_true, and_true, true_and,
    Option.some.injEq, forall_eq', Option.ite_none_left_eq_some, Option.ite_none_right_eq_some, Option.map_eq_some_iff,
    forall_exists_index, and_imp, forall_apply_eq_imp_iff, forall_apply_eq_imp_iff₂, JVal.numsOk, numsOkList, hp, ha,
    hpe.content content hc, intLit_isNumLit, natDigits_isNumLit]
  exact ⟨hpe.signatures, hpe.unsigned⟩

theorem sigsCanonical_numsOk {s : JVal} (h : sigsCanonical s = true) : s.numsOk = true := by
  unfold sigsCanonical at h
  split at h
  · rename_i m
    simp only [JVal.numsOk, numsOkMembers_eq_all, List.all_eq_true] at h ⊢
    intro kv hkv
    have := h kv hkv
    split at this
    · rename_i km hkm
      rw [hkm]
      simp only [JVal.numsOk, numsOkMembers_eq_all, List.all_eq_true] at this ⊢
      intro x hx
      have := this x hx
      split at this
      · rename_i sx hsx; rw [hsx]; rfl
      · cases this
    · cases this
  · cases h

theorem numsOk_obj_of_forall {m : EventParse.Obj} (h : ∀ kv ∈ m, kv.2.numsOk = true) : (JVal.obj m).numsOk = true := by
  simp only [JVal.numsOk, numsOkMembers_eq_all, List.all_eq_true]
  exact h

theorem numsOk_obj_forall {m : EventParse.Obj} (h : (JVal.obj m).numsOk = true) : ∀ kv ∈ m, kv.2.numsOk = true := by
  simp only [JVal.numsOk, numsOkMembers_eq_all, List.all_eq_true] at h
  exact h

theorem numsOk_valProp : ValProp (·.numsOk = true) :=
  ⟨fun _ => rfl, rfl, fun _ => ⟨numsOk_obj_forall, numsOk_obj_of_forall⟩⟩

/-- what the proofs use of the members `Build` signed (`signedFacts`) -/
structure SignedFacts (H : Bytes → Bytes) (row : VGen.VersionRow) (ver : Bytes) (signed : EventParse.Obj) : Prop where
  keys : ∀ kv ∈ signed, kv.1 = b!"hashes" ∨ kv.1 ∈ buildKeys
  noEventID : (row.eventFormat == 2) = true → ∀ kv ∈ signed, kv.1 ≠ b!"event_id"
  hash : (b!"hashes", JVal.obj [(b!"sha256", .str (B64.encode (H (encodeCanon (.obj (signed.filter hashP))))))]) ∈ signed
  redactable : ∃ withHash ns r, signed = setFirst b!"signatures" ns withHash ∧ redactJSON ver (.obj withHash) = .ok r

/-- the content hash covers neither `signatures` nor `hashes`: writing them does not change the hashed members -/
theorem filter_hashP_signed (ns hv : JVal) (ms : EventParse.Obj) :
    (setFirst b!"signatures" ns (setFirst b!"hashes" hv ms)).filter hashP = ms.filter hashP := by
  rw [filter_setFirst_other hashP _ _ (fun _ => rfl), filter_setFirst_other hashP _ _ (fun _ => rfl)]

theorem signedFacts {H : Bytes → Bytes} {row : VGen.VersionRow} {ver : Bytes} {pe : Proto} {now : Nat}
    {origin kid rand16 sig : Bytes} {signed : EventParse.Obj}
    (h : signedMembers H row ver pe now origin kid rand16 sig = .ok signed) : SignedFacts H row ver signed := by
  obtain ⟨content, prev, auth, eid, ms, sigs, ns, _, _, hms, hsigs, _, _, hsigned⟩ := signedMembers_ok h
  have hsub : ∀ kv ∈ ms, kv.1 ∈ buildKeys := fun kv hkv =>
    (membersOf_keys pe content prev auth eid now origin).subset (List.mem_map_of_mem (ite_deleteFirst_subset _ _ _ kv (hms ▸ hkv)))
  refine ⟨?_, ?_, ?_, ?_⟩
  · rw [hsigned]
    exact setFirst_all (Or.inr (show b!"signatures" ∈ buildKeys by decide)) (setFirst_all (Or.inl rfl)
      (fun kv hkv => Or.inr (hsub kv hkv)))
  · intro hf
    rw [hsigned, hms, if_pos hf]
    exact setFirst_all (show b!"signatures" ≠ b!"event_id" by decide) (setFirst_all (show b!"hashes" ≠ b!"event_id" by decide)
      (deleteFirst_removes _ _ ((membersOf_keys ..).nodup buildKeys_nodup)))
  · rw [hsigned, filter_hashP_signed]
    exact mem_setFirst_of_ne (by show b!"hashes" ≠ b!"signatures"; decide) (mem_setFirst_self _ _ _)
  · generalize setFirst b!"hashes" _ ms = wh at hsigs hsigned
    unfold signaturesOf at hsigs
    cases hr : redactJSON ver (.obj wh) with
    | error x => rw [hr] at hsigs; cases hsigs
    | ok r => exact ⟨wh, ns, r, hsigned, hr⟩

theorem signed_numsOk {H : Bytes → Bytes} {row : VGen.VersionRow} {ver : Bytes} {pe : Proto} {now : Nat}
    {origin kid rand16 sig : Bytes} {signed : EventParse.Obj} (hpe : ProtoOk pe)
    (h : signedMembers H row ver pe now origin kid rand16 sig = .ok signed) : (JVal.obj signed).numsOk = true := by
  obtain ⟨content, prev, auth, eid, ms, sigs, ns, hc, hrefs, hms, _, hcanon, hns, hsigned⟩ := signedMembers_ok h
  obtain ⟨hp, ha⟩ := refsOf_numsOk hrefs
  have hmem := membersOf_numsOk hpe hc hp ha eid now origin
  have hmsn : ∀ kv ∈ ms, kv.2.numsOk = true := fun kv hkv => hmem kv (ite_deleteFirst_subset _ _ _ kv (hms ▸ hkv))
  have hnsn : ns.numsOk = true := addSignature_vals numsOk_valProp (fun s hs => sigsCanonical_numsOk (hcanon s hs)) hns
  rw [hsigned]
  exact numsOk_obj_of_forall (setFirst_all hnsn (setFirst_all rfl hmsn))

/-! ## Size: dropping members does not lengthen the canonical text -/

/-- the lengths of the elements, each counted with one separator: one more than the length of `joinWith sep xs` -/
def joinedLen : List Bytes → Nat
  | [] => 0
  | x :: xs => x.length + 1 + joinedLen xs

theorem joinWith_length (sep : UInt8) : ∀ xs : List Bytes, (joinWith sep xs).length = joinedLen xs - 1
  | [] => rfl
  | [x] => by simp [joinWith, joinedLen]
  | x :: y :: ys => by
    have ih := joinWith_length sep (y :: ys)
    simp only [joinWith, List.length_append, List.length_cons] at ih ⊢
    simp only [joinedLen] at ih ⊢
    omega

theorem joinedLen_perm {a b : List Bytes} (h : a.Perm b) : joinedLen a = joinedLen b := by
  induction h with
  | nil => rfl
  | cons x _ ih => simp [joinedLen, ih]
  | swap x y l => simp only [joinedLen]; omega
  | trans _ _ ih1 ih2 => exact ih1.trans ih2

theorem joinedLen_sublist {a b : List Bytes} (h : List.Sublist a b) : joinedLen a ≤ joinedLen b := by
  induction h with
  | slnil => exact Nat.le_refl _
  | cons x _ ih => simp only [joinedLen]; omega
  | cons_cons x _ ih => simp only [joinedLen]; omega

theorem encodeCanon_obj_length (l : EventParse.Obj) :
    (encodeCanon (.obj l)).length = 2 + (joinedLen (encodeMembers (sortedMembers l)) - 1) := by
  unfold encodeCanon
  simp only [JVal.sorted, encode, List.length_cons, List.length_append, List.length_nil, joinWith_length]
  have hp : (encodeMembers (sortByKey (sortedMembers l))).Perm (encodeMembers (sortedMembers l)) := by
    rw [encodeMembers_eq_map, encodeMembers_eq_map]
    exact (sortByKey_perm _).map _
  rw [joinedLen_perm hp]
  omega

theorem encodeCanon_sublist_length {l' l : EventParse.Obj} (h : List.Sublist l' l) :
    (encodeCanon (.obj l')).length ≤ (encodeCanon (.obj l)).length := by
  rw [encodeCanon_obj_length, encodeCanon_obj_length]
  have hs : List.Sublist (encodeMembers (sortedMembers l')) (encodeMembers (sortedMembers l)) := by
    rw [encodeMembers_eq_map, encodeMembers_eq_map, sortedMembers_eq_map, sortedMembers_eq_map]
    exact (h.map _).map _
  have := joinedLen_sublist hs
  omega

/-! ## The canonical members of what `Build` signed -/

theorem encodeCanon_canon (v : JVal) (hd : v.noDupKeys = true) : encodeCanon v.sorted.normNums = encodeCanon v := by
  rw [encodeCanon_normNums, encodeCanon_sorted v hd]

/-- two presentations of the same object (member order, values in canonical form) have the same canonical bytes -/
theorem encodeCanon_of_perm_cm {A B : EventParse.Obj} (hp : A.Perm (B.map canonMember)) (hB : (JVal.obj B).noDupKeys = true) :
    encodeCanon (.obj A) = encodeCanon (.obj B) := by
  rw [← encodeCanon_canon _ hB, canon_obj]
  have hp' : A.Perm (canonMembers B) := hp.trans (canonMembers_perm B).symm
  apply C01.canon_member_order_irrelevant _ _ hp'
  unfold NodupKeys
  have := (hp.map (·.1)).nodup_iff.mpr (by
    have := keysOf_map_cm B
    unfold keysOf at this
    rw [this]; exact keys_nodup_of_noDupKeys hB)
  exact this

/-! ## Sorting and the lookups: first member, last member -/

/-- `getFirst` (and `mapGet`) is the lookup of `V.Assoc` -/
theorem getFirst_eq_lookup (l : EventParse.Obj) (k : Bytes) : getFirst l k = Assoc.lookup l k := rfl

theorem getFirst_of_mem {l : EventParse.Obj} (hn : (keysOf l).Nodup) {k : Bytes} {v : JVal} (h : (k, v) ∈ l) :
    getFirst l k = some v :=
  (Assoc.lookup_eq_some_iff hn).mpr h

/-- without repeated keys the first and the last member under a key are the same -/
theorem getFirst_eq_lookupExact {l : EventParse.Obj} (hn : (keysOf l).Nodup) (k : Bytes) : getFirst l k = lookupExact l k := by
  cases h : lookupExact l k with
  | some v => exact getFirst_of_mem hn (lookupExact_mem h)
  | none =>
    rw [lookupExact_eq, lastSome_none_iff] at h
    unfold getFirst
    rw [List.find?_eq_none.mpr (fun x hx => by simp [h x hx])]
    rfl

theorem getFirst_append_absent (k : Bytes) (v : JVal) (l : EventParse.Obj) (h : ∀ kv ∈ l, (kv.1 == k) = false) :
    getFirst (l ++ [(k, v)]) k = some v := by
  have hl : Assoc.lookup l k = none := Assoc.lookup_eq_none.mpr (fun hk => by
    obtain ⟨kv, hkv, rfl⟩ := List.mem_map.mp hk
    simpa using h kv hkv)
  rw [getFirst_eq_lookup, Assoc.lookup_append, hl, Assoc.lookup_cons, beq_self_eq_true]
  rfl

theorem getFirst_append_of_some {l l' : EventParse.Obj} {k : Bytes} {v : JVal} (h : getFirst l k = some v) :
    getFirst (l ++ l') k = some v := by
  rw [getFirst_eq_lookup, Assoc.lookup_append, ← getFirst_eq_lookup, h]
  rfl

/-- In a list sorted by key, an inserted member becomes the last one with its key. -/
theorem lookupExact_insertByKey (x : Bytes × JVal) (k : Bytes) :
    ∀ s : EventParse.Obj, s.Pairwise KeyLe →
      lookupExact (insertByKey x s) k = if x.1 == k then some x.2 else lookupExact s k
  | [], _ => rfl
  | y :: ys, h => by
    unfold insertByKey
    split
    · rename_i hlt
      rw [lookupExact_eq, lastSome_cons, ← lookupExact_eq]
      by_cases hx : x.1 = k
      · have hnone : lookupExact (y :: ys) k = none := by
          rw [lookupExact_eq]
          apply lastSome_none_of_forall
          intro z hz
          cases hzk : z.1 == k
          · rfl
          · exfalso
            have hzx : z.1 = x.1 := by rw [hx]; exact beq_iff_eq.mp hzk
            rcases List.mem_cons.mp hz with rfl | hz'
            · rw [← hzx, bytesLt_irrefl] at hlt; cases hlt
            · have hle : KeyLe y z := List.rel_of_pairwise_cons h hz'
              unfold KeyLe at hle
              rw [hzx, hlt] at hle; cases hle
        have hb : (x.1 == k) = true := by simp [hx]
        rw [hnone, hb]
      · have hb : (x.1 == k) = false := by simp [hx]
        rw [hb]
        cases lookupExact (y :: ys) k <;> rfl
    · rw [lookupExact_eq, lastSome_cons, ← lookupExact_eq, lookupExact_insertByKey x k ys h.tail,
        lookupExact_eq (y :: ys), lastSome_cons, ← lookupExact_eq]
      cases (x.1 == k) <;> cases lookupExact ys k <;> cases (y.1 == k) <;> rfl

/-- The last member with key `k` of the sorted list is the FIRST member with key `k` of the original
    (the insertion sort reverses the order of members with equal keys). -/
theorem lookupExact_sortByKey (k : Bytes) : ∀ l : EventParse.Obj, lookupExact (sortByKey l) k = getFirst l k
  | [] => rfl
  | x :: l => by
    show lookupExact (insertByKey x (sortByKey l)) k = _
    rw [lookupExact_insertByKey x k _ (sortByKey_sorted l), lookupExact_sortByKey k l]
    unfold getFirst
    simp only [List.find?_cons]
    cases (x.1 == k) <;> rfl

theorem lookupExact_mapVal (f : JVal → JVal) (k : Bytes) (l : EventParse.Obj) :
    lookupExact (l.map (fun kv => (kv.1, f kv.2))) k = (lookupExact l k).map f := by
  rw [lookupExact_eq_lookup_reverse, lookupExact_eq_lookup_reverse, ← List.map_reverse, Assoc.lookup_map_snd]

theorem getFirst_mapVal (f : JVal → JVal) (k : Bytes) (l : EventParse.Obj) :
    getFirst (l.map (fun kv => (kv.1, f kv.2))) k = (getFirst l k).map f :=
  Assoc.lookup_map_snd f l k

/-- **The canonical form of an object holds, under a key, the canonical form of the first member the text has
    under that key** — whatever duplicates the object has. -/
theorem lookupExact_canonFirst (l : EventParse.Obj) (k : Bytes) :
    lookupExact (canonMembers l) k = (getFirst l k).map (fun v => v.sorted.normNums) := by
  unfold canonMembers
  rw [normNumsMembers_eq_map, lookupExact_mapVal, lookupExact_sortByKey, sortedMembers_eq_map, getFirst_mapVal,
    Option.map_map]
  rfl

theorem lookupExact_canon {l : EventParse.Obj} (hn : (keysOf l).Nodup) (n : Bytes) :
    lookupExact (canonMembers l) n = (lookupExact l n).map (fun v => v.sorted.normNums) := by
  rw [lookupExact_canonFirst, getFirst_eq_lookupExact hn]

theorem b64_decode_encode (bs : Bytes) : B64.decode (B64.encode bs) = some bs :=
  B64.decode_encode bs

/-! ## The content hash `Build` wrote is the one the receiver recomputes -/

def allKeys : List Bytes := b!"hashes" :: buildKeys

theorem SignedFacts.keys_mem_allKeys {H : Bytes → Bytes} {row : VGen.VersionRow} {ver : Bytes} {signed : EventParse.Obj}
    (SF : SignedFacts H row ver signed) : ∀ kv ∈ signed, kv.1 ∈ allKeys := by
  intro kv hkv
  rcases SF.keys kv hkv with h | h
  · rw [h]; exact List.mem_cons_self
  · exact List.mem_cons_of_mem _ h

theorem strip_contains : ∀ fmt : Fmt, ∀ k ∈ allKeys,
    (stripKeys fmt).contains k = (k == b!"unsigned" || (!(fmt == Fmt.v1) && k == b!"event_id")) := by
  intro fmt
  cases fmt <;> decide +kernel

theorem hashKeys_contains (k : Bytes) :
    [b!"signatures", b!"unsigned", b!"hashes"].contains k = (k == b!"signatures" || k == b!"unsigned" || k == b!"hashes") := by
  simp only [List.contains_cons, List.contains_nil, Bool.or_false, Bool.or_assoc]

theorem noDupKeys_filter {l : EventParse.Obj} (P : Bytes × JVal → Bool) (h : (JVal.obj l).noDupKeys = true) :
    (JVal.obj (l.filter P)).noDupKeys = true := by
  simp only [JVal.noDupKeys, Bool.and_eq_true] at h ⊢
  constructor
  · apply (noDupIn_iff_nodup _).mpr
    exact ((List.filter_sublist (l := l)).map _).nodup ((noDupIn_iff_nodup _).mp h.1)
  · rw [jNoDupMembers_all, List.all_eq_true] at h ⊢
    intro x hx
    exact h.2 x (List.mem_filter.mp hx).1

theorem sha256Obj_canon (x : Bytes) : (JVal.obj [(b!"sha256", JVal.str x)]).sorted.normNums = JVal.obj [(b!"sha256", JVal.str x)] := by
  simp [JVal.sorted, sortedMembers, sortByKey, insertByKey, JVal.normNums, normNumsMembers]

/-- the `hashes` member `Build` wrote is a member of the canonical form as it stands -/
theorem hashes_mem_canon {signed : EventParse.Obj} {x : Bytes}
    (hh : (b!"hashes", JVal.obj [(b!"sha256", .str x)]) ∈ signed) :
    (b!"hashes", JVal.obj [(b!"sha256", .str x)]) ∈ canonMembers signed := by
  apply (canonMembers_perm signed).symm.subset
  have := List.mem_map_of_mem (f := canonMember) hh
  simp only [canonMember, sha256Obj_canon] at this
  exact this

theorem contentHashOk_of_mem (H : Bytes → Bytes) {K : EventParse.Obj} (hn : (keysOf K).Nodup)
    (hm : (b!"hashes", JVal.obj [(b!"sha256", .str (B64.encode (H (hashedBytes K))))]) ∈ K) : contentHashOk H K = true := by
  unfold contentHashOk claimedHash
  rw [getFirst_of_mem hn hm]
  simp only [getFirst, List.find?_cons, beq_self_eq_true, Option.map_some, b64_decode_encode]

/-- the bytes `checkEventContentHash` hashes on the canonical form of what `Build` assembled, after a receiver has
    deleted keys the hash does not cover anyway: the canonical encoding of the hashed members -/
theorem hashedBytes_canon {signed : EventParse.Obj} (hd : (JVal.obj signed).noDupKeys = true) (ks : List Bytes) (hks : ∀ kv ∈ signed, ks.contains kv.1 = true → hashP kv = false) :
    hashedBytes (deleteKeys ks (canonMembers signed)) = encodeCanon (.obj (signed.filter hashP)) := by
  have hSn := canonMembers_nodup (keys_nodup_of_noDupKeys hd)
  unfold hashedBytes
  rw [deleteKeys_eq_filter _ _ (deleteKeys_keys_nodup ks _ hSn), deleteKeys_eq_filter _ _ hSn, List.filter_filter]
  apply encodeCanon_of_perm_cm _ (noDupKeys_filter hashP hd)
  refine ((canonMembers_perm signed).filter _).trans ?_
  rw [List.filter_map]
  apply List.Perm.of_eq
  congr 1
  apply List.filter_congr
  intro kv hkv
  simp only [Function.comp, canonMember]
  rw [hashKeys_contains kv.1]
  rw [show (!(kv.1 == b!"signatures" || kv.1 == b!"unsigned" || kv.1 == b!"hashes")) = hashP kv from rfl]
  cases hc : ks.contains kv.1
  · exact Bool.and_true _
  · rw [hks kv hkv hc]; rfl

theorem contentHash_canon (H : Bytes → Bytes) (fmt : Fmt) {signed : EventParse.Obj} (hd : (JVal.obj signed).noDupKeys = true)
    (hk : ∀ kv ∈ signed, kv.1 ∈ allKeys) (hev : fmt ≠ .v1 → ∀ kv ∈ signed, kv.1 ≠ b!"event_id")
    (hh : (b!"hashes", JVal.obj [(b!"sha256", .str (B64.encode (H (encodeCanon (.obj (signed.filter hashP))))))]) ∈ signed) :
    contentHashOk H (deleteKeys (stripKeys fmt) (canonMembers signed)) = true := by
  have hSn := canonMembers_nodup (keys_nodup_of_noDupKeys hd)
  have hb := hashedBytes_canon hd (stripKeys fmt) (fun kv hkv hc => by
    rw [strip_contains fmt kv.1 (hk kv hkv), Bool.or_eq_true, Bool.and_eq_true] at hc
    rcases hc with hu | ⟨hf, he⟩
    · simp [hashP, hu]
    · exact absurd (beq_iff_eq.mp he) (hev (by intro h; simp [h] at hf) kv hkv))
  apply contentHashOk_of_mem H (deleteKeys_keys_nodup _ _ hSn)
  rw [hb, deleteKeys_eq_filter _ _ hSn]
  refine List.mem_filter.mpr ⟨hashes_mem_canon hh, ?_⟩
  show (!(stripKeys fmt).contains b!"hashes") = true
  cases fmt <;> decide

theorem contentHash_canon_obj (H : Bytes → Bytes) {signed : EventParse.Obj} (hd : (JVal.obj signed).noDupKeys = true)
    (hh : (b!"hashes", JVal.obj [(b!"sha256", .str (B64.encode (H (encodeCanon (.obj (signed.filter hashP))))))]) ∈ signed) :
    contentHashOk H (canonMembers signed) = true := by
  apply contentHashOk_of_mem H (canonMembers_nodup (keys_nodup_of_noDupKeys hd))
  rw [show hashedBytes (canonMembers signed) = _ from hashedBytes_canon hd [] (fun _ _ h => by cases h)]
  exact hashes_mem_canon hh

/-! ## Redaction of a canonicalised event succeeds when redaction of the event does -/

theorem intSafe_encodeNum {lit : Bytes} (h : intSafe lit = true) : intSafe (encodeNum lit) = true := by
  unfold encodeNum
  split
  · decide
  · exact h

theorem ifaceOk_hered :
    Hered (ifaceOk · = true) (ifaceOkList · = true) (ifaceOkMembers · = true) (utf8Valid · = true) (·.Nodup) where
  arr _ := Iff.rfl
  obj _ := by simp only [ifaceOk, Bool.and_eq_true, noDupIn_iff_nodup]
  list xs := by induction xs <;> simp [ifaceOkList, *]
  members kvs := by induction kvs <;> simp [ifaceOkMembers, *]

theorem iface_sorted : (v : JVal) → ifaceOk v = true → ifaceOk v.sorted = true :=
  (ifaceOk_hered.map sorted_hmap (fun p => p.nodup_iff.mp) fun _ h => h).1
theorem iface_sortedList : (xs : List JVal) → ifaceOkList xs = true → ifaceOkList (sortedList xs) = true :=
  fun xs => iface_sorted (.arr xs)
theorem iface_sortedMembers : (kvs : List (Bytes × JVal)) → ifaceOkMembers kvs = true → ifaceOkMembers (sortedMembers kvs) = true :=
  (ifaceOk_hered.map sorted_hmap (fun p => p.nodup_iff.mp) fun _ h => h).2.2

theorem iface_normNums : (v : JVal) → ifaceOk v = true → ifaceOk v.normNums = true :=
  (ifaceOk_hered.map normNums_hmap (fun p => p.nodup_iff.mp) fun _ => intSafe_encodeNum).1
theorem iface_normNumsList : (xs : List JVal) → ifaceOkList xs = true → ifaceOkList (normNumsList xs) = true :=
  fun xs => iface_normNums (.arr xs)
theorem iface_normNumsMembers : (kvs : List (Bytes × JVal)) → ifaceOkMembers kvs = true → ifaceOkMembers (normNumsMembers kvs) = true :=
  (ifaceOk_hered.map normNums_hmap (fun p => p.nodup_iff.mp) fun _ => intSafe_encodeNum).2.2

theorem worst_ok {a b : NumClass} : a.worst b = .ok ↔ a = .ok ∧ b = .ok := by
  cases a <;> cases b <;> simp [NumClass.worst]

theorem worst_ok_left (x : NumClass) : NumClass.worst .ok x = x := by cases x <;> rfl

theorem floatClass_encodeNum {lit : Bytes} (h : floatClass lit = .ok) : floatClass (encodeNum lit) = .ok := by
  unfold encodeNum
  split
  · decide
  · exact h

theorem floatScan_hered :
    Hered (floatScan · = .ok) (floatScanList · = .ok) (floatScanMembers · = .ok) (fun _ => True) (fun _ => True) where
  arr _ := Iff.rfl
  obj _ := ⟨.intro trivial, And.right⟩
  list xs := by induction xs <;> simp [floatScanList, worst_ok, *]
  members kvs := by induction kvs <;> simp [floatScanMembers, worst_ok, *]

theorem float_sorted : (v : JVal) → floatScan v = .ok → floatScan v.sorted = .ok :=
  (floatScan_hered.map sorted_hmap (fun _ h => h) fun _ h => h).1
theorem float_sortedMembers : (kvs : List (Bytes × JVal)) → floatScanMembers kvs = .ok → floatScanMembers (sortedMembers kvs) = .ok :=
  (floatScan_hered.map sorted_hmap (fun _ h => h) fun _ h => h).2.2

theorem float_normNums : (v : JVal) → floatScan v = .ok → floatScan v.normNums = .ok :=
  (floatScan_hered.map normNums_hmap (fun _ h => h) fun _ => floatClass_encodeNum).1
theorem float_normNumsList : (xs : List JVal) → floatScanList xs = .ok → floatScanList (normNumsList xs) = .ok :=
  fun xs => float_normNums (.arr xs)
theorem float_normNumsMembers : (kvs : List (Bytes × JVal)) → floatScanMembers kvs = .ok → floatScanMembers (normNumsMembers kvs) = .ok :=
  (floatScan_hered.map normNums_hmap (fun _ h => h) fun _ => floatClass_encodeNum).2.2

theorem floatScanMembers_canon (m : EventParse.Obj) (h : floatScanMembers m = .ok) : floatScanMembers (canonMembers m) = .ok :=
  float_normNumsMembers _ (float_sorted (.obj m) h)

/-! ### members selected by a struct field, before and after canonicalisation -/

/-- no two top-level keys are case variants of each other -/
def FoldNodup (kvs : EventParse.Obj) : Prop := (kvs.map (fun kv => foldBytes kv.1)).Nodup

theorem sel_canon {kvs : EventParse.Obj} (hfd : FoldNodup kvs) (n : Bytes) : sel n (canonMembers kvs) = (sel n kvs).map canonMember := by
  have hp : (sel n (canonMembers kvs)).Perm ((sel n kvs).map canonMember) := by
    unfold sel
    refine ((canonMembers_perm kvs).filter _).trans ?_
    rw [List.filter_map]
    exact List.Perm.of_eq rfl
  have hl := sel_length_le_one hfd n
  match h : sel n kvs with
  | [] => rw [h] at hp; simpa using hp.eq_nil
  | [x] => rw [h] at hp; exact List.perm_singleton.mp hp
  | _ :: _ :: _ => rw [h] at hl; simp at hl

theorem lookupField_canon {kvs : EventParse.Obj} (hfd : FoldNodup kvs) (n : Bytes) :
    lookupField (canonMembers kvs) n = (lookupField kvs n).map (fun v => v.sorted.normNums) := by
  rw [lookupField_sel, lookupField_sel, sel_canon hfd, List.getLast?_map]
  cases (sel n kvs).getLast? <;> rfl

theorem mapGet_canon {m : EventParse.Obj} (hm : (keysOf m).Nodup) (k : Bytes) :
    mapGet (canonMembers m) k = (mapGet m k).map (fun v => v.sorted.normNums) := by
  show getFirst _ k = (getFirst m k).map _
  rw [getFirst_eq_lookupExact (canonMembers_nodup hm), getFirst_eq_lookupExact hm, lookupExact_canon hm]

theorem modelled_cm {kv : Bytes × JVal} (h : (utf8Valid kv.1 && ifaceOk kv.2) = true) :
    (utf8Valid (canonMember kv).1 && ifaceOk (canonMember kv).2) = true := by
  simp only [Bool.and_eq_true] at h ⊢
  exact ⟨h.1, iface_normNums _ (iface_sorted _ h.2)⟩

theorem contentModelled_canon (ct : CTable) (ty : Bytes) {m : EventParse.Obj} (hm : (keysOf m).Nodup)
    (h : contentModelled (newContent ct ty (some m)) = true) :
    contentModelled (newContent ct ty (some (canonMembers m))) = true := by
  unfold newContent at h ⊢
  split
  · rename_i hct
    rw [hct] at h
    simp only [contentModelled, Option.getD_some, List.all_eq_true] at h ⊢
    intro x hx
    obtain ⟨y, hy, rfl⟩ := List.mem_map.mp ((canonMembers_perm m).subset hx)
    exact modelled_cm (h y hy)
  · rename_i keys hne hct
    rw [hct] at h
    have h' : contentModelled (some (keys.filterMap (fun k => (mapGet ((some m).getD []) k).map (fun v => (k, v))))) = true := by
      split at h
      · rename_i heq; cases heq; exact absurd rfl hne
      · rename_i heq; cases heq; exact h
      · rename_i heq; cases heq
    simp only [contentModelled, Option.getD_some, List.all_eq_true] at h' ⊢
    have hfm : keys.filterMap (fun k => (mapGet (canonMembers m) k).map (fun v => (k, v))) =
        (keys.filterMap (fun k => (mapGet m k).map (fun v => (k, v)))).map canonMember := by
      rw [List.map_filterMap]
      apply Lists.filterMap_congr_mem
      intro k _
      rw [mapGet_canon hm]
      cases mapGet m k <;> rfl
    rw [hfm]
    intro x hx
    obtain ⟨y, hy, rfl⟩ := List.mem_map.mp hx
    exact modelled_cm (h' y hy)
  · rename_i hct
    rw [hct] at h
    exact h

theorem decContent1_canon {v : Option JVal} {c : Option RedactProofs.Obj} (h : decContent1 v = ⟨c, false, .ok⟩)
    (hv : ∀ w, v = some w → w.noDupKeys = true) :
    decContent1 (v.map fun w => w.sorted.normNums) = ⟨c.map canonMembers, false, .ok⟩ := by
  match v, h, hv with
  | none, h, _ => cases h; rfl
  | some .null, h, _ => cases h; rfl
  | some (.obj m), h, hv =>
    have hm : (keysOf m).Nodup := keys_nodup_of_noDupKeys (hv _ rfl)
    simp only [decContent1, contentStep, Option.getD_none, mergeInto_nil_of_nodup m hm, worst_ok_left, ContentDec.mk.injEq] at h
    obtain ⟨rfl, _, hf⟩ := h
    simp only [Option.map_some, canon_obj, decContent1, contentStep, Option.getD_none,
      mergeInto_nil_of_nodup _ (canonMembers_nodup hm), worst_ok_left, floatScanMembers_canon m hf]
  | some (.bool _), h, _ => cases h
  | some (.num _), h, _ => cases h
  | some (.str _), h, _ => cases h
  | some (.arr _), h, _ => cases h

/-- a run survives canonicalisation of the members it reads -/
theorem reads_canon {a : Algo} {E : Field → Option JVal} {tf cf : Field} {ty : Bytes} {c : Option RedactProofs.Obj}
    (R : Reads a E tf cf ty c) (hE : ∀ v, E cf = some v → v.noDupKeys = true) :
    Reads a (fun f => (E f).map fun v => v.sorted.normNums) tf cf ty (c.map canonMembers) := by
  refine ⟨R.htf, R.hcf, R.noUnknown, ?_, decContent1_canon R.content hE, R.tutf, ?_,
    fun f hf hk ho => by rw [Option.isSome_map]; exact R.mok f hf hk ho⟩
  · rw [← R.type]
    rcases E tf with _ | v
    · rfl
    · cases v <;> rfl
  · cases c with
    | none => exact R.cmod
    | some m => exact contentModelled_canon _ _ (decContent1_nodup (by rw [R.content])) R.cmod

theorem foldNodup_canon {kvs : EventParse.Obj} (hfd : FoldNodup kvs) : FoldNodup (canonMembers kvs) := by
  have hp := (canonMembers_perm kvs).map (fun kv => foldBytes kv.1)
  rw [List.map_map] at hp
  exact hp.nodup_iff.mpr hfd

theorem noDupKeys_members {kvs : EventParse.Obj} (hd : (JVal.obj kvs).noDupKeys = true) : ∀ kv ∈ kvs, kv.2.noDupKeys = true := by
  simp only [JVal.noDupKeys, Bool.and_eq_true] at hd
  exact List.all_eq_true.mp (jNoDupMembers_all kvs ▸ hd.2)

/-- **Redaction survives canonicalisation.**  If an event (no two top-level keys case variants of
    each other, no duplicate keys inside) can be redacted, so can its canonical form. -/
theorem redactObj_canon {a : Algo} {kvs : EventParse.Obj} (hfd : FoldNodup kvs) (hd : (JVal.obj kvs).noDupKeys = true)
    {v : JVal} (h : redactObj a kvs = .ok v) : ∃ v', redactObj a (canonMembers kvs) = .ok v' := by
  obtain ⟨tf, cf, ty, c, R, _⟩ := (redactObj_iff hfd (fun _ _ => rfl) v).mp h
  have R' := reads_canon R fun v hv => by
    obtain ⟨kv, hkv, _, rfl⟩ := lastSome_mem _ _ _ hv
    exact noDupKeys_members hd kv hkv
  exact ⟨_, (redactObj_iff (foldNodup_canon hfd) (fun _ _ => lookupField_canon hfd _) _).mpr ⟨tf, cf, ty, _, R', rfl⟩⟩

/-- **`RedactEventJSON` survives canonicalisation.**  If an event without duplicate keys can be redacted, so
    can its canonical form. -/
theorem redactWith_canon {a : Algo} (hT : tablesOk a = true) {kvs : EventParse.Obj} (hd : (JVal.obj kvs).noDupKeys = true)
    {v : JVal} (h : redactWith a (.obj kvs) = .ok v) : ∃ v', redactWith a (.obj (canonMembers kvs)) = .ok v' := by
  have hdist := (tablesOk_parts hT).1
  obtain ⟨tf, cf, ty, c, R, _⟩ := (redactWith_iff hdist kvs v).mp h
  have R' := reads_canon R fun v hv => noDupKeys_members hd _ (lookupExact_mem hv)
  simp only [← lookupExact_canon (keys_nodup_of_noDupKeys hd)] at R'
  exact ⟨_, (redactWith_iff hdist _ _).mpr ⟨tf, cf, ty, _, R', rfl⟩⟩

/-! ## Tables over the keys `Build` writes -/

theorem allKeys_fold_inj : ∀ a ∈ allKeys, ∀ b ∈ allKeys, foldBytes a = foldBytes b → a = b := by decide +kernel

theorem allKeys_no_underscore : ∀ k ∈ allKeys, hasUnderscoreKey (.obj [(k, .null)]) = false := by decide +kernel

theorem allKeys_event_id : ∀ k ∈ allKeys, matchesField k b!"event_id" = (k == b!"event_id") := by decide +kernel

theorem allKeys_no_header : ∀ k ∈ allKeys, (k == b!"_event_id") = false ∧ (k == b!"_room_version") = false := by decide +kernel

theorem foldNodup_of_keys {l : EventParse.Obj} (hk : ∀ kv ∈ l, kv.1 ∈ allKeys) (hn : (keysOf l).Nodup) : FoldNodup l := by
  unfold FoldNodup
  induction l with
  | nil => exact List.nodup_nil
  | cons x rest ih =>
    have hnd := List.nodup_cons.mp (show (x.1 :: keysOf rest).Nodup from hn)
    rw [List.map_cons, List.nodup_cons]
    refine ⟨?_, ih (fun kv h => hk kv (List.mem_cons_of_mem _ h)) hnd.2⟩
    intro hmem
    obtain ⟨y, hy, he⟩ := List.mem_map.mp hmem
    have := allKeys_fold_inj y.1 (hk y (List.mem_cons_of_mem _ hy)) x.1 (hk x List.mem_cons_self) he
    apply hnd.1
    rw [← this]
    exact List.mem_map.mpr ⟨y, hy, rfl⟩

/-- canonicalisation keeps the keys of an object -/
theorem canon_keys {l : EventParse.Obj} {P : Bytes → Prop} (hk : ∀ kv ∈ l, P kv.1) : ∀ kv ∈ canonMembers l, P kv.1 := by
  intro kv hkv
  obtain ⟨y, hy, rfl⟩ := List.mem_map.mp ((canonMembers_perm l).subset hkv)
  exact hk y hy

theorem hasUnderscoreKey_false {l : EventParse.Obj} (hk : ∀ kv ∈ l, kv.1 ∈ allKeys) : hasUnderscoreKey (.obj l) = false := by
  simp only [hasUnderscoreKey, List.any_eq_false]
  intro kv hkv
  have := allKeys_no_underscore kv.1 (hk kv hkv)
  simp only [hasUnderscoreKey, List.any_cons, List.any_nil, Bool.or_false] at this
  rw [this]
  exact Bool.false_ne_true

theorem allKeys_no_variant : ∀ k ∈ allKeys, structFieldNames.any (fun n => k != n && foldBytes k == foldBytes n) = false := by decide +kernel

/-- the keys `Build` writes are exact names: none is a case variant of a struct field name -/
theorem hasFieldVariant_false {l : EventParse.Obj} (hk : ∀ kv ∈ l, kv.1 ∈ allKeys) : hasFieldVariant (.obj l) = false := by
  simp only [hasFieldVariant, List.any_eq_false]
  intro kv hkv
  have := allKeys_no_variant kv.1 (hk kv hkv)
  rw [this]
  exact Bool.false_ne_true

/-! ## The receiver's stripping on an event without local keys -/

/-- with no `event_id` member (later formats), stripping removes at most the four local keys -/
theorem stripKeys_eq (fmt : Fmt) (l : EventParse.Obj) (hev : fmt ≠ .v1 → ∀ kv ∈ l, kv.1 ≠ b!"event_id") :
    deleteKeys (stripKeys fmt) l = deleteKeys strip4 l := by
  by_cases hf : fmt = .v1
  · subst hf; rfl
  · have : stripKeys fmt = strip4 ++ [b!"event_id"] := by
      unfold stripKeys
      have : (fmt == Fmt.v1) = false := by simp [hf]
      simp [this, strip4]
    rw [this]
    unfold deleteKeys
    rw [List.foldl_append]
    simp only [List.foldl_cons, List.foldl_nil]
    apply deleteFirst_absent
    rw [lookupExact_eq]
    apply lastSome_none_of_forall
    intro kv hkv
    simpa using hev hf kv ((deleteKeys_sublist strip4 l).subset hkv)

theorem members_deleteFirst_other (n k : Bytes) (kvs : EventParse.Obj) (h : matchesField k n = false) :
    members (deleteFirst k kvs) n = members kvs n := by
  have := sel_deleteFirst_other n k kvs h
  unfold members
  unfold sel at this
  rw [this]

theorem members_deleteKeys (ks : List Bytes) (n : Bytes) (kvs : EventParse.Obj) (h : ∀ k ∈ ks, matchesField k n = false) :
    members (deleteKeys ks kvs) n = members kvs n := by
  unfold deleteKeys
  induction ks generalizing kvs with
  | nil => rfl
  | cons k rest ih =>
    simp only [List.foldl_cons]
    rw [ih _ (fun x hx => h x (List.mem_cons_of_mem _ hx)), members_deleteFirst_other n k kvs (h k List.mem_cons_self)]

/-- the struct fields other than `unsigned`, by JSON name -/
def decodedNames : List Bytes := [b!"room_id", b!"sender", b!"type", b!"state_key", b!"content", b!"redacts", b!"depth",
  b!"origin_server_ts", b!"prev_events", b!"auth_events", b!"event_id", b!"msc4354_sticky", b!"sticky"]

theorem strip4_keeps : ∀ k ∈ strip4, ∀ n ∈ decodedNames, matchesField k n = false := by decide +kernel

/-- the struct decoding reads the members under the listed names, and `unsigned`, only -/
theorem decodeFields_congr (fmt : Fmt) {kvs kvs' : EventParse.Obj} (h : ∀ n ∈ decodedNames, members kvs' n = members kvs n) :
    (decodeFields fmt kvs').err = (decodeFields fmt kvs).err ∧
    (decodeFields fmt kvs').unmodelled = (decodeFields fmt kvs).unmodelled ∧
    (decodeFields fmt kvs').f = { (decodeFields fmt kvs).f with unsigned := (decodeFields fmt kvs').f.unsigned } := by
  simp only [decodedNames, List.forall_mem_cons, List.not_mem_nil, false_imp_iff, implies_true, and_true] at h
  obtain ⟨h1, h2, h3, h4, h5, h6, h7, h8, h9, h10, h11, h12, h13⟩ := h
  simp only [decodeFields, h1, h2, h3, h4, h5, h6, h7, h8, h9, h10, h11, h12, h13, and_self]

/-! ## Constructors, forwards -/

theorem populate_later {H : Bytes → Bytes} {row : VGen.VersionRow} {e : PDU} (hv : e.fmt ≠ .v1) (hr : e.f.eventIDRaw = [])
    {id : Bytes} (hid : referenceID H row e.ver (.obj e.obj) = .ok id) :
    populateEventID H row e = .ok { e with f := { e.f with eventIDRaw := id } } := by
  unfold populateEventID
  have : (e.fmt == Fmt.v1) = false := by simp [hv]
  simp only [this, Bool.false_eq_true, if_false, hr, List.isEmpty_nil, Bool.not_true, hid]

theorem populate_later_inv {H : Bytes → Bytes} {row : VGen.VersionRow} {e e' : PDU} (hv : e.fmt ≠ .v1) (hr : e.f.eventIDRaw = [])
    (h : populateEventID H row e = .ok e') :
    referenceID H row e.ver (.obj e.obj) = .ok e'.f.eventIDRaw ∧ e' = { e with f := { e.f with eventIDRaw := e'.f.eventIDRaw } } := by
  have hb : (e.fmt == Fmt.v1) = false := by simp [hv]
  simp only [populateEventID, hb, Bool.false_eq_true, if_false, hr, List.isEmpty_nil, Bool.not_true] at h
  split at h
  · cases h
  · cases h
  · rename_i id hid
    cases h
    exact ⟨hid, rfl⟩

theorem checkFields_size {e : PDU} (h : checkFields e = .ok ()) : e.json.length ≤ maxEventLength := by
  unfold checkFields at h
  cases ha : authEventIDs e with
  | error x => rw [ha] at h; cases h
  | ok a =>
    rw [ha] at h
    exact Nat.le_of_not_gt (Guard.ok_iff.mp (Guard.ok_iff.mp h).2).1

/-! ## `NewEventFromUntrustedJSON`, forwards (the branch where the content hash matches) -/

/-- the event the untrusted constructor returns for a text denoting `.obj S` whose hash matches -/
def received (ver : Bytes) (fmt : Fmt) (K : EventParse.Obj) (id : Bytes) : PDU :=
  { ver := ver, fmt := fmt, redacted := false, json := encodeCanon (.obj K), obj := K,
    f := { (decodeFields fmt K).f with eventIDRaw := id } }

theorem parseUntrusted_intro {H : Bytes → Bytes} {ver text : Bytes} {row : VGen.VersionRow} {fmt : Fmt} {enf : Bool} {p : PVal}
    {S : EventParse.Obj} {id : Bytes}
    (hrow : rowOf ver = some row) (hfmt : fmtOfName row.newEventFromUntrustedJSONFunc = some fmt) (henf : enforces row = some enf)
    (hp : parse text = some p) (hpj : p.toJVal = .obj S)
    (hus : hasUnderscoreKey (.obj S) = false) (hnum : (enf && !p.numbersOk) = false) (hnd : (JVal.obj S).noDupKeys = true)
    (hnv : hasFieldVariant (.obj S) = false)
    (d1 : (decodeFields fmt (deleteKeys (stripKeys fmt) S)).err = false)
    (d2 : (decodeFields fmt (deleteKeys (stripKeys fmt) S)).unmodelled = false)
    (d3 : checkRoom fmt (decodeFields fmt (deleteKeys (stripKeys fmt) S)).f = .ok ())
    (hsize : (encodeCanon (.obj (deleteKeys (stripKeys fmt) S))).length ≤ maxEventLength)
    (hhash : contentHashOk H (deleteKeys (stripKeys fmt) S) = true)
    (hred : fmt = .v1 → ∃ r, redactJSON ver (.obj (deleteKeys (stripKeys fmt) S)) = .ok r)
    (hid : fmt ≠ .v1 → referenceID H row ver (.obj (deleteKeys (stripKeys fmt) S)) = .ok id)
    (hidv1 : fmt = .v1 → id = (decodeFields fmt (deleteKeys (stripKeys fmt) S)).f.eventIDRaw)
    (hcf : checkFields (received ver fmt (deleteKeys (stripKeys fmt) S) id) = .ok ()) :
    parseUntrusted H ver text = .ok (received ver fmt (deleteKeys (stripKeys fmt) S) id) := by
  have hr1 : redactableV1 fmt ver (resetID fmt (mkEvent ver fmt false (encodeCanon (.obj (deleteKeys (stripKeys fmt) S)))
      (deleteKeys (stripKeys fmt) S) (decodeFields fmt (deleteKeys (stripKeys fmt) S)).f.eventIDRaw)) = .ok () := by
    unfold redactableV1
    split
    · rename_i hf
      obtain ⟨r, hr⟩ := hred (by simpa using hf)
      rw [resetID_obj, mkEvent_obj, hr]
    · rfl
  simp only [parseUntrusted, hrow, hfmt, henf, hp, hpj, hus, hnum, hnd, hnv, Bool.false_eq_true, if_false, Bool.not_true,
    show stripped fmt (.obj S) = .obj (deleteKeys (stripKeys fmt) S) from rfl,
    construct_ok_iff.mpr ⟨_, rfl, ⟨d1, d2, d3⟩, rfl⟩, finishUntrusted, if_neg (Nat.not_lt.mpr hsize), resetID_obj, mkEvent_obj, hhash,
    if_true, hr1]
  exact idAndChecks_reset_iff.mpr ⟨id, ⟨hidv1, hid⟩, rfl, hcf⟩

theorem members_event_id_nil {S : EventParse.Obj} (hk : ∀ kv ∈ S, kv.1 ∈ allKeys) (hne : ∀ kv ∈ S, kv.1 ≠ b!"event_id") :
    members S b!"event_id" = [] := by
  unfold members
  rw [Lists.filter_eq_nil_of]
  · rfl
  · intro kv hkv
    rw [allKeys_event_id kv.1 (hk kv hkv)]
    simpa using hne kv hkv

theorem eventIDRaw_nil (fmt : Fmt) {S : EventParse.Obj} (h : members S b!"event_id" = []) :
    (decodeFields fmt S).f.eventIDRaw = [] := by
  simp only [decodeFields, h, seqString, List.foldl_nil]

/-! ## The headered form -/

/-- on an event without header members, `ToHeaderedJSON` appends the two headers -/
theorem headered_eq {S : EventParse.Obj} (id ver : Bytes)
    (hno : ∀ kv ∈ S, (kv.1 == b!"_event_id") = false ∧ (kv.1 == b!"_room_version") = false) :
    (∀ kv ∈ S ++ [(b!"_room_version", JVal.str ver)], (kv.1 == b!"_event_id") = false) ∧
    setFirst b!"_event_id" (.str id) (setFirst b!"_room_version" (.str ver) S) =
      (S ++ [(b!"_room_version", .str ver)]) ++ [(b!"_event_id", .str id)] := by
  have hno2 : ∀ kv ∈ S ++ [(b!"_room_version", JVal.str ver)], (kv.1 == b!"_event_id") = false := by
    intro kv hkv
    rcases List.mem_append.mp hkv with h | h
    · exact (hno kv h).1
    · rcases List.mem_singleton.mp h with rfl
      show (b!"_room_version" == b!"_event_id") = false
      decide
  rw [setFirst_absent _ _ S (fun kv hkv => (hno kv hkv).2), setFirst_absent _ _ _ hno2]
  exact ⟨hno2, rfl⟩

/-- `NewEventFromHeaderedJSON` on a text denoting an event's members followed by the two header
    members, as `ToHeaderedJSON` writes them -/
theorem parseHeadered_intro {red : Bool} {th : Bytes} {p : PVal} {S : EventParse.Obj} {id ver : Bytes}
    {row : VGen.VersionRow} {fmt : Fmt}
    (hp : parse th = some p)
    (hpv : p.toJVal = .obj (setFirst b!"_event_id" (.str id) (setFirst b!"_room_version" (.str ver) S)))
    (hno : ∀ kv ∈ S, (kv.1 == b!"_event_id") = false ∧ (kv.1 == b!"_room_version") = false)
    (hrow : rowOf ver = some row) (hwid : fmtOfName row.newEventFromTrustedJSONWithEventIDFunc = some fmt)
    (d1 : (decodeFields fmt S).err = false) (d2 : (decodeFields fmt S).unmodelled = false)
    (d3 : checkRoom fmt (decodeFields fmt S).f = .ok ()) :
    parseHeadered red th = .ok { ver := ver, fmt := fmt, redacted := red, json := encodeCanon (.obj S), obj := S,
                                 f := { (decodeFields fmt S).f with eventIDRaw := id } } := by
  obtain ⟨hno2, he⟩ := headered_eq id ver hno
  rw [he] at hpv
  have g1 := getFirst_append_absent _ (JVal.str id) _ hno2
  have g2 : getFirst ((S ++ [(b!"_room_version", JVal.str ver)]) ++ [(b!"_event_id", JVal.str id)]) b!"_room_version" =
      some (.str ver) := getFirst_append_of_some (getFirst_append_absent _ _ S (fun kv hkv => (hno kv hkv).2))
  have g3 : deleteFirst b!"_room_version" (deleteFirst b!"_event_id"
      ((S ++ [(b!"_room_version", JVal.str ver)]) ++ [(b!"_event_id", JVal.str id)])) = S := by
    rw [deleteFirst_append_absent _ _ _ hno2, deleteFirst_append_absent _ _ S (fun kv hkv => (hno kv hkv).2)]
  unfold parseHeadered
  simp only [hp, hpv, gjsonString, g1, g2, hrow, g3, trustedWithIDCore, hwid, construct_ok_iff.mpr ⟨_, rfl, ⟨d1, d2, d3⟩, rfl⟩]
  rfl

/-! ### a text denoting the headered value exists: its compact rendering -/

theorem normNums_idem : (v : JVal) → v.normNums.normNums = v.normNums := by
  intro v
  induction v using JVal.ind with
  | num lit => exact congrArg JVal.num (encodeNum_idem lit)
  | arr xs ih =>
    simp only [JVal.normNums, normNumsList_eq_map, List.map_map, JVal.arr.injEq]
    exact List.map_congr_left ih
  | obj kvs ih =>
    simp only [JVal.normNums, normNumsMembers_eq_map, List.map_map, JVal.obj.injEq]
    exact List.map_congr_left fun kv h => congrArg (Prod.mk kv.1) (ih kv h)
  | _ => rfl
theorem normNumsList_idem : (xs : List JVal) → normNumsList (normNumsList xs) = normNumsList xs :=
  fun xs => JVal.arr.inj (normNums_idem (.arr xs))
theorem normNumsMembers_idem : (kvs : List (Bytes × JVal)) → normNumsMembers (normNumsMembers kvs) = normNumsMembers kvs :=
  fun kvs => JVal.obj.inj (normNums_idem (.obj kvs))

theorem canonMembers_normalised (l : EventParse.Obj) : normNumsMembers (canonMembers l) = canonMembers l := by
  unfold canonMembers; rw [normNumsMembers_idem]

theorem normNumsMembers_append (a b : List (Bytes × JVal)) : normNumsMembers (a ++ b) = normNumsMembers a ++ normNumsMembers b := by
  rw [normNumsMembers_eq_map, normNumsMembers_eq_map, normNumsMembers_eq_map, List.map_append]

/-- the compact rendering of the headered value of an event with normalised, grammatical members
    (as every parsed canonical text has) denotes exactly that value -/
theorem headered_text {S : EventParse.Obj} (hn : numsOkMembers S = true) (hnn : normNumsMembers S = S) (id ver : Bytes)
    (hno : ∀ kv ∈ S, (kv.1 == b!"_event_id") = false ∧ (kv.1 == b!"_room_version") = false) :
    ∃ p, parse (encode (.obj (setFirst b!"_event_id" (.str id) (setFirst b!"_room_version" (.str ver) S)))) = some p ∧
      p.toJVal = .obj (setFirst b!"_event_id" (.str id) (setFirst b!"_room_version" (.str ver) S)) := by
  rw [(headered_eq id ver hno).2]
  refine ⟨_, parse_encode _ ?_, ?_⟩
  · simp only [JVal.numsOk, numsOkMembers_append, hn, numsOkMembers, Bool.and_self]
  · rw [ofJVal_toJVal]
    simp only [JVal.normNums, normNumsMembers_append, hnn, normNumsMembers]

end V.BuildProofs
