/-
  C10: the definition `Resolves` DETERMINES the resolved state (for well-formed input with at most one conflicted
  create event): every stage relation has a unique output, so the existential enumerations of the sets do not matter.
-/
import VProofs.StateResSpecMainline
import VProofs.StateResSpecSplit
namespace V.StateResSpec
open V.StateRes

theorem PowerLt_asymm (m : List Event) (c : Option Event) (a b : Event) : PowerLt m c a b → ¬ PowerLt m c b a := by
  unfold PowerLt
  intro h h'
  have := powerLt_strictTotal.asymm _ _ h
  rw [this] at h'; cases h'

theorem IsReverseTopoPowerOrder.unique {m : List Event} {c : Option Event} {i₁ i₂ o₁ o₂ : List Event}
    (hs : ∀ x, x ∈ i₁ ↔ x ∈ i₂) (h1 : IsReverseTopoPowerOrder m c i₁ o₁) (h2 : IsReverseTopoPowerOrder m c i₂ o₂) :
    o₁ = o₂ :=
  IsPowerOrder.functional (PowerLt_asymm m c) (h1.congr_input hs) h2

def OnePerKey (P : Event → Prop) : Prop := ∀ a b, P a → P b → keyOf a ≠ none → keyOf a = keyOf b → a = b

theorem applyOne_apply (f : SMap) (e : Event) (k : Key) :
    applyOne f e k = if hasKey k e then some e else f k := by
  unfold applyOne
  simp only [hasKey_iff_keyOf_eq_some]
  cases keyOf e with
  | none => simp
  | some k' => simp only [SMap.set, Option.some.injEq, eq_comm (a := k)]

/-- `V.StateRes.get_applyEvents`, for the definition's map -/
theorem applyAll_apply (f : SMap) (l : List Event) (k : Key) :
    applyAll f l k = (l.reverse.find? (hasKey k)).or (f k) :=
  (Lists.foldl_write (get := fun f : SMap => f k) (v := fun e => e) (fun f e => applyOne_apply f e k) l f).trans
    (by rw [Option.map_id'])

theorem applyAll_sameSet {P : Event → Prop} (hP : OnePerKey P) {l₁ l₂ : List Event} (h1 : ∀ x, x ∈ l₁ ↔ P x)
    (h2 : ∀ x, x ∈ l₂ ↔ P x) (f : SMap) : applyAll f l₁ = applyAll f l₂ := by
  funext k
  rw [applyAll_apply, applyAll_apply, Lists.find?_eq_of_mem_iff (l' := l₂.reverse)
    (fun x => List.mem_reverse.trans (((h1 x).trans (h2 x).symm).trans List.mem_reverse.symm))]
  intro a ha b hb ka kb
  rw [hasKey_iff_keyOf_eq_some] at ka kb
  exact hP a b ((h1 a).mp (List.mem_reverse.mp ha)) ((h1 b).mp (List.mem_reverse.mp hb))
    (by rw [ka]; exact Option.some_ne_none k) (ka.trans kb.symm)

theorem unconflicted_onePerKey (sets : List (List Event)) : OnePerKey (Unconflicted sets) := by
  intro a b ha hb _ hk
  obtain ⟨⟨S, hS, haS⟩, ka, hua⟩ := ha
  obtain ⟨_, kb, hub⟩ := hb
  have hka : keyOf a = some ka := ((hua S hS a).mpr rfl).2
  have hbS := (hub S hS b).mpr rfl
  have hkb : keyOf b = some kb := hbS.2
  have : ka = kb := by rw [hka, hkb] at hk; exact Option.some.inj hk
  subst this
  exact ((hua S hS b).mp hbS).symm

theorem isCreate_key {e : Event} (h : e.isCreate = true) : keyOf e = some (b!"m.room.create", []) := by
  unfold Event.isCreate at h
  simp only [Bool.and_eq_true, beq_iff_eq] at h
  unfold keyOf
  unfold Event.stateKeyEquals at h
  have h2 : e.stateKey = some [] := by simpa using h.2
  rw [h2, h.1]; rfl

theorem firstCreate_sameSet {P : Event → Prop} (hP : ∀ a b, P a → P b → a.isCreate = true → b.isCreate = true → a = b)
    {l₁ l₂ : List Event} (h1 : ∀ x, x ∈ l₁ ↔ P x) (h2 : ∀ x, x ∈ l₂ ↔ P x) : firstCreate l₁ = firstCreate l₂ :=
  Lists.find?_eq_of_mem_iff (fun x => (h1 x).trans (h2 x).symm) (fun a ha b hb ca cb => hP a b ((h1 a).mp ha) ((h1 b).mp hb) ca cb)

/-- the universe hypothesis of `Resolves.unique` for well-formed input and the auth map the model builds -/
theorem WF.ids_eventMap {sets : List (List Event)} {auth : List Event} (hwf : WF sets auth) :
    IDsIdentify (fun e => e ∈ sets.flatten ++ eventMapFromEvents auth) := fun a b ha hb =>
  hwf.ids a b (List.mem_append.mpr ((List.mem_append.mp ha).imp_right mem_eventMap))
    (List.mem_append.mpr ((List.mem_append.mp hb).imp_right mem_eventMap))

/-- `hc`: at most one conflicted create event (otherwise "the room's create event", consulted only to decide who the
    creators of a version-12 room are when neither the unconflicted state nor the auth events have one, would depend
    on the enumeration of the conflicted set). -/
theorem Resolves.unique {algo : Nat} {sets : List (List Event)} {m auth : List Event} {rejected : List ID}
    (hU : IDsIdentify (fun e => e ∈ sets.flatten ++ m))
    (hc : ∀ a b, Conflicted sets a → Conflicted sets b → a.isCreate = true → b.isCreate = true → a = b)
    {r₁ r₂ : SMap} (h1 : Resolves algo sets m auth rejected r₁) (h2 : Resolves algo sets m auth rejected r₂) : r₁ = r₂ := by
  obtain ⟨conf, unconf, ctl, oth, uo, co, oo, ml, hsc, hsu, hctl, hoth, hothN, hkU, hrest⟩ := h1
  obtain ⟨conf', unconf', ctl', oth', uo', co', oo', ml', hsc', hsu', hctl', hoth', hothN', hkU', hrest'⟩ := h2
  obtain ⟨hkC, hML, hMO, hres⟩ := hrest
  obtain ⟨hkC', hML', hMO', hres'⟩ := hrest'
  have hcreate : roomCreate unconf auth conf = roomCreate unconf' auth conf' := by
    unfold roomCreate
    have e1 : firstCreate unconf = firstCreate unconf' :=
      firstCreate_sameSet (fun a b ha hb hca hcb =>
        unconflicted_onePerKey sets a b ha hb (by rw [isCreate_key hca]; simp) ((isCreate_key hca).trans (isCreate_key hcb).symm))
        hsu hsu'
    have e2 : firstCreate conf = firstCreate conf' := firstCreate_sameSet hc hsc hsc'
    rw [e1, e2]
  have huo : uo = uo' := by
    rw [hcreate] at hkU
    exact IsReverseTopoPowerOrder.unique (fun x => (hsu x).trans (hsu' x).symm) hkU hkU'
  subst huo
  rw [hcreate] at hkC
  have hco : co = co' := IsReverseTopoPowerOrder.unique (fun x => (hctl x).trans (hctl' x).symm) hkC hkC'
  subst hco
  have hml : ml = ml' := IsMainline.unique hML hML'
  subst hml
  have hothP : oth'.Perm oth := (List.perm_ext_iff_of_nodup hothN' hothN).mpr (fun x => (hoth' x).trans (hoth x).symm)
  have hothU : ∀ a ∈ oth, ∀ b ∈ oth, a.eventID = b.eventID → a = b := by
    intro a ha b hb hab
    have inU : ∀ x ∈ oth, x ∈ sets.flatten ++ m := fun x hx =>
      ((hoth x).mp hx).1.inU (fun y hy => List.mem_append_right _ hy)
        (fun S hS y hy => List.mem_append_left _ (List.mem_flatten.mpr ⟨S, hS, hy⟩))
    exact hU a b (inU a ha) (inU b hb) hab
  have hoo : oo = oo' := IsMainlineOrder.unique hothU hMO (hMO'.congr_input hothP.symm)
  subst hoo
  rw [hres, hres']
  exact applyAll_sameSet (unconflicted_onePerKey sets) hsu hsu' _

end V.StateResSpec
