/-
  C10: the model's resolved state (an association list) against the definition's partial state
  (a map): `applyEvents` against `applyAll`, the per-event provider (partial state, else the event's own non-rejected
  auth events: R7) and `authAndApply` against `iterAuth` (`authAndApply_rel`; definitional is only that the model is a
  left fold, `iterativeAuth_eq_fold`: its step calls the reusable checker, the definition's the standalone one).
-/
import VProofs.StateResSpecOrder
import VProofs.AuthRulesBase
import VProofs.StateResState
namespace V.StateResSpec
open Auth
open V.StateRes

def StateRel (s : State) (f : SMap) : Prop := ∀ t k, s.get t k = f (t, k)

def KeysNodup (s : State) : Prop := (s.map (·.1)).Nodup

theorem stateRel_nil : StateRel [] SMap.empty := fun _ _ => rfl
theorem keysNodup_nil : KeysNodup [] := by simp [KeysNodup]

theorem stateRel_set {s : State} {f : SMap} (h : StateRel s f) (t k : Bytes) (e : Event) :
    StateRel (s.set t k e) (f.set (t, k) e) := by
  intro t' k'
  rw [State.get_set]
  unfold SMap.set
  split
  · rfl
  · exact h t' k'

theorem result_ids_iff {s : State} {f : SMap} (hk : KeysNodup s) (hr : StateRel s f) (id : ID) :
    id ∈ s.map (·.2.eventID) ↔ ∃ k e, f k = some e ∧ e.eventID = id := by
  simp only [List.mem_map]
  constructor
  · rintro ⟨⟨k, e⟩, hx, rfl⟩
    exact ⟨k, e, by rw [← hr k.1 k.2]; exact (State.get_eq_some_iff hk).mpr hx, rfl⟩
  · rintro ⟨k, e, hf, rfl⟩
    exact ⟨(k, e), (State.get_eq_some_iff hk).mp (by rw [hr k.1 k.2]; exact hf), rfl⟩

def applyStep (st : State) (e : Event) : State :=
  match e.stateKey with
  | none => st
  | some k => st.set e.type k e

theorem applyEvents_eq (s : State) (evs : List Event) : applyEvents s evs = evs.foldl applyStep s := rfl

theorem applyStep_rel {s : State} {f : SMap} (h : StateRel s f) (e : Event) : StateRel (applyStep s e) (applyOne f e) := by
  unfold applyStep applyOne keyOf
  cases e.stateKey with
  | none => exact h
  | some k => exact stateRel_set h _ _ _

theorem applyEvents_rel (evs : List Event) {s : State} {f : SMap} (h : StateRel s f) :
    StateRel (applyEvents s evs) (applyAll f evs) :=
  List.foldl_rel (r := StateRel) h (fun e _ _ _ hr => applyStep_rel hr e)

theorem lookupState_eq {s : State} {f : SMap} (h : StateRel s f) (t k : Bytes) :
    lookupState s t k = partialLookup f (t, k) := by
  unfold lookupState partialLookup
  rw [h t k]

theorem fromAuthEvents_eq (m : List Event) (rejected : List ID) (e : Event) (t k : Bytes) :
    fromAuthEvents m rejected e t k = fallback m rejected e (t, k) := rfl

theorem providerFor_eq {s : State} {f : SMap} (h : StateRel s f) (m : List Event) (rejected : List ID) (e : Event) :
    providerFor m rejected s e = providerEvents m rejected f e := by
  unfold providerFor providerEvents neededKeys
  rw [List.flatMap_def, List.flatMap_def]
  refine congrArg List.flatten (List.map_congr_left fun tk _ => ?_)
  rw [lookupState_eq h, fromAuthEvents_eq]
  obtain ⟨t, k⟩ := tk
  rfl

def modelAuthStep (m : List Event) (rejected : List ID) (st : State) (e : Event) : State :=
  match allowedFreshNoValid e (Provider.ofEvents (providerFor m rejected st e)) false with
  | .ok => applyEvents st [e]
  | _ => st

theorem iterativeAuth_eq_fold (m : List Event) (rejected : List ID) (s : State) (evs : List Event) :
    authAndApply m rejected s evs = evs.foldl (modelAuthStep m rejected) s := by
  -- `rfl` is slow to check: comparing the two `match`es, the elaborator first tries to evaluate the auth check
  refine congrArg (fun step => List.foldl step s evs) (funext fun st => funext fun e => ?_)
  unfold modelAuthStep
  cases allowedFreshNoValid e (Provider.ofEvents (providerFor m rejected st e)) false <;> rfl

theorem modelAuthStep_rel {s : State} {f : SMap} (h : StateRel s f) (m : List Event) (rejected : List ID) (e : Event) :
    StateRel (modelAuthStep m rejected s e) (authStep m rejected f e) := by
  unfold modelAuthStep authStep
  rw [providerFor_eq h]
  -- the model calls the reusable checker, the definition the standalone `Allowed`: they accept alike
  have hiff := V.AuthRules.allowedFresh_ok_iff_noValid e (Provider.ofEvents (providerEvents m rejected f e)) false
  generalize allowedFreshNoValid e (Provider.ofEvents (providerEvents m rejected f e)) false = v at hiff
  generalize allowedFresh e (Provider.ofEvents (providerEvents m rejected f e)) false = w at hiff
  cases v with
  | ok =>
    have hw : w = .ok := hiff.mpr rfl
    subst hw
    exact applyStep_rel h e
  | _ =>
    cases w with
    | ok => exact absurd (hiff.mp rfl) (by intro hc; cases hc)
    | _ => exact h

/-- the model's partial state stays related to the definition's through the iterative auth checks (key distinctness
    is not needed for that; it is kept separately, `V.StateRes.authAndApply_keys_nodup`) -/
theorem authAndApply_rel (m : List Event) (rejected : List ID) (evs : List Event) {s : State} {f : SMap}
    (h : StateRel s f) : StateRel (authAndApply m rejected s evs) (iterAuth m rejected f evs) := by
  rw [iterativeAuth_eq_fold]
  exact List.foldl_rel (r := StateRel) h (fun e _ _ _ hr => modelAuthStep_rel hr m rejected e)

end V.StateResSpec
