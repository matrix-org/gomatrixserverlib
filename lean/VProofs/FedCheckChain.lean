/-
  VerifyEventAuthChain against a provider that answers from a table of events keyed by
  their own IDs (`TableLike`: single-ID requests are answered exactly, a batch answer may LEAVE OUT events —
  a provider that hands out at most k events per call, say): the depth-first stack loop verifies exactly the
  events reachable from the root through resolvable auth event IDs, whichever request (the batch request of
  VerifyEventAuthChain or the single-ID retry inside checkAllowedByAuthEvents) obtained them.
-/
import VProofs.FedCheck
namespace V.FedCheck
open V V.FedCheck.Spec

theorem mem_handedOut (prov : EventProvider) (calls : Log) (x : Event) :
    x ∈ handedOut prov calls ↔ ∃ ids es, Call.events ids ∈ calls ∧ prov ids = .events es ∧ x ∈ es := by
  induction calls with
  | nil => simp [handedOut]
  | cons c rest ih =>
    cases c with
    | events ids =>
      unfold handedOut
      rw [List.mem_append, ih]
      constructor
      · rintro (h | ⟨ids', es, h1, h2, h3⟩)
        · cases hp : prov ids with
          | error => rw [hp] at h; cases h
          | events es => rw [hp] at h; exact ⟨ids, es, List.mem_cons_self, hp, h⟩
        · exact ⟨ids', es, List.mem_cons_of_mem _ h1, h2, h3⟩
      · rintro ⟨ids', es, h1, h2, h3⟩
        rcases List.mem_cons.mp h1 with h | h
        · cases h
          left; rw [h2]; exact h3
        · right; exact ⟨ids', es, h, h2, h3⟩
    | _ =>
      unfold handedOut
      rw [ih]
      constructor
      · rintro ⟨ids', es, h1, h2, h3⟩; exact ⟨ids', es, List.mem_cons_of_mem _ h1, h2, h3⟩
      · rintro ⟨ids', es, h1, h2, h3⟩
        rcases List.mem_cons.mp h1 with h | h
        · cases h
        · exact ⟨ids', es, h, h2, h3⟩

/-! ### providers that answer from a table (`TableLike`) -/

section
variable {P : Type} (O : Oracles P) (root : Event) (table : Bytes → Option Event) (errs : Bytes → Bool)

/-- The provider answers from `table` (`errs id`: a request naming `id` fails as a whole): a single-ID request
    is answered exactly; a batch answer consists of table events for requested IDs but MAY LEAVE SOME OUT
    (at most k events per call …) — except events without a state key, which the code treats differently
    when they arrive in a batch (AddEvent error) and in a retry (ignored): those are never left out. -/
structure TableLike (prov : EventProvider) : Prop where
  err_iff : ∀ ids, prov ids = .error ↔ ids.any errs = true
  sub : ∀ ids es, prov ids = .events es → ∀ e ∈ es, ∃ id ∈ ids, table id = some e
  single : ∀ id, errs id = false → prov [id] = .events (match table id with
    | some e => [e]
    | none => [])
  nonstate : ∀ ids es id e, prov ids = .events es → id ∈ ids → table id = some e → e.stateKey.isNone = true → e ∈ es

/-- A provider that fails on the IDs marked `errs` and otherwise answers with a selection `sel ids` of the table's events
    for `ids` is table-like, provided a single-ID request gets the whole answer and no event without a state key is
    ever left out. -/
theorem tableLike_of_selection (sel : List Bytes → List Event)
    (hsub : ∀ ids e, e ∈ sel ids → e ∈ ids.filterMap table)
    (hone : ∀ id, sel [id] = [id].filterMap table)
    (hns : ∀ ids id e, id ∈ ids → table id = some e → e.stateKey.isNone = true → e ∈ sel ids) :
    TableLike table errs (fun ids => if ids.any errs then .error else .events (sel ids)) := by
  have ans : ∀ ids es, (if ids.any errs then ProvAns.error else .events (sel ids)) = .events es → es = sel ids := by
    intro ids es h
    split at h
    · cases h
    · cases h; rfl
  refine ⟨fun ids => ?_, fun ids es h e he => ?_, fun id he => ?_, fun ids es id e h hid ht hn => ?_⟩
  · cases ha : ids.any errs <;> simp
  · rw [ans ids es h] at he
    exact List.mem_filterMap.mp (hsub ids e he)
  · simp only [List.any_cons, List.any_nil, Bool.or_false, he, Bool.false_eq_true, if_false, hone, List.filterMap_cons]
    cases table id <;> rfl
  · rw [ans ids es h]
    exact hns ids id e hid ht hn

theorem tableProvider_tableLike : TableLike table errs (tableProvider table errs) :=
  tableLike_of_selection table errs (fun ids => ids.filterMap table) (fun _ _ h => h) (fun _ => rfl)
    (fun _ id _ hid ht _ => List.mem_filterMap.mpr ⟨id, hid, ht⟩)

/-- a provider that hands out at most `k` events per call -/
def capProvider (k : Nat) : EventProvider :=
  fun ids => if ids.any errs then .error else .events ((ids.filterMap table).take k)

theorem capProvider_tableLike (k : Nat) (hstate : ∀ id e, table id = some e → e.stateKey.isSome = true) :
    TableLike table errs (capProvider table errs (k + 1)) :=
  tableLike_of_selection table errs (fun ids => (ids.filterMap table).take (k + 1))
    (fun _ _ h => List.mem_of_mem_take h)
    (fun id => by cases h : table id <;> simp [h])
    (fun _ id e _ ht hn => by
      have := hstate id e ht
      rw [Option.isNone_iff_eq_none.mp hn] at this
      cases this)

variable {prov : EventProvider}

theorem tableLike_single (htl : TableLike table errs prov) (id : Bytes) :
    prov [id] = if errs id then .error else .events (match table id with
      | some e => [e]
      | none => []) := by
  cases he : errs id
  · simp only [Bool.false_eq_true, if_false]; exact htl.single id he
  · simp only [if_true]
    exact (htl.err_iff [id]).mpr (by simp [he])

theorem provided_table (htl : TableLike table errs prov) (id : Bytes) :
    provided (some prov) id =
      if errs id then none else match table id with
        | some e => if e.stateKey.isSome then some e else none
        | none => none := by
  unfold provided
  simp only [tableLike_single table errs htl]
  cases he : errs id <;> cases ht : table id <;> simp

theorem tableLike_provOK (htl : TableLike table errs prov) (htable : ∀ id e, table id = some e → e.eventID = id) :
    ProvOK (some prov) := by
  intro p hp id
  cases hp
  rw [tableLike_single table errs htl]
  cases he : errs id
  · cases ht : table id with
    | none => right; left; simp
    | some e => right; right; exact ⟨e, by simp, htable id e ht⟩
  · left; simp

theorem chainResolve_id (htable : ∀ id e, table id = some e → e.eventID = id) {id : Bytes} {a : Event}
    (h : chainResolve root table id = some a) : a.eventID = id := by
  unfold chainResolve at h
  split at h
  · rename_i hr
    cases h
    exact (by simpa using hr : id = root.eventID).symm
  · exact htable id a h

theorem chainResolve_self (htable : ∀ id e, table id = some e → e.eventID = id) {id : Bytes} {a : Event}
    (h : chainResolve root table id = some a) : chainResolve root table a.eventID = some a := by
  rw [chainResolve_id root table htable h]; exact h

theorem putAll_lookup (es : List Event) (hes : ∀ e ∈ es, table e.eventID = some e) (m : IdMap) (id : Bytes) :
    (putAll es m).lookup id = if es.any (fun e => e.eventID == id) then (table id).map some else m.lookup id := by
  induction es generalizing m with
  | nil => rfl
  | cons x xs ih =>
    unfold putAll
    rw [ih (fun e he => hes e (List.mem_cons_of_mem _ he))]
    by_cases hany : xs.any (fun e => e.eventID == id) = true
    · simp [hany]
    · simp only [hany, Bool.false_eq_true, if_false, List.any_cons, Bool.or_false]
      by_cases hx : id = x.eventID
      · subst hx
        simp [hes x List.mem_cons_self]
      · have : (x.eventID == id) = false := by simpa using fun h => hx h.symm
        simp [this, Lists.lookup_cons_ne _ _ hx]

/-- The invariant of the stack loop: the map is a cache of `chainResolve`; every event it binds is verified or on the
    stack; every verified event is good and its resolved auth events are verified or on the stack — so with an empty
    stack the verified set is closed under `Reach` (`closed_of_empty`). -/
structure ChainInv (st : ChainSt) : Prop where
  rootIn : st.m.lookup root.eventID = some (some root)
  mapOK : ∀ id e, st.m.lookup id = some (some e) → chainResolve root table id = some e ∧ (id = root.eventID ∨ errs id = false)
  nilOK : ∀ id, st.m.lookup id = some none → table id = none
  pending : ∀ id e, st.m.lookup id = some (some e) → e.eventID ∈ st.verified ∨ e ∈ st.stack
  stackOK : ∀ e ∈ st.stack, chainResolve root table e.eventID = some e ∧ Reach root table e
  verifiedOK : ∀ id ∈ st.verified, ∃ e, chainResolve root table id = some e ∧ chainGood O root table errs e = true ∧
    ∀ aid ∈ e.authEventIDs, ∀ a, chainResolve root table aid = some a → a.eventID ∈ st.verified ∨ a ∈ st.stack
  rootSeen : root.eventID ∈ st.verified ∨ root ∈ st.stack

theorem chainInv_init : ChainInv O root table errs { stack := [root], m := [(root.eventID, some root)], verified := [] } := by
  have hres : chainResolve root table root.eventID = some root := by simp [chainResolve]
  have single : ∀ {id : Bytes} {v : Option Event}, [(root.eventID, some root)].lookup id = some v →
      id = root.eventID ∧ v = some root := by
    intro id v h
    by_cases hid : id = root.eventID
    · rw [hid, List.lookup_cons_self] at h; cases h; exact ⟨hid, rfl⟩
    · rw [Lists.lookup_cons_ne _ _ hid] at h; cases h
  refine { rootIn := List.lookup_cons_self, mapOK := fun id e h => ?_, nilOK := fun id h => ?_, pending := fun id e h => ?_,
           stackOK := fun e he => ?_, verifiedOK := fun id h => (nomatch h),
           rootSeen := Or.inr (List.mem_singleton.mpr rfl) }
  · obtain ⟨rfl, hv⟩ := single h
    cases hv
    exact ⟨hres, Or.inl rfl⟩
  · cases (single h).2
  · cases (single h).2
    exact Or.inr (List.mem_singleton.mpr rfl)
  · cases List.mem_singleton.mp he
    exact ⟨hres, Reach.root⟩

theorem ChainInv.cache {O : Oracles P} {root : Event} {table : Bytes → Option Event} {errs : Bytes → Bool} {st : ChainSt}
    (h : ChainInv O root table errs st) {id : Bytes} {v : Option Event} (hl : st.m.lookup id = some v) :
    chainResolve root table id = v := by
  cases v with
  | some e => exact (h.mapOK id e hl).1
  | none =>
    have hne : (id == root.eventID) = false := by
      apply beq_false_of_ne
      rintro rfl
      rw [h.rootIn] at hl
      cases hl
    simp only [chainResolve, hne, Bool.false_eq_true, if_false]
    exact h.nilOK id hl

theorem chainResolve_ne {root : Event} {table : Bytes → Option Event} {id : Bytes} (h : id ≠ root.eventID) :
    chainResolve root table id = table id := by
  simp [chainResolve, h]

/-! ### one batch fetch -/

theorem isNilIn_eq_false {m : IdMap} {id : Bytes} : isNilIn m id = false ↔ ∃ e, m.lookup id = some (some e) := by
  unfold isNilIn
  split <;> simp_all

theorem needOf_or_bound {m : IdMap} {curr : Event} {id : Bytes} (hid : id ∈ curr.authEventIDs) :
    id ∈ needOf m curr ∨ ∃ e, m.lookup id = some (some e) := by
  cases hn : isNilIn m id
  · exact .inr (isNilIn_eq_false.mp hn)
  · exact .inl (List.mem_filter.mpr ⟨hid, hn⟩)

theorem needOf_facts {st : ChainSt} (hinv : ChainInv O root table errs st) {curr : Event} {id : Bytes}
    (hid : id ∈ needOf st.m curr) :
    id ∈ curr.authEventIDs ∧ (∀ e, st.m.lookup id ≠ some (some e)) ∧ id ≠ root.eventID := by
  obtain ⟨hauth, hnil⟩ := List.mem_filter.mp hid
  have hnb : ∀ e, st.m.lookup id ≠ some (some e) := fun e he =>
    Bool.eq_false_iff.mp (isNilIn_eq_false.mpr ⟨e, he⟩) hnil
  exact ⟨hauth, hnb, fun h => hnb root (h ▸ hinv.rootIn)⟩

/-- what a successful batch fetch returned: table events for needed IDs; no event without a state key left out -/
structure Fetched (need : List Bytes) (es : List Event) : Prop where
  fromTable : ∀ e ∈ es, e.eventID ∈ need ∧ table e.eventID = some e
  nonstate : ∀ id ∈ need, ∀ e, table id = some e → e.stateKey.isNone = true → e ∈ es

theorem putAll_lookup_fetched {need : List Bytes} {es : List Event} (hes : Fetched table need es) (m : IdMap) (id : Bytes) :
    ((putAll es m).lookup id = m.lookup id ∧ ∀ e ∈ es, e.eventID ≠ id) ∨
    ∃ e ∈ es, id ∈ need ∧ table id = some e ∧ (putAll es m).lookup id = some (some e) := by
  rw [putAll_lookup table es (fun e he => (hes.fromTable e he).2) m id]
  by_cases hany : es.any (fun e => e.eventID == id) = true
  · obtain ⟨e, he, heid⟩ := List.any_eq_true.mp hany
    have heid' : e.eventID = id := by simpa using heid
    obtain ⟨h1, h2⟩ := hes.fromTable e he
    rw [heid'] at h1 h2
    exact Or.inr ⟨e, he, h1, h2, by simp [hany, h2]⟩
  · exact Or.inl ⟨by simp [hany], fun e he heid => hany (List.any_eq_true.mpr ⟨e, he, by simp [heid]⟩)⟩

/-- a needed ID that the batch answer left out: the single-ID retry obtains exactly what the table holds for it, and
    that is a state event (an event without a state key is never left out of a batch answer) -/
theorem provided_absent (htl : TableLike table errs prov) (htable : ∀ id e, table id = some e → e.eventID = id)
    {need : List Bytes} {es : List Event} (hes : Fetched table need es) {id : Bytes} (hin : id ∈ need)
    (herr : errs id = false) (hno : ∀ e ∈ es, e.eventID ≠ id) :
    provided (some prov) id = table id ∧ ∀ a, table id = some a → a.stateKey.isSome = true := by
  have hst : ∀ a, table id = some a → a.stateKey.isSome = true := by
    intro a ht
    cases hs : a.stateKey with
    | some sk => rfl
    | none => exact absurd (htable id a ht) (hno a (hes.nonstate id hin a ht (by rw [hs]; rfl)))
  refine ⟨?_, hst⟩
  rw [provided_table table errs htl, herr]
  cases ht : table id with
  | none => rfl
  | some a => simp [hst a ht]

theorem fetchNeeded_table (htl : TableLike table errs prov) (htable : ∀ id e, table id = some e → e.eventID = id)
    (need : List Bytes) (log : Log) :
    (need.any errs = true ∧ fetchNeeded prov need log = none) ∨
    (need.any errs = false ∧ ∃ es log1, fetchNeeded prov need log = some (es, log1) ∧ Fetched table need es) := by
  unfold fetchNeeded
  by_cases hn : need.isEmpty = true
  · right
    have : need = [] := by simpa using hn
    subst this
    exact ⟨rfl, [], log, by simp, Fetched.mk (fun e he => by cases he) (fun id hid => by cases hid)⟩
  · simp only [hn, Bool.false_eq_true, if_false]
    cases hp : prov need with
    | error => left; exact ⟨(htl.err_iff need).mp hp, rfl⟩
    | events es =>
      right
      have hne : need.any errs = false := by
        cases ha : need.any errs
        · rfl
        · rw [(htl.err_iff need).mpr ha] at hp; cases hp
      refine ⟨hne, es, log ++ [Call.events need], rfl, Fetched.mk (fun e he => ?_) (fun id hid e ht hns => htl.nonstate need es id e hp hid ht hns)⟩
      obtain ⟨id, hid, ht⟩ := htl.sub need es hp e he
      have := htable id e ht
      subst this
      exact ⟨hid, ht⟩

/-! ### the iteration that verifies an event: how the lookup table grows -/

/-- What an iteration that verifies `curr` does to the lookup table, seen from the invariant: it grows by what the provider's
    table holds for auth event IDs of `curr` (not the root's, none that makes the provider fail); every event so bound is
    pushed (`new`), and only such events are pushed. -/
structure Grows (st : ChainSt) (curr : Event) (new : List Event) (m2 : IdMap) : Prop where
  keep : ∀ id v, st.m.lookup id = some v → m2.lookup id = some v
  fresh : ∀ id v, m2.lookup id = some v → st.m.lookup id = some v ∨
    (id ∈ curr.authEventIDs ∧ id ≠ root.eventID ∧ errs id = false ∧ v = table id ∧ ∀ x, v = some x → x ∈ new)
  fromTable : ∀ x ∈ new, ∃ id ∈ curr.authEventIDs, id ≠ root.eventID ∧ table id = some x

theorem Grows.cache {O : Oracles P} {root : Event} {table : Bytes → Option Event} {errs : Bytes → Bool} {st : ChainSt}
    {curr : Event} {new : List Event} {m2 : IdMap} (hg : Grows root table errs st curr new m2)
    (hinv : ChainInv O root table errs st) {id : Bytes} {v : Option Event} (hl : m2.lookup id = some v) :
    chainResolve root table id = v := by
  rcases hg.fresh id v hl with h0 | ⟨_, hne, _, hv, _⟩
  · exact hinv.cache h0
  · exact (chainResolve_ne hne).trans hv.symm

/-- The verdict of checkAllowedByAuthEvents, read off the table AFTER the call (the retries do not change it: `caVerdict_ext`),
    where every auth event ID of `curr` is bound to what it resolves to. -/
theorem verdict_iff_chainGood {st : ChainSt} (hinv : ChainInv O root table errs st) {curr : Event} {new : List Event}
    {m1 m2 : IdMap} {D : Bytes → Prop} (hok : (needOf st.m curr).any errs = false)
    (hg : Grows root table errs st curr new m2) (hext : Ext (some prov) D m1 m2)
    (hb : curr.authEventIDs.any (badIn m1) = false → ∀ id ∈ curr.authEventIDs, ∃ v, m2.lookup id = some v) :
    caVerdict O (some prov) curr m1 = .ok ↔ chainGood O root table errs curr = true := by
  rw [← caVerdict_ext O hext]
  rw [← hext.badIn] at hb
  have herrs : curr.authEventIDs.all (fun id => id == root.eventID || !errs id) = true :=
    List.all_eq_true.mpr fun id hid => by
      rcases needOf_or_bound (m := st.m) hid with hin | ⟨e, he⟩
      · simpa using Or.inr ((List.any_eq_false.mp hok) id hin)
      · rcases (hinv.mapOK id e he).2 with h | h <;> simp [h]
  unfold caVerdict chainGood
  rw [herrs, Bool.true_and]
  cases hbad : curr.authEventIDs.any (badIn m2)
  · -- every ID is bound, to what it resolves to
    have hres : ∀ id ∈ curr.authEventIDs, resM (some prov) m2 id = chainResolve root table id := fun id hid => by
      obtain ⟨v, hv⟩ := hb hbad id hid
      rw [hg.cache hinv hv]
      unfold resM
      rw [hv]
    have hauth : authOf O (resM (some prov) m2) curr = authOf O (chainResolve root table) curr :=
      Lists.foldl_congr_mem _ _ fun _ id hid => by rw [hres id hid]
    rw [hauth]
    cases O.allowedBy curr (authOf O (chainResolve root table) curr)
    · simp
    · simp only [Bool.false_eq_true, if_false, if_true, Bool.and_true, true_iff, List.all_eq_true]
      intro id hid
      obtain ⟨v, hv⟩ := hb hbad id hid
      rw [hg.cache hinv hv]
      cases v with
      | none => rfl
      | some a =>
        have := (List.any_eq_false.mp hbad) id hid
        unfold badIn at this
        rw [hv] at this
        cases hs : a.stateKey with
        | some _ => simp [hs]
        | none => simp [hs] at this
  · -- some ID is bound to an event without a state key, and resolves to it
    obtain ⟨id, hid, hb'⟩ := List.any_eq_true.mp hbad
    simp only [if_true, Bool.and_eq_true, List.all_eq_true]
    refine ⟨fun h => (nomatch h), fun ⟨h, _⟩ => ?_⟩
    have := h id hid
    unfold badIn at hb'
    split at hb'
    · rename_i a ha
      rw [hg.cache hinv ha] at this
      rw [Option.isNone_iff_eq_none] at hb'
      simp [hb'] at this
    · cases hb'

theorem inv_of_grows (htable : ∀ id e, table id = some e → e.eventID = id) {st : ChainSt}
    (hinv : ChainInv O root table errs st) {curr : Event} {rest new : List Event} {m2 : IdMap}
    (hs : st.stack = curr :: rest) (h : Grows root table errs st curr new m2)
    (hgood : chainGood O root table errs curr = true) (hbound : ∀ id ∈ curr.authEventIDs, ∃ v, m2.lookup id = some v) :
    ChainInv O root table errs { stack := new ++ rest, m := m2, verified := curr.eventID :: st.verified } := by
  have hcurr := hinv.stackOK curr (by rw [hs]; exact List.mem_cons_self)
  have lift : ∀ x : Event, (x.eventID ∈ st.verified ∨ x ∈ st.stack) →
      (x.eventID ∈ curr.eventID :: st.verified ∨ x ∈ new ++ rest) := by
    rintro x (hx | hx)
    · exact Or.inl (List.mem_cons_of_mem _ hx)
    · rw [hs] at hx
      rcases List.mem_cons.mp hx with rfl | hx
      · exact Or.inl List.mem_cons_self
      · exact Or.inr (List.mem_append_right _ hx)
  -- a binding of the new map: an old one, or what the table holds, pushed
  have pending : ∀ id e, m2.lookup id = some (some e) →
      e.eventID ∈ curr.eventID :: st.verified ∨ e ∈ new ++ rest := fun id e hl => by
    rcases h.fresh id _ hl with h0 | ⟨_, _, _, _, hx⟩
    · exact lift e (hinv.pending id e h0)
    · exact Or.inr (List.mem_append_left _ (hx e rfl))
  exact {
    rootIn := h.keep _ _ hinv.rootIn
    mapOK := fun id e hl => by
      refine ⟨h.cache hinv hl, ?_⟩
      rcases h.fresh id _ hl with h0 | ⟨_, _, herr, _⟩
      · exact (hinv.mapOK id e h0).2
      · exact Or.inr herr
    nilOK := fun id hl => by
      rcases h.fresh id _ hl with h0 | ⟨_, _, _, hv, _⟩
      · exact hinv.nilOK id h0
      · exact hv.symm
    pending := pending
    stackOK := fun e he => by
      rcases List.mem_append.mp he with hn | ho
      · obtain ⟨id, hid, hne, ht⟩ := h.fromTable e hn
        have hres := (chainResolve_ne hne).trans ht
        exact ⟨chainResolve_self root table htable hres, Reach.step hcurr.2 hid hres⟩
      · exact hinv.stackOK e (by rw [hs]; exact List.mem_cons_of_mem _ ho)
    verifiedOK := fun id hid => by
      rcases List.mem_cons.mp hid with rfl | hid
      · refine ⟨curr, hcurr.1, hgood, fun aid ha a hra => ?_⟩
        -- `aid` is bound, to what it resolves to
        obtain ⟨v, hv⟩ := hbound aid ha
        rw [h.cache hinv hv] at hra
        exact pending aid a (hra ▸ hv)
      · obtain ⟨e, h1, h2, h3⟩ := hinv.verifiedOK id hid
        exact ⟨e, h1, h2, fun aid ha a hra => lift a (h3 aid ha a hra)⟩
    rootSeen := lift root hinv.rootSeen }

/-- The iteration that verifies `curr` satisfies `Grows`: the batch binds fetched table events for needed IDs, the single-ID
    retries of checkAllowedByAuthEvents bind, for the needed IDs the batch left out, what the table holds; both kinds are pushed. -/
theorem grows_of_run (htl : TableLike table errs prov) (htable : ∀ id e, table id = some e → e.eventID = id)
    {st : ChainSt} (hinv : ChainInv O root table errs st) {curr : Event}
    (hok : (needOf st.m curr).any errs = false) {es : List Event} (hes : Fetched table (needOf st.m curr) es)
    {m2 : IdMap} {calls : Log}
    (hext : Ext (some prov) (· ∈ curr.authEventIDs) (putAll es st.m) m2)
    (hask : Asked (· ∈ curr.authEventIDs) (putAll es st.m) m2 calls) :
    Grows root table errs st curr ((handedOut prov calls).reverse ++ es.reverse) m2 := by
  have need_facts : ∀ id, id ∈ needOf st.m curr → id ∈ curr.authEventIDs ∧ (∀ e, st.m.lookup id ≠ some (some e)) ∧
      id ≠ root.eventID ∧ errs id = false := by
    intro id hid
    obtain ⟨hauth, hnb, hne⟩ := needOf_facts O root table errs hinv hid
    exact ⟨hauth, hnb, hne, by simpa using (List.any_eq_false.mp hok) id hid⟩
  -- an ID of `curr` that the map after the fetch does not bind was needed, and left out of the batch answer
  have absent_need : ∀ id, id ∈ curr.authEventIDs → (putAll es st.m).lookup id = none →
      id ∈ needOf st.m curr ∧ ∀ e ∈ es, e.eventID ≠ id := by
    intro id hid h1
    rcases putAll_lookup_fetched table hes st.m id with ⟨h, hno⟩ | ⟨_, _, _, _, h⟩
    · rcases needOf_or_bound (m := st.m) hid with hin | ⟨e, he⟩
      · exact ⟨hin, hno⟩
      · rw [h, he] at h1; cases h1
    · rw [h] at h1; cases h1
  refine ⟨fun id v h0 => ?_, fun id v h2 => ?_, fun x hx => ?_⟩
  · rcases putAll_lookup_fetched table hes st.m id with ⟨hl, _⟩ | ⟨e, _, hin, ht, _⟩
    · exact hext.keep id v (hl ▸ h0)
    · -- a needed ID is bound to nil at most, and then the table holds nothing for it
      cases v with
      | some e' => exact absurd h0 ((need_facts id hin).2.1 e')
      | none => rw [hinv.nilOK id h0] at ht; cases ht
  · rcases hext.new id v h2 with h1 | ⟨h1, hp, hd⟩
    · rcases putAll_lookup_fetched table hes st.m id with ⟨hl, _⟩ | ⟨e, he, hin, ht, hl⟩
      · exact Or.inl (hl ▸ h1)
      · rw [hl] at h1
        cases h1
        obtain ⟨hauth, _, hne, herr⟩ := need_facts id hin
        exact Or.inr ⟨hauth, hne, herr, ht.symm, fun x hx => by
          cases hx; exact List.mem_append_right _ (List.mem_reverse.mpr he)⟩
    · obtain ⟨hin, hno⟩ := absent_need id hd h1
      obtain ⟨hauth, _, hne, herr⟩ := need_facts id hin
      have hpt := (provided_absent table errs htl htable hes hin herr hno).1
      refine Or.inr ⟨hauth, hne, herr, hp.trans hpt, fun x hx => ?_⟩
      -- the retry asked for `id` and was handed `x`
      refine List.mem_append_left _ (List.mem_reverse.mpr ((mem_handedOut _ _ _).mpr
        ⟨[id], [x], hask.all id v h1 h2, ?_, List.mem_singleton.mpr rfl⟩))
      rw [htl.single id herr, ← hpt, ← hp, hx]
  · rcases List.mem_append.mp hx with h | h
    · obtain ⟨ids, xs, hcall, hp, hxin⟩ := (mem_handedOut _ _ _).mp (List.mem_reverse.mp h)
      obtain ⟨id, hid, hceq, hnone⟩ := hask.only _ hcall
      cases hceq
      obtain ⟨id', hid', ht⟩ := htl.sub _ _ hp x hxin
      cases List.mem_singleton.mp hid'
      obtain ⟨hauth, _, hne, _⟩ := need_facts id (absent_need id hid hnone).1
      exact ⟨id, hauth, hne, ht⟩
    · obtain ⟨hin, ht⟩ := hes.fromTable x (List.mem_reverse.mp h)
      obtain ⟨hauth, _, hne, _⟩ := need_facts _ hin
      exact ⟨_, hauth, hne, ht⟩

/-! ### one step, and the loop -/

/-- what one `chainStep` from a state satisfying the invariant guarantees, per outcome: it stops with `ok` only on an
    empty stack, never runs out of fuel, refuses only with a reachable event that is not good, and otherwise keeps the
    invariant -/
def StepPost (st : ChainSt) : ChainStep → Prop
  | .done .ok _ => st.stack = []
  | .done .outOfFuel _ => False
  | .done .provErr _ => ∃ e, Reach root table e ∧ chainGood O root table errs e = false
  | .done .authFail _ => ∃ e, Reach root table e ∧ chainGood O root table errs e = false
  | .cont st' _ => ChainInv O root table errs st'

theorem chainStep_post (hidem : AddIdem O) (htl : TableLike table errs prov) (htable : ∀ id e, table id = some e → e.eventID = id)
    (n : Nat) (st : ChainSt) (log : Log) (hinv : ChainInv O root table errs st) :
    StepPost O root table errs st (chainStep O prov (n + 2) st log) := by
  unfold chainStep
  cases hs : st.stack with
  | nil => exact hs
  | cons curr rest =>
    simp only
    have hcurr := hinv.stackOK curr (by rw [hs]; exact List.mem_cons_self)
    by_cases hv : st.verified.contains curr.eventID = true
    · -- already verified: pop
      simp only [hv, if_true]
      have hvm : curr.eventID ∈ st.verified := by simpa using hv
      have lift : ∀ x : Event, (x.eventID ∈ st.verified ∨ x ∈ st.stack) → (x.eventID ∈ st.verified ∨ x ∈ rest) := by
        intro x hx
        rcases hx with h | h
        · exact Or.inl h
        · rw [hs] at h
          rcases List.mem_cons.mp h with h | h
          · subst h; exact Or.inl hvm
          · exact Or.inr h
      exact {
        rootIn := hinv.rootIn, mapOK := hinv.mapOK, nilOK := hinv.nilOK,
        pending := fun id e h => lift e (hinv.pending id e h),
        stackOK := fun e he => hinv.stackOK e (by rw [hs]; exact List.mem_cons_of_mem _ he),
        verifiedOK := fun id hid => by
          obtain ⟨e, h1, h2, h3⟩ := hinv.verifiedOK id hid
          exact ⟨e, h1, h2, fun aid ha a hra => lift a (h3 aid ha a hra)⟩,
        rootSeen := lift root hinv.rootSeen }
    · simp only [hv, Bool.false_eq_true, if_false]
      rcases fetchNeeded_table table errs htl htable (needOf st.m curr) log with ⟨herr, hf⟩ | ⟨hok, es, log1, hf, hes⟩
      · -- the provider failed on a needed ID
        rw [hf]
        simp only [StepPost]
        refine ⟨curr, hcurr.2, ?_⟩
        rw [List.any_eq_true] at herr
        obtain ⟨id, hid, he⟩ := herr
        obtain ⟨hauth, _, hne⟩ := needOf_facts O root table errs hinv hid
        unfold chainGood
        have : curr.authEventIDs.all (fun id => id == root.eventID || !errs id) = false := by
          rw [List.all_eq_false]
          exact ⟨id, hauth, by simp [hne, he]⟩
        rw [this]
        rfl
      · rw [hf]
        simp only
        have hstep : ∀ ae m acc log, retryAE O (some prov) ae (n + 2) m acc log = stepC O (some prov) ae m acc log :=
          fun ae m acc log => retryAE_eq_stepC O hidem (some prov) (tableLike_provOK table errs htl htable) ae n m acc log
        obtain ⟨m2, calls, hc, hext, hask, hb⟩ := checkAllowed_run O (some prov) (n + 2) hstep curr (putAll es st.m) []
        rw [hc, List.nil_append]
        have hg := grows_of_run O root table errs htl htable hinv hok hes hext hask
        have hiff := verdict_iff_chainGood O root table errs hinv hok hg hext (fun h => hb h prov rfl)
        cases hver : caVerdict O (some prov) curr (putAll es st.m) with
        | outOfFuel => exact absurd hver (caVerdict_ne_outOfFuel O (some prov) curr _)
        | ok =>
          refine inv_of_grows O root table errs htable hinv hs hg (hiff.mp hver) (hb ?_ prov rfl)
          unfold caVerdict at hver
          cases hany : curr.authEventIDs.any (badIn (putAll es st.m))
          · rfl
          · rw [hany] at hver; cases hver
        | _ =>
          -- refused: `curr` is reachable and not good
          simp only [StepPost]
          refine ⟨curr, hcurr.2, ?_⟩
          cases hg : chainGood O root table errs curr
          · rfl
          · rw [hiff.mpr hg] at hver; cases hver

/-- when the stack is empty every event of the chain has been verified -/
theorem closed_of_empty (htable : ∀ id e, table id = some e → e.eventID = id) (st : ChainSt) (hinv : ChainInv O root table errs st)
    (hempty : st.stack = []) (e : Event) (hr : Reach root table e) :
    e.eventID ∈ st.verified ∧ chainResolve root table e.eventID = some e := by
  induction hr with
  | root =>
    refine ⟨?_, by simp [chainResolve]⟩
    rcases hinv.rootSeen with h | h
    · exact h
    · rw [hempty] at h; cases h
  | step hre hid hres ih =>
    rename_i e0 a id
    obtain ⟨hv, hself⟩ := ih
    obtain ⟨e', h1, _, h3⟩ := hinv.verifiedOK e0.eventID hv
    rw [hself] at h1
    cases h1
    refine ⟨?_, chainResolve_self root table htable hres⟩
    rcases h3 id hid a hres with h | h
    · exact h
    · rw [hempty] at h; cases h

/-- what `chainLoop` guarantees per outcome: `ok` means every reachable event is good, a refusal names a reachable event
    that is not; nothing is claimed when the loop's own fuel runs out -/
def LoopPost : ChainOut → Prop
  | .ok => ∀ e, Reach root table e → chainGood O root table errs e = true
  | .outOfFuel => True
  | .provErr => ∃ e, Reach root table e ∧ chainGood O root table errs e = false
  | .authFail => ∃ e, Reach root table e ∧ chainGood O root table errs e = false

theorem chainLoop_post (hidem : AddIdem O) (htl : TableLike table errs prov) (htable : ∀ id e, table id = some e → e.eventID = id)
    (n fuel : Nat) (st : ChainSt) (log : Log) (hinv : ChainInv O root table errs st) :
    LoopPost O root table errs (chainLoop O prov (n + 2) fuel st log).1 := by
  induction fuel generalizing st log with
  | zero => simp [chainLoop, LoopPost]
  | succ k ih =>
    unfold chainLoop
    have hp := chainStep_post O root table errs hidem htl htable n st log hinv
    cases hc : chainStep O prov (n + 2) st log with
    | done r lg =>
      rw [hc] at hp
      simp only
      cases r with
      | ok =>
        simp only [StepPost] at hp
        intro e hr
        obtain ⟨hv, hself⟩ := closed_of_empty O root table errs htable st hinv hp e hr
        obtain ⟨e', h1, h2, _⟩ := hinv.verifiedOK e.eventID hv
        rw [hself] at h1
        cases h1
        exact h2
      | outOfFuel => trivial
      | provErr => exact hp
      | authFail => exact hp
    | cont st' lg =>
      rw [hc] at hp
      simp only
      exact ih st' lg hp

end
end V.FedCheck
