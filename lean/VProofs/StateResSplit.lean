/-
  `splitConflictedUnconflicted` of the state-resolution model: closed form, membership
  characterisation, and independence of the order of the state sets / of the events inside them.
-/
import VProofs.StateResGroup
namespace V.StateRes
open List

theorem distinctStateEvents_eq (sets : List (List Event)) :
    distinctStateEvents sets = (eventMapFromEvents sets.flatten).filter (fun e => e.stateKey.isSome) := rfl

theorem mem_distinctStateEvents {sets : List (List Event)} {e : Event} (h : e ∈ distinctStateEvents sets) :
    e ∈ sets.flatten ∧ e.stateKey.isSome := by
  rw [distinctStateEvents_eq, List.mem_filter] at h
  exact ⟨mem_eventMap h.1, h.2⟩

theorem distinctStateEvents_idNodup (sets : List (List Event)) : IdNodup (distinctStateEvents sets) :=
  (eventMap_idNodup _).filter _

theorem distinctStateEvents_perm {U : Event → Prop} (hU : EvId U) {sets sets' : List (List Event)}
    (hs : ∀ s ∈ sets, ∀ x ∈ s, U x) (h : SetsEquiv sets sets') : distinctStateEvents sets ~ distinctStateEvents sets' := by
  have hp := h.flatten_perm
  have hl : ∀ x ∈ sets.flatten, U x := List.forall_mem_flatten.mpr hs
  exact (eventMap_perm hU hl (SameSet.of_perm hp)).filter _

/-- what a group contributes to the conflicted events -/
def conflictedOf (v1 : Bool) (sets : List (List Event)) (g : (Bytes × Bytes) × List Event) : List Event :=
  if g.2.length > 1 then g.2 else if v1 then [] else g.2.filter (fun e => !(countID sets e.eventID == sets.length))

/-- what a group contributes to the unconflicted events -/
def unconfOf (v1 : Bool) (sets : List (List Event)) (g : (Bytes × Bytes) × List Event) : List Event :=
  if g.2.length > 1 then [] else if v1 then g.2 else g.2.filter (fun e => countID sets e.eventID == sets.length)

/-- the fold step of `splitConflictedUnconflicted` (the lambda of the model, verbatim) -/
def splitStep (v1 : Bool) (sets : List (List Event)) (acc : List Event × List Event)
    (g : (Bytes × Bytes) × List Event) : List Event × List Event :=
  if g.2.length > 1 then (acc.1 ++ g.2, acc.2)
  else if v1 then (acc.1, acc.2 ++ g.2)
  else g.2.foldl (fun (a : List Event × List Event) e =>
    if countID sets e.eventID == sets.length then (a.1, a.2 ++ g.2) else (a.1 ++ [e], a.2)) acc

theorem split_eq_foldl (v1 : Bool) (sets : List (List Event)) :
    splitConflictedUnconflicted v1 sets = (groupByKey (distinctStateEvents sets)).foldl (splitStep v1 sets) ([], []) := rfl

theorem splitStep_eq (v1 : Bool) (sets : List (List Event)) (acc : List Event × List Event)
    (g : (Bytes × Bytes) × List Event) :
    splitStep v1 sets acc g = (acc.1 ++ conflictedOf v1 sets g, acc.2 ++ unconfOf v1 sets g) := by
  unfold splitStep conflictedOf unconfOf
  by_cases hl : g.2.length > 1
  · simp only [hl, if_true, List.append_nil]
  · simp only [hl, if_false]
    cases v1 with
    | true => simp
    | false =>
      simp only [Bool.false_eq_true, if_false]
      match hg : g.2, hl with
      | [], _ => simp
      | [e], _ =>
        by_cases hc : countID sets e.eventID = sets.length
        · simp [hc]
        · simp [hc]
      | _ :: _ :: _, hl => exact absurd hl (by simp)

theorem splitFold_eq (v1 : Bool) (sets : List (List Event)) (G : List ((Bytes × Bytes) × List Event))
    (acc : List Event × List Event) :
    G.foldl (splitStep v1 sets) acc =
      (acc.1 ++ G.flatMap (conflictedOf v1 sets), acc.2 ++ G.flatMap (unconfOf v1 sets)) := by
  induction G generalizing acc with
  | nil => simp
  | cons g G ih =>
    rw [List.foldl_cons, ih, splitStep_eq]
    simp only [List.flatMap_cons, List.append_assoc]

theorem split_closed (v1 : Bool) (sets : List (List Event)) :
    splitConflictedUnconflicted v1 sets =
      ((groupByKey (distinctStateEvents sets)).flatMap (conflictedOf v1 sets),
        (groupByKey (distinctStateEvents sets)).flatMap (unconfOf v1 sets)) := by
  rw [split_eq_foldl, splitFold_eq]; simp

theorem conflictedOf_sublist (v1 : Bool) (sets : List (List Event)) (g : (Bytes × Bytes) × List Event) :
    conflictedOf v1 sets g <+ g.2 := by
  unfold conflictedOf
  split
  · exact List.Sublist.refl _
  · split
    · exact List.nil_sublist _
    · exact List.filter_sublist

theorem unconfOf_sublist (v1 : Bool) (sets : List (List Event)) (g : (Bytes × Bytes) × List Event) :
    unconfOf v1 sets g <+ g.2 := by
  unfold unconfOf
  split
  · exact List.nil_sublist _
  · split
    · exact List.Sublist.refl _
    · exact List.filter_sublist

theorem mem_conflictedOf {v1 : Bool} {sets : List (List Event)} {g : (Bytes × Bytes) × List Event} {e : Event} :
    e ∈ conflictedOf v1 sets g ↔
      e ∈ g.2 ∧ (g.2.length > 1 ∨ (v1 = false ∧ countID sets e.eventID ≠ sets.length)) := by
  unfold conflictedOf
  by_cases hl : g.2.length > 1
  · simp [hl]
  · cases v1 <;> simp [hl]

theorem mem_unconfOf {v1 : Bool} {sets : List (List Event)} {g : (Bytes × Bytes) × List Event} {e : Event} :
    e ∈ unconfOf v1 sets g ↔
      e ∈ g.2 ∧ g.2.length = 1 ∧ (v1 = false → countID sets e.eventID = sets.length) := by
  unfold unconfOf
  by_cases hl : g.2.length > 1
  · simp only [hl, if_true, List.not_mem_nil, false_iff]
    intro h; omega
  · have h1 : e ∈ g.2 → g.2.length = 1 := by
      intro he
      have := List.length_pos_of_mem he
      omega
    cases v1
    · simp only [hl, if_false, Bool.false_eq_true, List.mem_filter, beq_iff_eq, true_imp_iff]
      exact ⟨fun h => ⟨h.1, h1 h.1, h.2⟩, fun h => ⟨h.1, h.2.2⟩⟩
    · simp only [hl, if_false, if_true]
      exact ⟨fun h => ⟨h, h1 h, fun hh => by cases hh⟩, fun h => h.1⟩

theorem distinctStateEvents_group_of_mem {sets : List (List Event)} {g} (hg : g ∈ groupByKey (distinctStateEvents sets))
    {e : Event} (he : e ∈ g.2) :
    e ∈ distinctStateEvents sets ∧ g.2 = (distinctStateEvents sets).filter (hasKey (keyOf e)) := by
  obtain ⟨h1, _, h3⟩ := (groupByKey_mem hg).mp he
  exact ⟨h1, by rw [h3]; exact (groupByKey_group hg).1⟩

theorem distinctStateEvents_group_exists {sets : List (List Event)} {e : Event} (he : e ∈ distinctStateEvents sets) :
    ∃ g ∈ groupByKey (distinctStateEvents sets), e ∈ g.2 ∧ g.2 = (distinctStateEvents sets).filter (hasKey (keyOf e)) := by
  obtain ⟨g, hg, _, heg⟩ := groupByKey_cover he (mem_distinctStateEvents he).2
  exact ⟨g, hg, heg, (distinctStateEvents_group_of_mem hg heg).2⟩

theorem mem_split_conflicted (v1 : Bool) (sets : List (List Event)) (e : Event) :
    e ∈ (splitConflictedUnconflicted v1 sets).1 ↔
      e ∈ distinctStateEvents sets ∧ (((distinctStateEvents sets).filter (hasKey (keyOf e))).length > 1 ∨
        (v1 = false ∧ countID sets e.eventID ≠ sets.length)) := by
  rw [split_closed]
  simp only [List.mem_flatMap]
  constructor
  · rintro ⟨g, hg, he⟩
    obtain ⟨heg, hc⟩ := mem_conflictedOf.mp he
    obtain ⟨hd, hg2⟩ := distinctStateEvents_group_of_mem hg heg
    rw [hg2] at hc
    exact ⟨hd, hc⟩
  · rintro ⟨hd, hc⟩
    obtain ⟨g, hg, heg, hg2⟩ := distinctStateEvents_group_exists hd
    refine ⟨g, hg, mem_conflictedOf.mpr ⟨heg, ?_⟩⟩
    rw [hg2]; exact hc

theorem mem_split_unconflicted (v1 : Bool) (sets : List (List Event)) (e : Event) :
    e ∈ (splitConflictedUnconflicted v1 sets).2 ↔
      e ∈ distinctStateEvents sets ∧ ((distinctStateEvents sets).filter (hasKey (keyOf e))).length = 1 ∧
        (v1 = false → countID sets e.eventID = sets.length) := by
  rw [split_closed]
  simp only [List.mem_flatMap]
  constructor
  · rintro ⟨g, hg, he⟩
    obtain ⟨heg, hc⟩ := mem_unconfOf.mp he
    obtain ⟨hd, hg2⟩ := distinctStateEvents_group_of_mem hg heg
    rw [hg2] at hc
    exact ⟨hd, hc⟩
  · rintro ⟨hd, hc⟩
    obtain ⟨g, hg, heg, hg2⟩ := distinctStateEvents_group_exists hd
    refine ⟨g, hg, mem_unconfOf.mpr ⟨heg, ?_⟩⟩
    rw [hg2]; exact hc

theorem split_sub (v1 : Bool) (sets : List (List Event)) {e : Event}
    (h : e ∈ (splitConflictedUnconflicted v1 sets).1 ∨ e ∈ (splitConflictedUnconflicted v1 sets).2) :
    e ∈ sets.flatten ∧ e.stateKey.isSome := by
  rcases h with h | h
  · exact mem_distinctStateEvents ((mem_split_conflicted v1 sets e).mp h).1
  · exact mem_distinctStateEvents ((mem_split_unconflicted v1 sets e).mp h).1

theorem split_disjoint (v1 : Bool) (sets : List (List Event)) {e : Event}
    (h1 : e ∈ (splitConflictedUnconflicted v1 sets).1) (h2 : e ∈ (splitConflictedUnconflicted v1 sets).2) : False := by
  obtain ⟨_, hc⟩ := (mem_split_conflicted v1 sets e).mp h1
  obtain ⟨_, hl, hu⟩ := (mem_split_unconflicted v1 sets e).mp h2
  rcases hc with hc | ⟨hv, hc⟩
  · omega
  · exact hc (hu hv)

theorem split_cover (v1 : Bool) (sets : List (List Event)) {e : Event} (h : e ∈ distinctStateEvents sets) :
    e ∈ (splitConflictedUnconflicted v1 sets).1 ∨ e ∈ (splitConflictedUnconflicted v1 sets).2 := by
  rw [mem_split_conflicted, mem_split_unconflicted]
  have hpos : ((distinctStateEvents sets).filter (hasKey (keyOf e))).length > 0 :=
    List.length_pos_of_mem (List.mem_filter.mpr ⟨h, hasKey_keyOf (mem_distinctStateEvents h).2⟩)
  by_cases hl : ((distinctStateEvents sets).filter (hasKey (keyOf e))).length > 1
  · exact Or.inl ⟨h, Or.inl hl⟩
  · by_cases hc : v1 = false ∧ countID sets e.eventID ≠ sets.length
    · exact Or.inl ⟨h, Or.inr hc⟩
    · refine Or.inr ⟨h, by omega, fun hv => ?_⟩
      exact Classical.byContradiction fun hne => hc ⟨hv, hne⟩

theorem groups_flatMap_idNodup {evs : List Event} (hev : IdNodup evs)
    (f : (Bytes × Bytes) × List Event → List Event) (hf : ∀ g, f g <+ g.2) :
    IdNodup ((groupByKey evs).flatMap f) := by
  unfold IdNodup List.Nodup
  rw [List.pairwise_map, List.pairwise_flatMap]
  constructor
  · intro g hg
    have h1 : IdNodup g.2 := by rw [(groupByKey_group hg).1]; exact hev.filter _
    have h2 : IdNodup (f g) := by
      unfold IdNodup at *; exact List.Nodup.sublist ((hf g).map _) h1
    unfold IdNodup List.Nodup at h2
    rwa [List.pairwise_map] at h2
  · have hk := groupByKey_keys_nodup evs
    unfold List.Nodup at hk
    rw [List.pairwise_map] at hk
    refine List.Pairwise.imp_of_mem ?_ hk
    intro g g' hg hg' hne x hx y hy hid
    obtain ⟨hxe, _, hxk⟩ := (groupByKey_mem hg).mp ((hf g).mem hx)
    obtain ⟨hye, _, hyk⟩ := (groupByKey_mem hg').mp ((hf g').mem hy)
    have : x = y := hev.idsIn x y hxe hye hid
    subst this
    exact hne (hxk.symm.trans hyk)

theorem split_idNodup (v1 : Bool) (sets : List (List Event)) :
    IdNodup (splitConflictedUnconflicted v1 sets).1 ∧ IdNodup (splitConflictedUnconflicted v1 sets).2 := by
  rw [split_closed]
  exact ⟨groups_flatMap_idNodup (distinctStateEvents_idNodup sets) _ (conflictedOf_sublist v1 sets),
    groups_flatMap_idNodup (distinctStateEvents_idNodup sets) _ (unconfOf_sublist v1 sets)⟩

/-- an unconflicted event is the only distinct state event of its slot -/
theorem split_unconflicted_keys (v1 : Bool) (sets : List (List Event)) :
    (((splitConflictedUnconflicted v1 sets).2).map keyOf).Nodup := by
  rw [List.nodup_iff_pairwise_ne, List.pairwise_map]
  refine (List.nodup_iff_pairwise_ne.mp (split_idNodup v1 sets).2.nodup).imp_of_mem fun {a b} ha hb hne hk => hne ?_
  obtain ⟨hda, hla, _⟩ := (mem_split_unconflicted v1 sets a).mp ha
  obtain ⟨hdb, _, _⟩ := (mem_split_unconflicted v1 sets b).mp hb
  exact ((Lists.length_filter_eq_one_iff (distinctStateEvents_idNodup sets).nodup hda
    (hasKey_keyOf (mem_distinctStateEvents hda).2)).mp hla b hdb (hk ▸ hasKey_keyOf (mem_distinctStateEvents hdb).2)).symm

/-- the same events (by the membership characterisation), each listed once -/
theorem split_perm_of_setsEquiv {U : Event → Prop} (hU : EvId U) (v1 : Bool) {sets sets' : List (List Event)}
    (hs : ∀ s ∈ sets, ∀ x ∈ s, U x) (h : SetsEquiv sets sets') :
    (splitConflictedUnconflicted v1 sets).1 ~ (splitConflictedUnconflicted v1 sets').1 ∧
    (splitConflictedUnconflicted v1 sets).2 ~ (splitConflictedUnconflicted v1 sets').2 := by
  have hp := distinctStateEvents_perm hU hs h
  have hlen : ∀ e : Event, ((distinctStateEvents sets).filter (hasKey (keyOf e))).length =
      ((distinctStateEvents sets').filter (hasKey (keyOf e))).length :=
    fun e => (hp.filter _).length_eq
  refine ⟨SameSet.perm (fun e => ?_) (split_idNodup v1 sets).1.nodup (split_idNodup v1 sets').1.nodup,
    SameSet.perm (fun e => ?_) (split_idNodup v1 sets).2.nodup (split_idNodup v1 sets').2.nodup⟩
  · rw [mem_split_conflicted, mem_split_conflicted, hp.mem_iff, hlen e, h.countID_eq, h.length_eq]
  · rw [mem_split_unconflicted, mem_split_unconflicted, hp.mem_iff, hlen e, h.countID_eq, h.length_eq]

theorem agreed_unconflicted {sets : List (List Event)} (hne : sets ≠ []) (hU : IdsIn sets.flatten) {e : Event}
    (hk : e.stateKey.isSome) (he : ∀ s ∈ sets, e ∈ s)
    (hocc : ∀ s ∈ sets, (s.filter (fun x => x.eventID == e.eventID)).length = 1)
    (hslot : ∀ x ∈ sets.flatten, hasKey (keyOf e) x = true → x = e) :
    e ∈ (splitConflictedUnconflicted false sets).2 := by
  rw [mem_split_unconflicted]
  have hflat : e ∈ sets.flatten := by
    cases sets with
    | nil => exact absurd rfl hne
    | cons s ss => exact List.mem_flatten.mpr ⟨s, List.mem_cons_self, he s List.mem_cons_self⟩
  have hd : e ∈ distinctStateEvents sets := by
    unfold distinctStateEvents
    exact List.mem_filter.mpr ⟨mem_eventMap_of_mem hU hflat, hk⟩
  refine ⟨hd, ?_, fun _ => ?_⟩
  · exact (Lists.length_filter_eq_one_iff (distinctStateEvents_idNodup sets).nodup hd (hasKey_keyOf hk)).mpr
      fun x hx hxk => hslot x (mem_distinctStateEvents hx).1 hxk
  · rw [countID_eq]
    exact Lists.flatten_filter_length _ sets hocc

theorem split_all_equal (S : List Event) (hS : IdNodup S) (hkeys : (S.map keyOf).Nodup) (hst : ∀ e ∈ S, e.stateKey.isSome)
    (sets : List (List Event)) (hne : sets ≠ []) (h : ∀ s ∈ sets, s ~ S) :
    (splitConflictedUnconflicted false sets).1 = [] ∧ SameSet (splitConflictedUnconflicted false sets).2 S := by
  have hflat : ∀ x, x ∈ sets.flatten → x ∈ S := fun x hx =>
    let ⟨s, hs, hxs⟩ := List.mem_flatten.mp hx; (h s hs).mem_iff.mp hxs
  -- every event of `S` is one on which all state sets agree
  have hun : ∀ e ∈ S, e ∈ (splitConflictedUnconflicted false sets).2 := fun e he =>
    agreed_unconflicted hne (hS.idsIn.mono hflat) (hst e he) (fun s hs => (h s hs).mem_iff.mpr he)
      (fun s hs => ((h s hs).filter _).length_eq.trans (Lists.filter_key_length_one (fun x : Event => x.eventID) hS he))
      (fun x hx hxk => Lists.eq_of_nodup_map keyOf hkeys (hflat x hx) he (hasKey_iff_keyOf.mp hxk).2)
  exact ⟨List.eq_nil_iff_forall_not_mem.mpr fun e he =>
      split_disjoint false sets he (hun e (hflat e (split_sub false sets (Or.inl he)).1)),
    fun e => ⟨fun he => hflat e (split_sub false sets (Or.inr he)).1, hun e⟩⟩

end V.StateRes
