/- Helper lemmas (C17), IPv6: parseIPv6 = RFC 4291 recogniser, and the dispatch of net.ParseIP (first of '.', ':', '%'; zones refused) = dotted quad or RFC 4291 text. -/
import VProofs.IdentIP6Loop
namespace V.Ident

theorem isIPv6_eq (s : BS) : Spec.isIPv6 s = fitsNoEll 8 s := by
  unfold Spec.isIPv6 fitsNoEll
  cases Spec.cutEllipsis s with
  | none => rfl
  | some p =>
    obtain ⟨l, r⟩ := p
    simp only
    cases Spec.units l false <;> cases Spec.units r true <;> simp [Nat.lt_succ_iff]

theorem parseIPv6_go_isSome (s : BS) (ell : Option Nat) :
    (parseIPv6Go s ell).isSome = accepts (v6Loop 8 s [] ell) := by
  unfold parseIPv6Go
  cases v6Loop 8 s [] ell with
  | none => rfl
  | some p =>
    obtain ⟨ip, ell', rest⟩ := p
    simp only [accepts]
    cases rest with
    | cons _ _ => simp
    | nil =>
      simp only [List.isEmpty_nil, Bool.not_true, Bool.false_eq_true, if_false, Bool.true_and]
      by_cases hl : ip.length < 16
      · simp only [hl, if_true]; cases ell' <;> rfl
      · simp only [hl, if_false]; cases ell' <;> rfl

/-- Go's IPv6 literal parser (as modelled) accepts exactly the RFC 4291 text forms of the specification -/
theorem parseIPv6_isSome_eq (s : BS) : (parseIPv6 s).isSome = Spec.isIPv6 s := by
  rw [isIPv6_eq]
  by_cases hpre : ∃ r, s = 0x3A :: 0x3A :: r
  · -- a leading "::": nothing before the ellipsis
    obtain ⟨r, rfl⟩ := hpre
    have hspec : fitsNoEll 8 (0x3A :: 0x3A :: r) = fitsEll 8 r := by
      simp [fitsNoEll, fitsEll, Spec.cutEllipsis, Spec.units]
    rw [hspec]
    cases r with
    | nil => rfl
    | cons c cs =>
      simp only [parseIPv6, List.isEmpty_cons, Bool.false_eq_true, if_false]
      rw [parseIPv6_go_isSome]
      exact v6Loop_accepts 8 _ [] (some 0) (by simp) nofun rfl
  · have hp : parseIPv6 s = parseIPv6Go s none := by
      unfold parseIPv6
      split
      · exact absurd ⟨_, rfl⟩ hpre
      · rfl
    by_cases hne : s = []
    · subst hne; rfl
    · rw [hp, parseIPv6_go_isSome]
      exact v6Loop_accepts 8 _ [] none hne (fun _ t e => hpre ⟨t, e⟩) rfl

def ipChar (c : UInt8) : Bool := isHexB c || c == 0x3A || c == 0x2E

theorem units_chars {s : BS} {v : Bool} {u : Nat} (hu : Spec.units s v = some u) : s.all ipChar = true := by
  have hf0 : ∀ f : BS, Spec.isH16 f = true ∨ Spec.isIPv4 f = true → f.all ipChar = true := by
    rintro f (h | h)
    · exact all_imp (fun c hc => by simp [ipChar, hc]) ((isH16_iff f).mp h).2.2
    · exact all_imp (fun c hc => by
        simp only [Bool.or_eq_true, beq_iff_eq] at hc
        rcases hc with hc | hc
        · simp [ipChar, digit_isHex c hc]
        · simp [ipChar, hc]) (isIPv4_chars h)
  cases s with
  | nil => rfl
  | cons c cs =>
    -- every ':'-field but the last is an h16, the last an h16 or a dotted quad
    apply splitOn_all (sep := 0x3A) (by decide)
    intro f hf
    have hne := splitOn_ne_nil 0x3A (c :: cs)
    simp only [Spec.units, List.isEmpty_cons, Bool.false_eq_true, if_false, List.getLast?_eq_some_getLast hne] at hu
    rw [← List.dropLast_concat_getLast hne, List.mem_append, List.mem_singleton] at hf
    split at hu
    · cases hu
    · rename_i hfr
      rcases hf with hf | rfl
      · exact hf0 f (Or.inl (List.all_eq_true.mp (by simpa using hfr) f hf))
      · split at hu
        · rename_i h; exact hf0 _ (Or.inl h)
        · split at hu
          · rename_i h; exact hf0 _ (Or.inr (Bool.and_eq_true _ _ ▸ h).2)
          · cases hu

theorem isIPv6_chars {s : BS} (h : Spec.isIPv6 s = true) : s.all ipChar = true := by
  unfold Spec.isIPv6 at h
  cases hc : Spec.cutEllipsis s with
  | none =>
    rw [hc] at h
    exact units_chars (u := 8) (by simpa using h)
  | some p =>
    obtain ⟨l, r⟩ := p
    rw [hc] at h
    cases hl : Spec.units l false with
    | none => simp [hl] at h
    | some a =>
      cases hr : Spec.units r true with
      | none => simp [hl, hr] at h
      | some b =>
        rw [cutEllipsis_decomp hc, List.all_append, List.all_cons, List.all_cons,
          units_chars hl, units_chars hr]
        rfl

theorem isIPv6_no_percent {s : BS} (hp : (0x25 : UInt8) ∈ s) : Spec.isIPv6 s = false :=
  Bool.eq_false_iff.mpr fun h => Lists.not_mem_of_all (isIPv6_chars h) (by decide) hp

theorem isIPv6_no_colon {s : BS} (hn : (0x3A : UInt8) ∉ s) : Spec.isIPv6 s = false := by
  unfold Spec.isIPv6
  rw [cutEllipsis_nocolon hn]
  cases s with
  | nil => rfl
  | cons c cs =>
    rw [units_single hn (by simp)]
    cases Spec.isH16 (c :: cs) <;> cases Spec.isIPv4 (c :: cs) <;> rfl

theorem isIPv4_no_dot {s : BS} (hn : (0x2E : UInt8) ∉ s) : Spec.isIPv4 s = false := by
  unfold Spec.isIPv4
  rw [splitOn_nosep hn]; rfl

/-- the three bytes `netip.ParseAddr` dispatches on: the test inside `parseIP`, named -/
def isSpecial (c : UInt8) : Bool := c == 0x2E || c == 0x3A || c == 0x25

theorem isIPv6_dot_first {s : BS} (hf : s.find? isSpecial = some 0x2E) (hcol : (0x3A : UInt8) ∈ s) : Spec.isIPv6 s = false := by
  rw [isIPv6_eq]
  cases hcut : cut 0x3A s with
  | none => exact absurd hcol (cut_none hcut)
  | some p =>
    obtain ⟨f0, t⟩ := p
    obtain ⟨hs, hn⟩ := cut_spec hcut
    have hdot : (0x2E : UInt8) ∈ f0 := by
      rw [hs, List.find?_append] at hf
      cases hq : f0.find? isSpecial with
      | none => simp [hq, List.find?, isSpecial] at hf
      | some c =>
        have hf' : c = 0x2E := by simpa [hq, Option.or] using hf
        subst hf'
        exact List.mem_of_find?_eq_some hq
    have hb : Spec.isH16 f0 = false := Bool.eq_false_iff.mpr fun hv => not_mem_of_isH16 hv (by decide) hdot
    have hne : s ≠ [] := by rw [hs]; simp
    have hnot : ∀ t', s ≠ 0x3A :: 0x3A :: t' := by
      intro t' e
      rw [hs] at e
      cases f0 with
      | nil => simp at hdot
      | cons x xs =>
        simp only [List.cons_append, List.cons.injEq] at e
        exact hn (by simp [e.1])
    exact fits_bad false hs hn (Or.inr ⟨t, rfl⟩) hne (fun _ => hnot) hb (fun e => by cases e) 8

/-- net.ParseIP (as modelled) accepts exactly the dotted-quad and the RFC 4291 text forms -/
theorem parseIP_isSome_eq (a : BS) : (parseIP a).isSome = Spec.isIPLiteral a := by
  unfold parseIP Spec.isIPLiteral
  have hfun : (fun c : UInt8 => c == 0x2E || c == 0x3A || c == 0x25) = isSpecial := rfl
  rw [hfun]
  cases hf : a.find? isSpecial with
  | none =>
    have hno : ∀ c ∈ a, isSpecial c = false := by
      intro c hc
      have := List.find?_eq_none.mp hf c hc
      simpa using this
    have h1 : (0x2E : UInt8) ∉ a := fun hm => by have := hno _ hm; revert this; decide
    have h2 : (0x3A : UInt8) ∉ a := fun hm => by have := hno _ hm; revert this; decide
    simp [isIPv4_no_dot h1, isIPv6_no_colon h2]
  | some c =>
    have hmem := List.mem_of_find?_eq_some hf
    have hsp : isSpecial c = true := List.find?_some hf
    simp only
    by_cases hd : c = 0x2E
    · subst hd
      simp only [beq_self_eq_true, if_true, Option.isSome_map]
      rw [parseIPv4_isSome_eq]
      by_cases hcol : (0x3A : UInt8) ∈ a
      · simp [isIPv6_dot_first hf hcol]
      · simp [isIPv6_no_colon hcol]
    · have hd' : (c == 0x2E) = false := by simpa using hd
      simp only [hd', Bool.false_eq_true, if_false]
      by_cases hc : c = 0x3A
      · subst hc
        have h4 : Spec.isIPv4 a = false := (not_dns_of_mem hmem (by decide)).2
        simp only [beq_self_eq_true, if_true, h4, Bool.false_or]
        by_cases hp : (0x25 : UInt8) ∈ a
        · have : a.contains 0x25 = true := by simpa using hp
          simp only [this, if_true, Option.isSome_none, isIPv6_no_percent hp]
        · have : a.contains 0x25 = false := by simpa using hp
          simp only [this, Bool.false_eq_true, if_false]
          exact parseIPv6_isSome_eq a
      · have hc' : (c == 0x3A) = false := by simpa using hc
        have hp : c = 0x25 := by
          simp only [isSpecial, Bool.or_eq_true, beq_iff_eq] at hsp
          rcases hsp with (h | h) | h
          · exact absurd h hd
          · exact absurd h hc
          · exact h
        subst hp
        simp [hc', (not_dns_of_mem hmem (by decide)).2, isIPv6_no_percent hmem]

end V.Ident
