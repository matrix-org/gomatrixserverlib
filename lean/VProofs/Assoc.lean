/-
  Association lists as the models write their Go maps: the lookup is the first entry whose key matches, an entry is
  written by replace-or-append (`upsert`) or by erase-then-append (`put`), and removed by filtering (`erase`).
  The lemmas say what a lookup answers after each of these, what the key list becomes, and that under pairwise
  distinct keys the list is determined, as a set, by its lookups.
-/
namespace V.Assoc
open List

variable {α β : Type} [BEq α]

def lookup (l : List (α × β)) (k : α) : Option β := (l.find? (fun p => p.1 == k)).map (·.2)

/-- an `abbrev`, so that core's lemmas about `map` apply as they stand -/
abbrev keys (l : List (α × β)) : List α := l.map (·.1)

def erase (l : List (α × β)) (k : α) : List (α × β) := l.filter (fun p => p.1 != k)

def put (l : List (α × β)) (k : α) (v : β) : List (α × β) := erase l k ++ [(k, v)]

/-- change the value of every entry under `k` by `g` (the lookup sees the first), or append `(k, v)` when there is none -/
def upsert (l : List (α × β)) (k : α) (g : β → β) (v : β) : List (α × β) :=
  if (l.find? (fun p => p.1 == k)).isSome then l.map (fun p => if p.1 == k then (p.1, g p.2) else p) else l ++ [(k, v)]

/-- the lemmas below test keys with `==`; statements written with `=` are reached through this -/
theorem ite_beq {γ : Type} [LawfulBEq α] [DecidableEq α] (a b : α) (x y : γ) :
    (if a == b then x else y) = if a = b then x else y := by
  by_cases h : a = b
  · rw [if_pos h, if_pos (beq_iff_eq.mpr h)]
  · rw [if_neg h, if_neg (fun h' => h (eq_of_beq h'))]

theorem lookup_nil (k : α) : lookup ([] : List (α × β)) k = none := rfl

theorem lookup_cons (p : α × β) (l : List (α × β)) (k : α) :
    lookup (p :: l) k = if p.1 == k then some p.2 else lookup l k := by
  unfold lookup
  rw [List.find?_cons]
  cases p.1 == k <;> rfl

theorem lookup_append (l l' : List (α × β)) (k : α) : lookup (l ++ l') k = (lookup l k).or (lookup l' k) := by
  induction l with
  | nil => rfl
  | cons p l ih => rw [List.cons_append, lookup_cons, lookup_cons, ih]; cases p.1 == k <;> rfl

theorem isSome_find (l : List (α × β)) (k : α) : (l.find? (fun p => p.1 == k)).isSome = (lookup l k).isSome := by
  unfold lookup; rw [Option.isSome_map]

theorem lookup_map_snd {γ : Type} (f : β → γ) (l : List (α × β)) (k : α) :
    lookup (l.map fun p => (p.1, f p.2)) k = (lookup l k).map f := by
  unfold lookup
  rw [List.find?_map, Option.map_map, Option.map_map]
  rfl

variable [LawfulBEq α]

theorem lookup_filter (P : α × β → Bool) {k : α} (hP : ∀ p : α × β, p.1 = k → P p = true) (l : List (α × β)) :
    lookup (l.filter P) k = lookup l k := by
  unfold lookup
  rw [List.find?_filter]
  congr 2
  funext p
  cases h : p.1 == k
  · simp
  · simp [hP p (eq_of_beq h)]

theorem isSome_lookup {l : List (α × β)} {k : α} : (lookup l k).isSome ↔ k ∈ keys l := by
  rw [← isSome_find]
  simp only [List.find?_isSome, beq_iff_eq, List.mem_map]

theorem lookup_eq_none {l : List (α × β)} {k : α} : lookup l k = none ↔ k ∉ keys l := by
  rw [← isSome_lookup]; cases lookup l k <;> simp

theorem mem_of_lookup_eq_some {l : List (α × β)} {k : α} {v : β} (h : lookup l k = some v) : (k, v) ∈ l := by
  unfold lookup at h
  obtain ⟨p, hp, rfl⟩ := Option.map_eq_some_iff.mp h
  have hk : p.1 = k := eq_of_beq (List.find?_some (p := fun (q : α × β) => q.1 == k) hp)
  exact hk ▸ List.mem_of_find?_eq_some hp

theorem lookup_eq_some_iff {l : List (α × β)} (hn : (keys l).Nodup) {k : α} {v : β} : lookup l k = some v ↔ (k, v) ∈ l := by
  refine ⟨mem_of_lookup_eq_some, fun h => ?_⟩
  induction l with
  | nil => cases h
  | cons p l ih =>
    rw [keys, List.map_cons, List.nodup_cons] at hn
    rw [lookup_cons]
    rcases List.mem_cons.mp h with rfl | h'
    · rw [if_pos (beq_self_eq_true _)]
    · have : ¬ (p.1 == k) = true := fun hk => hn.1 (eq_of_beq hk ▸ List.mem_map_of_mem (f := (·.1)) h')
      rw [if_neg this]; exact ih hn.2 h'

theorem lookup_perm {l l' : List (α × β)} (hp : l ~ l') (hn : (keys l).Nodup) (k : α) : lookup l k = lookup l' k := by
  have hn' : (keys l').Nodup := (hp.map _).nodup_iff.mp hn
  cases h : lookup l k with
  | none =>
    symm
    rw [lookup_eq_none] at h ⊢
    exact fun hk => h ((hp.map _).mem_iff.mpr hk)
  | some v => exact ((lookup_eq_some_iff hn').mpr (hp.mem_iff.mp ((lookup_eq_some_iff hn).mp h))).symm

omit [LawfulBEq α] in
theorem keys_erase (l : List (α × β)) (k : α) : keys (erase l k) = (keys l).filter (fun a => a != k) := by
  unfold erase keys; rw [List.filter_map]; rfl

omit [LawfulBEq α] in
theorem nodup_keys_erase {l : List (α × β)} (hn : (keys l).Nodup) (k : α) : (keys (erase l k)).Nodup := by
  rw [keys_erase]; exact hn.sublist List.filter_sublist

theorem lookup_erase (l : List (α × β)) (k k' : α) : lookup (erase l k) k' = if k' == k then none else lookup l k' := by
  unfold erase
  induction l with
  | nil => cases k' == k <;> rfl
  | cons p l ih =>
    rw [List.filter_cons, lookup_cons]
    by_cases hp : p.1 = k
    · subst hp
      rw [if_neg (by simp), ih]
      by_cases hk : k' = p.1
      · subst hk; simp
      · have : ¬ p.1 = k' := fun h => hk h.symm
        simp [hk, this]
    · rw [if_pos (by simpa using hp), lookup_cons, ih]
      by_cases hpk : p.1 = k'
      · subst hpk; simp [hp]
      · simp [hpk]

theorem mem_erase {l : List (α × β)} {k : α} {p : α × β} : p ∈ erase l k ↔ p ∈ l ∧ p.1 ≠ k := by
  unfold erase; rw [List.mem_filter, bne_iff_ne]

theorem erase_of_not_mem {l : List (α × β)} {k : α} (h : k ∉ keys l) : erase l k = l :=
  List.filter_eq_self.mpr fun p hp => bne_iff_ne.mpr fun (e : p.1 = k) => h (e ▸ List.mem_map_of_mem (f := (·.1)) hp)

theorem lookup_put (l : List (α × β)) (k : α) (v : β) (k' : α) :
    lookup (put l k v) k' = if k' == k then some v else lookup l k' := by
  unfold put
  rw [lookup_append, lookup_erase, lookup_cons, lookup_nil]
  by_cases hk : k' = k
  · subst hk; simp
  · have : ¬ k = k' := fun h => hk h.symm
    simp [hk, this]

omit [LawfulBEq α] in
theorem keys_put (l : List (α × β)) (k : α) (v : β) : keys (put l k v) = (keys l).filter (fun a => a != k) ++ [k] := by
  unfold put; rw [keys, List.map_append, ← keys, keys_erase]; rfl

theorem nodup_keys_put {l : List (α × β)} (hn : (keys l).Nodup) (k : α) (v : β) : (keys (put l k v)).Nodup := by
  rw [keys_put, List.nodup_append]
  refine ⟨hn.sublist List.filter_sublist, List.nodup_cons.mpr ⟨List.not_mem_nil, List.nodup_nil⟩, ?_⟩
  intro a ha b hb hab
  rw [List.mem_singleton.mp hb] at hab
  have := (List.mem_filter.mp ha).2
  rw [hab] at this
  simp at this

theorem mem_put {l : List (α × β)} {k : α} {v : β} {p : α × β} (h : p ∈ put l k v) : (p ∈ l ∧ p.1 ≠ k) ∨ p = (k, v) := by
  unfold put erase at h
  rcases List.mem_append.mp h with h | h
  · exact Or.inl ⟨(List.mem_filter.mp h).1, by simpa using (List.mem_filter.mp h).2⟩
  · exact Or.inr (List.mem_singleton.mp h)

/-- changing the values stored under `k` (in every entry; the lookup sees the first) -/
theorem lookup_mapVal (g : β → β) (l : List (α × β)) (k k' : α) :
    lookup (l.map (fun p => if p.1 == k then (p.1, g p.2) else p)) k' =
      if k' == k then (lookup l k').map g else lookup l k' := by
  induction l with
  | nil => cases k' == k <;> rfl
  | cons p l ih =>
    rw [List.map_cons, lookup_cons, lookup_cons, ih]
    by_cases hp : p.1 = k
    · subst hp
      by_cases hk : k' = p.1
      · subst hk; simp
      · have : ¬ p.1 = k' := fun h => hk h.symm
        simp [hk, this]
    · by_cases hpk : p.1 = k'
      · subst hpk; simp [hp]
      · simp [hp, hpk]

theorem lookup_upsert (l : List (α × β)) (k : α) (g : β → β) (v : β) (k' : α) :
    lookup (upsert l k g v) k' = if k' == k then some (((lookup l k).map g).getD v) else lookup l k' := by
  unfold upsert
  rw [isSome_find]
  split
  · rename_i h
    rw [lookup_mapVal]
    by_cases hk : k' = k
    · subst hk
      obtain ⟨b, hb⟩ := Option.isSome_iff_exists.mp h
      simp [hb]
    · simp [hk]
  · rename_i h
    have hn : lookup l k = none := by simpa using h
    rw [lookup_append, lookup_cons, lookup_nil, hn]
    by_cases hk : k' = k
    · subst hk; simp [hn]
    · have : ¬ k = k' := fun h' => hk h'.symm
      simp [hk, this]

theorem keys_upsert (l : List (α × β)) (k : α) (g : β → β) (v : β) :
    keys (upsert l k g v) = if k ∈ keys l then keys l else keys l ++ [k] := by
  unfold upsert
  simp only [isSome_find, isSome_lookup]
  split
  · rw [keys, List.map_map]
    apply List.map_congr_left
    intro p _
    simp only [Function.comp]
    split <;> rfl
  · rw [keys, List.map_append]; rfl

theorem mem_keys_upsert {l : List (α × β)} {k : α} {g : β → β} {v : β} {k' : α} :
    k' ∈ keys (upsert l k g v) ↔ k' ∈ keys l ∨ k' = k := by
  rw [keys_upsert]
  split
  · rename_i h
    exact ⟨Or.inl, fun h' => h'.elim id (fun e => e ▸ h)⟩
  · rw [List.mem_append, List.mem_singleton]

theorem nodup_keys_upsert {l : List (α × β)} (hn : (keys l).Nodup) (k : α) (g : β → β) (v : β) :
    (keys (upsert l k g v)).Nodup := by
  rw [keys_upsert]
  split
  · exact hn
  · rename_i h
    rw [List.nodup_append]
    refine ⟨hn, List.nodup_cons.mpr ⟨List.not_mem_nil, List.nodup_nil⟩, ?_⟩
    intro a ha b hb hab
    rw [List.mem_singleton.mp hb] at hab
    exact h (hab ▸ ha)

theorem mem_upsert {l : List (α × β)} {k : α} {g : β → β} {v : β} {p : α × β} (h : p ∈ upsert l k g v) :
    (p ∈ l ∧ p.1 ≠ k) ∨ (p.1 = k ∧ ((p.2 = v ∧ k ∉ keys l) ∨ ∃ q ∈ l, q.1 = k ∧ p.2 = g q.2)) := by
  unfold upsert at h
  split at h
  · obtain ⟨q, hq, rfl⟩ := List.mem_map.mp h
    split
    · rename_i hk; exact Or.inr ⟨eq_of_beq hk, Or.inr ⟨q, hq, eq_of_beq hk, rfl⟩⟩
    · rename_i hk; exact Or.inl ⟨hq, fun h' => hk (beq_iff_eq.mpr h')⟩
  · rename_i hn
    rw [isSome_find, isSome_lookup] at hn
    rcases List.mem_append.mp h with h' | h'
    · exact Or.inl ⟨h', fun hk => hn (hk ▸ List.mem_map_of_mem (f := (·.1)) h')⟩
    · rw [List.mem_singleton.mp h']; exact Or.inr ⟨rfl, Or.inl ⟨rfl, hn⟩⟩

/-- a replace-or-append that writes the key afresh is the same list as one that keeps the stored key -/
theorem map_replace_eq (l : List (α × β)) (k : α) (v : β) :
    l.map (fun p => if p.1 == k then (k, v) else p) = l.map (fun p => if p.1 == k then (p.1, v) else p) := by
  apply List.map_congr_left
  intro p _
  split
  · rename_i h; rw [eq_of_beq h]
  · rfl

end V.Assoc
