/- The association-list maps of VModel.Sign read as `V.Assoc` lists (`mapGet` the lookup, `getLast` the lookup in the
   reversed list): lookup after assignment, unique keys, and the round trip `decode (marshal m) = m` of signature maps
   (needs the base64 round trip). -/
import VProofs.SignB64
import VProofs.Assoc
namespace V.Sign
open V V.Json V.GoJson List

variable {α : Type}

/-! ### mapGet / mapSet / eraseKey through `V.Assoc.lookup` / `put` / `erase`; distinct keys -/

theorem mapGet_eq_lookup (m : List (Bytes × α)) (k : Bytes) : mapGet m k = Assoc.lookup m k := by
  induction m with
  | nil => rfl
  | cons x xs ih =>
    obtain ⟨k', v⟩ := x
    rw [mapGet, Assoc.lookup_cons, ih]

theorem mapSet_eq_put (m : List (Bytes × α)) (k : Bytes) (v : α) : mapSet m k v = Assoc.put m k v := rfl

theorem eraseKey_eq_erase (k : Bytes) (o : List (Bytes × α)) : eraseKey k o = Assoc.erase o k := rfl

theorem mapGet_mapSet (m : List (Bytes × α)) (k k' : Bytes) (v : α) :
    mapGet (mapSet m k v) k' = if k' = k then some v else mapGet m k' := by
  rw [mapGet_eq_lookup, mapGet_eq_lookup, mapSet_eq_put, Assoc.lookup_put, Assoc.ite_beq]

theorem mem_of_mapGet {m : List (Bytes × α)} {k : Bytes} {v : α} (h : mapGet m k = some v) : (k, v) ∈ m :=
  Assoc.mem_of_lookup_eq_some ((mapGet_eq_lookup m k).symm.trans h)

def UniqueKeys (m : List (Bytes × α)) : Prop := m.Pairwise (fun a b => a.1 ≠ b.1)

theorem uniqueKeys_iff_nodup {m : List (Bytes × α)} : UniqueKeys m ↔ (Assoc.keys m).Nodup := by
  rw [List.nodup_iff_pairwise_ne, List.pairwise_map]
  rfl

theorem uniqueKeys_nil : UniqueKeys ([] : List (Bytes × α)) := Pairwise.nil

theorem uniqueKeys_snoc {m : List (Bytes × α)} {e : Bytes × α} (h : UniqueKeys m) (hk : ∀ a ∈ m, a.1 ≠ e.1) :
    UniqueKeys (m ++ [e]) :=
  List.pairwise_append.mpr ⟨h, List.pairwise_singleton _ _, fun a ha _ hb => List.mem_singleton.mp hb ▸ hk a ha⟩

theorem eraseKey_no_key (k : Bytes) (o : List (Bytes × α)) : ∀ kv ∈ eraseKey k o, kv.1 ≠ k := by
  intro kv h
  rw [eraseKey_eq_erase] at h
  exact (Assoc.mem_erase.mp h).2

theorem eraseKey_of_no_key (k : Bytes) (o : List (Bytes × α)) (h : ∀ kv ∈ o, kv.1 ≠ k) : eraseKey k o = o := by
  rw [eraseKey_eq_erase]
  refine Assoc.erase_of_not_mem fun hk => ?_
  obtain ⟨kv, hkv, e⟩ := List.mem_map.mp hk
  exact h kv hkv e

theorem mapSet_of_fresh (m : List (Bytes × α)) (k : Bytes) (v : α) (h : ∀ kv ∈ m, kv.1 ≠ k) :
    mapSet m k v = m ++ [(k, v)] := by
  rw [mapSet, ← eraseKey, eraseKey_of_no_key k m h]

theorem uniqueKeys_mapSet (m : List (Bytes × α)) (k : Bytes) (v : α) (h : UniqueKeys m) : UniqueKeys (mapSet m k v) :=
  uniqueKeys_iff_nodup.mpr (mapSet_eq_put m k v ▸ Assoc.nodup_keys_put (uniqueKeys_iff_nodup.mp h) k v)

theorem mem_mapSet {m : List (Bytes × α)} {k : Bytes} {v : α} {e : Bytes × α} (h : e ∈ mapSet m k v) :
    e ∈ m ∨ e = (k, v) :=
  (Assoc.mem_put (mapSet_eq_put m k v ▸ h)).imp And.left id

/-! ### getLast / body

`getLast` keeps the last entry under a key where `mapGet` keeps the first: it is the lookup in the reversed list. -/

theorem getLast_eq_lookup_reverse (o : List (Bytes × α)) (k : Bytes) : getLast o k = Assoc.lookup o.reverse k := by
  induction o with
  | nil => rfl
  | cons x xs ih =>
    obtain ⟨k', v⟩ := x
    rw [getLast, ih, List.reverse_cons, Assoc.lookup_append, Assoc.lookup_cons, Assoc.lookup_nil]
    cases Assoc.lookup xs.reverse k <;> rfl

theorem getLast_append (a b : List (Bytes × α)) (k : Bytes) : getLast (a ++ b) k = (getLast b k).or (getLast a k) := by
  simp only [getLast_eq_lookup_reverse, List.reverse_append, Assoc.lookup_append]

theorem getLast_none_of_no_key (o : List (Bytes × α)) (k : Bytes) (h : ∀ kv ∈ o, kv.1 ≠ k) : getLast o k = none := by
  rw [getLast_eq_lookup_reverse, Assoc.lookup_eq_none]
  intro hk
  obtain ⟨kv, hkv, rfl⟩ := List.mem_map.mp hk
  exact h kv (List.mem_reverse.mp hkv) rfl

theorem getLast_eraseKey (k k' : Bytes) (o : List (Bytes × α)) :
    getLast (eraseKey k o) k' = if k' = k then none else getLast o k' := by
  rw [getLast_eq_lookup_reverse, getLast_eq_lookup_reverse, ← Assoc.ite_beq, eraseKey, ← List.filter_reverse]
  exact Assoc.lookup_erase o.reverse k k'

theorem getLast_perm {o o' : List (Bytes × α)} (hp : o ~ o') (hu : UniqueKeys o) (k : Bytes) :
    getLast o' k = getLast o k := by
  rw [getLast_eq_lookup_reverse, getLast_eq_lookup_reverse]
  refine (Assoc.lookup_perm ((List.reverse_perm o).trans (hp.trans (List.reverse_perm o').symm)) ?_ k).symm
  exact ((List.reverse_perm o).map _).nodup_iff.mpr (uniqueKeys_iff_nodup.mp hu)

theorem kSig_ne_kUns : kSignatures ≠ kUnsigned := by decide

theorem mem_body {o : List (Bytes × JVal)} {kv : Bytes × JVal} (h : kv ∈ body o) : kv ∈ o :=
  (List.mem_filter.mp (List.mem_filter.mp h).1).1

theorem body_no_sig (o : List (Bytes × JVal)) : ∀ kv ∈ body o, kv.1 ≠ kSignatures :=
  fun kv h => eraseKey_no_key kSignatures o kv (List.mem_filter.mp h).1

theorem body_no_uns (o : List (Bytes × JVal)) : ∀ kv ∈ body o, kv.1 ≠ kUnsigned :=
  eraseKey_no_key kUnsigned _

theorem body_append (a b : List (Bytes × JVal)) : body (a ++ b) = body a ++ body b := by
  simp only [body, eraseKey, List.filter_append]

theorem body_body (o : List (Bytes × JVal)) : body (body o) = body o := by
  rw [body, eraseKey_of_no_key _ _ (body_no_sig o), eraseKey_of_no_key _ _ (body_no_uns o)]

theorem body_sig (x : JVal) : body [(kSignatures, x)] = [] := by
  simp [body, eraseKey]

theorem body_uns (x : JVal) : body [(kUnsigned, x)] = [] := by
  simp [body, eraseKey]

theorem body_assemble (o : List (Bytes × JVal)) (sigs : JVal) (uns : Option JVal) :
    body (assemble (body o) sigs uns) = body o := by
  cases uns <;> simp only [assemble, body_append, body_body, body_sig, body_uns, List.append_nil]

theorem getLast_assemble_sig (b : List (Bytes × JVal)) (sigs : JVal) (uns : Option JVal) :
    getLast (assemble b sigs uns) kSignatures = some sigs := by
  have h1 : (kUnsigned == kSignatures) = false := by decide
  cases uns <;> simp [assemble, getLast_append, getLast, h1]

theorem getLast_assemble_uns (o : List (Bytes × JVal)) (sigs : JVal) (uns : Option JVal) :
    getLast (assemble (body o) sigs uns) kUnsigned = uns := by
  have h1 : (kSignatures == kUnsigned) = false := by decide
  have h2 := getLast_none_of_no_key (body o) kUnsigned (body_no_uns o)
  cases uns <;> simp [assemble, getLast_append, getLast, h1, h2]

/-! ### decoding a map

`decodeNames dv` is `decodeEntries (decodeInner dv)`, so the facts are stated for `decodeEntries` only. -/

theorem decodeNames_eq (dv : JVal → Option α) : ∀ (l : List (Bytes × JVal)) (acc : SigMapG α),
    decodeNames dv l acc = decodeEntries (decodeInner dv) l acc
  | [], _ => rfl
  | (n, v) :: rest, acc => by
    simp only [decodeNames, decodeEntries]
    cases decodeInner dv v with
    | none => rfl
    | some i => exact decodeNames_eq dv rest _

/-- Entries with distinct keys, none of them in `acc`, whose values all decode: every one is appended. -/
theorem decodeEntries_append {β : Type} (dv : JVal → Option α) (f : β → JVal) (g : β → α) :
    ∀ (es : List (Bytes × β)) (acc : List (Bytes × α)), (∀ e ∈ es, dv (f e.2) = some (g e.2)) →
    UniqueKeys es → (∀ e ∈ es, ∀ a ∈ acc, a.1 ≠ e.1) →
    decodeEntries dv (es.map fun e => (e.1, f e.2)) acc = some (acc ++ es.map fun e => (e.1, g e.2))
  | [], acc, _, _, _ => by simp [decodeEntries]
  | (k, b) :: rest, acc, hdv, hu, hd => by
    have hfresh : ∀ a ∈ acc, a.1 ≠ k := fun a ha => hd (k, b) List.mem_cons_self a ha
    simp only [List.map_cons, decodeEntries, hdv (k, b) List.mem_cons_self, mapSet_of_fresh acc k _ hfresh]
    rw [decodeEntries_append dv f g rest _ (fun e he => hdv e (List.mem_cons_of_mem _ he)) (List.Pairwise.tail hu)]
    · simp
    · intro e he a ha
      rcases List.mem_append.mp ha with ha | ha
      · exact hd e (List.mem_cons_of_mem _ he) a ha
      · exact List.mem_singleton.mp ha ▸ List.rel_of_pairwise_cons hu he

/-- what holds of `acc` and is kept by every assignment of a decoded value holds of the result -/
theorem decodeEntries_invariant (dv : JVal → Option α) (P : List (Bytes × α) → Prop)
    (hP : ∀ acc k v x, P acc → dv v = some x → P (mapSet acc k x)) :
    ∀ (es : List (Bytes × JVal)) (acc r : List (Bytes × α)), P acc → decodeEntries dv es acc = some r → P r
  | [], acc, r, ha, h => Option.some.inj h ▸ ha
  | (k, v) :: rest, acc, r, ha, h => by
    simp only [decodeEntries] at h
    cases hv : dv v with
    | none => simp [hv] at h
    | some x => exact decodeEntries_invariant dv P hP rest _ r (hP acc k v x ha hv) (by simpa only [hv] using h)

/-! ### signature maps: what was marshalled decodes to itself, and the decoder only builds well-formed maps -/

def InnerUnique (i : Inner Bytes) : Prop := ∀ es, i = some es → UniqueKeys es

/-- a signature map as the decoder builds it: unique names, unique key IDs under every name -/
def WF (m : SigMap) : Prop := UniqueKeys m ∧ ∀ e ∈ m, InnerUnique e.2

theorem wf_nil : WF [] := ⟨Pairwise.nil, fun _ h => by cases h⟩

/-! A marshalled map decodes entry by entry, for any reader `dv` of signature values that reads what `b64Encode` wrote as
`g`: `decodeSigVal` with `g = id`, the raw reader of ListKeyIDs with `g = .str ∘ b64Encode`. -/

theorem decodeInner_innerToJVal (dv : JVal → Option α) (g : Bytes → α) (hg : ∀ b, dv (.str (b64Encode b)) = some (g b))
    (i : Inner Bytes) (h : InnerUnique i) :
    decodeInner dv (innerToJVal i) = some (i.map (List.map fun e => (e.1, g e.2))) := by
  cases i with
  | none => rfl
  | some es =>
    have := decodeEntries_append dv (fun b => .str (b64Encode b)) g es []
      (fun e _ => hg e.2) (h es rfl) (fun _ _ a ha => by cases ha)
    simp only [decodeInner, innerToJVal, this]
    rfl

theorem decodeOuterInto_sigMapToJVal (dv : JVal → Option α) (g : Bytes → α) (hg : ∀ b, dv (.str (b64Encode b)) = some (g b))
    (m : SigMap) (h : WF m) :
    decodeOuterInto dv none (sigMapToJVal m) =
      some (some (m.map fun e => (e.1, e.2.map (List.map fun e => (e.1, g e.2))))) := by
  have := decodeEntries_append (decodeInner dv) innerToJVal (Option.map (List.map fun e => (e.1, g e.2))) m []
    (fun e he => decodeInner_innerToJVal dv g hg e.2 (h.2 e he)) h.1 (fun _ _ a ha => by cases ha)
  simp only [decodeOuterInto, sigMapToJVal, decodeNames_eq, Option.getD_none, this]
  rfl

/-- **What VerifyJSON reads back is the map SignJSON marshalled.** -/
theorem decode_sigMapToJVal (m : SigMap) (h : WF m) :
    decodeOuterInto decodeSigVal none (sigMapToJVal m) = some (some m) := by
  rw [decodeOuterInto_sigMapToJVal decodeSigVal id b64Decode_encode m h]
  simp

theorem decodeInner_ok (v : JVal) (i : Inner Bytes) (h : decodeInner decodeSigVal v = some i) : InnerUnique i := by
  rintro es rfl
  cases v with
  | obj kvs =>
    obtain ⟨r, hr, he⟩ := Option.map_eq_some_iff.mp h
    cases he
    exact decodeEntries_invariant _ UniqueKeys (fun acc k _ x h _ => uniqueKeys_mapSet acc k x h) kvs [] _ Pairwise.nil hr
  | _ => simp [decodeInner] at h

theorem wf_mapSet (m : SigMap) (n : Bytes) (i : Inner Bytes) (hw : WF m) (hi : InnerUnique i) : WF (mapSet m n i) := by
  refine ⟨uniqueKeys_mapSet m n i hw.1, fun e he => ?_⟩
  rcases mem_mapSet he with he | rfl
  · exact hw.2 e he
  · exact hi

theorem decodeOuterInto_wf (base : Option SigMap) (v : JVal) (m : SigMap)
    (hb : ∀ b, base = some b → WF b) (h : decodeOuterInto decodeSigVal base v = some (some m)) : WF m := by
  cases v with
  | obj ms =>
    obtain ⟨r, hr, he⟩ := Option.map_eq_some_iff.mp h
    cases he
    have hw : WF (base.getD []) := by
      cases base with
      | none => exact wf_nil
      | some b => exact hb b rfl
    rw [decodeNames_eq] at hr
    exact decodeEntries_invariant _ WF (fun acc n v i h hv => wf_mapSet acc n i h (decodeInner_ok v i hv)) ms _ _ hw hr
  | _ => simp [decodeOuterInto] at h

/-! ### the raw entries `ListKeyIDs` reads (its statement about signed objects is a part of `sign_effect`) -/

def entryToJ (e : Bytes × Bytes) : Bytes × JVal := (e.1, JVal.str (b64Encode e.2))
def rawEntry (e : Bytes × Bytes) : Bytes × JVal := entryToJ e

end V.Sign
