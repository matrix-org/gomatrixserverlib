/-
  A redaction depends — after the restriction to exact field names — only on the last member under each
  field's exact name (`redactWith_congr`): editing, adding or removing members with other keys (e.g.
  `unsigned`, or a case variant of a field name) does not change it (`redactWith_setFirst`, `redactWith_deleteFirst`);
  two events that differ only under the name of an omittable raw field have redactions that differ at most there
  (`redactWith_agree`).
-/
import VProofs.RedactExact
import VModel.EventParse
namespace V.RedactProofs
open V V.Json V.GoJson V.Redact

theorem redactWith_congr (a : Algo) (kvs kvs' : Obj)
    (h : ∀ f ∈ a.fields, lookupExact kvs f.name = lookupExact kvs' f.name) :
    redactWith a (.obj kvs) = redactWith a (.obj kvs') := by
  rw [redactWith_obj, redactWith_obj, exactFields_eq_pick, pick_congr h]
  rfl

theorem filter_pick (p : Bytes → Bool) (fs : List Field) (E : Field → Option JVal) :
    (pick fs E).filter (fun kv => p kv.1) = pick (fs.filter fun f => p f.name) E := by
  induction fs with
  | nil => rfl
  | cons f rest ih =>
    simp only [pick, List.filterMap_cons, List.filter_cons] at ih ⊢
    cases hE : E f <;> cases hp : p f.name <;> simp [hp, hE, ih]

/-- Two events that hold the same under every name but that of an omittable raw field `g` (`signatures`): one can be
    redacted iff the other can, and the redactions differ at most in the member under `g`'s name. -/
theorem redactWith_agree {a : Algo} (hT : tablesOk a = true) {g : Field} (hg : g ∈ a.fields) (hgk : g.kind = .raw)
    (hgo : g.omitempty = true) {kvs kvs' : Obj} (hl : ∀ n, n ≠ g.name → lookupExact kvs' n = lookupExact kvs n)
    {v : JVal} (h : redactWith a (.obj kvs) = .ok v) :
    ∃ r r', v = .obj r ∧ redactWith a (.obj kvs') = .ok (.obj r') ∧
      ∀ p : Bytes → Bool, p g.name = false → r'.filter (fun kv => p kv.1) = r.filter (fun kv => p kv.1) := by
  have hd := (tablesOk_parts hT).1
  obtain ⟨tf, cf, ty, c, R, hv⟩ := (redactWith_iff hd kvs v).mp h
  have hne : ∀ f ∈ a.fields, f ≠ g → f.name ≠ g.name := fun f hf hne he => hne (foldDistinct_inj hd hf hg (by rw [he]))
  refine ⟨_, _, hv, (redactWith_iff hd kvs' _).mpr ⟨tf, cf, ty, c, R.agree hgk hgo fun f hf hfg => hl _ (hne f hf hfg), rfl⟩,
    fun p hp => ?_⟩
  simp only [written, filter_pick]
  refine pick_congr fun f hf => ?_
  rw [hl f.name fun e => by simp [e, hp] at hf]

/-! ## edits of a member that a filter does not select -/

theorem filter_setFirst_other (p : Bytes × JVal → Bool) (k : Bytes) (v : JVal) (hp : ∀ x : JVal, p (k, x) = false) :
    ∀ kvs : Obj, (EventParse.setFirst k v kvs).filter p = kvs.filter p
  | [] => by simp [EventParse.setFirst, hp]
  | (k0, x) :: rest => by
    unfold EventParse.setFirst
    by_cases hk : k0 = k
    · simp [hk, hp]
    · simp [hk, List.filter_cons, filter_setFirst_other p k v hp rest]

theorem filter_deleteFirst_other (p : Bytes × JVal → Bool) (k : Bytes) (hp : ∀ x : JVal, p (k, x) = false) :
    ∀ kvs : Obj, (EventParse.deleteFirst k kvs).filter p = kvs.filter p
  | [] => rfl
  | (k0, x) :: rest => by
    unfold EventParse.deleteFirst
    by_cases hk : k0 = k
    · simp [hk, hp]
    · simp [hk, List.filter_cons, filter_deleteFirst_other p k hp rest]

theorem sel_deleteFirst_other (n k : Bytes) (kvs : Obj) (h : matchesField k n = false) :
    sel n (EventParse.deleteFirst k kvs) = sel n kvs :=
  filter_deleteFirst_other _ k (fun _ => h) kvs

theorem lookupExact_setFirst_other {n k : Bytes} (v : JVal) (kvs : Obj) (h : k ≠ n) :
    lookupExact (EventParse.setFirst k v kvs) n = lookupExact kvs n := by
  rw [lookupExact_eq, lookupExact_eq, lastSome_filter, lastSome_filter,
    filter_setFirst_other _ k v (fun x => by simp [h]) kvs]

theorem lookupExact_deleteFirst_other {n k : Bytes} (kvs : Obj) (h : k ≠ n) :
    lookupExact (EventParse.deleteFirst k kvs) n = lookupExact kvs n := by
  rw [lookupExact_eq, lookupExact_eq, lastSome_filter, lastSome_filter,
    filter_deleteFirst_other _ k (fun x => by simp [h]) kvs]

/-- a key that is not the exact name of a field of the keep struct -/
def unlisted (a : Algo) (k : Bytes) : Bool := a.fields.all (fun f => !(f.name == k))

theorem unlisted_ne {a : Algo} {k : Bytes} (h : unlisted a k = true) {f : Field} (hf : f ∈ a.fields) : k ≠ f.name := by
  rintro rfl
  simpa using List.all_eq_true.mp h f hf

theorem redactWith_setFirst (a : Algo) (k : Bytes) (v : JVal) (kvs : Obj) (h : unlisted a k = true) :
    redactWith a (.obj (EventParse.setFirst k v kvs)) = redactWith a (.obj kvs) :=
  redactWith_congr _ _ _ fun _ hf => lookupExact_setFirst_other v kvs (unlisted_ne h hf)

theorem redactWith_deleteFirst (a : Algo) (k : Bytes) (kvs : Obj) (h : unlisted a k = true) :
    redactWith a (.obj (EventParse.deleteFirst k kvs)) = redactWith a (.obj kvs) :=
  redactWith_congr _ _ _ fun _ hf => lookupExact_deleteFirst_other kvs (unlisted_ne h hf)

end V.RedactProofs
