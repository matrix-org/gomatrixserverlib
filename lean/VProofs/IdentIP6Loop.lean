/- Helper lemmas (C17), IPv6: the parse loop of netip.parseIPv6 (as modelled) against the specification, in either mode, before or after the ellipsis (one induction on the remaining 16-bit slots). -/
import VProofs.IdentIP6
namespace V.Ident

/-! ### the specification on a text that begins with an h16 group -/

theorem not_mem_of_isH16 {f : BS} (h16 : Spec.isH16 f = true) {c : UInt8} (hc : isHexB c = false) : c ∉ f :=
  Lists.not_mem_of_all ((isH16_iff f).mp h16).2.2 hc

theorem isH16_no_colon {f : BS} (h16 : Spec.isH16 f = true) : (0x3A : UInt8) ∉ f :=
  not_mem_of_isH16 h16 (by decide)

theorem units_h16 {f : BS} (h16 : Spec.isH16 f = true) (v : Bool) : Spec.units f v = some 1 := by
  have hne : f ≠ [] := by rintro rfl; exact absurd h16 (by decide)
  rw [units_single (isH16_no_colon h16) hne, h16]; rfl

theorem units_h16_cons {f : BS} (h16 : Spec.isH16 f = true) (t : BS) (v : Bool) :
    Spec.units (f ++ 0x3A :: t) v = if t.isEmpty then none else (Spec.units t v).map (· + 1) := by
  rw [units_cons t (isH16_no_colon h16), h16]; rfl

theorem units_colon (t : BS) (v : Bool) : Spec.units (0x3A :: t) v = none :=
  units_cons (f := []) t (by simp) v

theorem units_zero {s : BS} {v : Bool} (h : Spec.units s v = some 0) : s = [] := by
  by_cases hs : s = []
  · exact hs
  · exfalso
    obtain ⟨f0, rest', h1, h2, h3⟩ := first_field 0x3A s
    rcases h3 with rfl | ⟨t, rfl⟩
    · simp only [List.append_nil] at h1; subst h1
      rw [units_single h2 hs] at h
      split at h
      · cases h
      · split at h <;> cases h
    · subst h1
      rw [units_cons t h2] at h
      split at h
      · cases h
      · split at h
        · cases h
        · cases hq : Spec.units t v with
          | none => simp [hq] at h
          | some u => simp [hq] at h

theorem fits_zero (e : Bool) {s : BS} (hne : s ≠ []) : fits e 0 s = false := by
  cases e
  · unfold fits fitsNoEll
    cases Spec.cutEllipsis s with
    | none =>
      cases hu : Spec.units s true with
      | none => rfl
      | some u =>
        cases u with
        | zero => exact absurd (units_zero hu) hne
        | succ _ => simp
    | some p => cases Spec.units p.1 false <;> cases Spec.units p.2 true <;> simp
  · unfold fits fitsEll
    cases Spec.units s true <;> simp

/-- before the ellipsis the group must be the last unit of the budget (`k = 0`); after it a unit must be left over for the
    ellipsis (`0 < k`) -/
theorem fits_last (e : Bool) {f : BS} (h16 : Spec.isH16 f = true) (k : Nat) : fits e (k + 1) f = (e == decide (0 < k)) := by
  cases e
  · rw [fits, cond_false, fitsNoEll, cutEllipsis_nocolon (isH16_no_colon h16), units_h16 h16]
    cases k <;> simp
  · rw [fits, cond_true, fitsEll, units_h16 h16]; simp

theorem fits_cons (e : Bool) {f : BS} (h16 : Spec.isH16 f = true) (k : Nat) {t : BS} (ht : t.head? ≠ some 0x3A) :
    fits e (k + 1) (f ++ 0x3A :: t) = (!t.isEmpty && fits e k t) := by
  cases e
  · unfold fits fitsNoEll
    rw [cutEllipsis_skip t (isH16_no_colon h16) ht, units_h16_cons h16]
    cases hc : Spec.cutEllipsis t with
    | none =>
      cases t.isEmpty
      · cases Spec.units t true <;> simp
      · simp
    | some p =>
      obtain ⟨l, r⟩ := p
      have hs := cutEllipsis_decomp hc
      -- `t` does not begin with "::", so something stands before the ellipsis
      have hl : l.isEmpty = false := by
        cases l with
        | nil => subst hs; exact absurd rfl ht
        | cons _ _ => rfl
      have ht' : t.isEmpty = false := by
        subst hs; cases l with
        | nil => cases hl
        | cons _ _ => rfl
      simp only [Option.map_some, units_h16_cons h16, hl, ht', cond_false]
      cases Spec.units l false <;> cases Spec.units r true <;> simp
      omega
  · unfold fits fitsEll
    rw [units_h16_cons h16]
    cases t.isEmpty
    · cases Spec.units t true <;> simp
    · rfl

theorem fits_ellipsis (e : Bool) {f : BS} (h16 : Spec.isH16 f = true) (k : Nat) (r : BS) :
    fits e (k + 1) (f ++ 0x3A :: 0x3A :: r) = (!e && fitsEll k r) := by
  cases e
  · unfold fits fitsNoEll fitsEll
    rw [cutEllipsis_here r (isH16_no_colon h16)]
    simp only [units_h16 h16, Option.any_some, cond_false]
    cases Spec.units r true <;> simp
    omega
  · rw [fits, cond_true, fitsEll, units_h16_cons h16, units_colon]; rfl

theorem fits_quad (e : Bool) {s : BS} (hns : (0x3A : UInt8) ∉ s) (hne : s ≠ []) (hn16 : Spec.isH16 s = false) (k : Nat) :
    fits e k s = (Spec.isIPv4 s && bif e then decide (2 < k) else decide (k = 2)) := by
  cases e
  · rw [fits, cond_false, fitsNoEll, cutEllipsis_nocolon hns, units_single hns hne, hn16]
    cases Spec.isIPv4 s
    · rfl
    · by_cases h : k = 2
      · subst h; rfl
      · simp [h]; exact fun e => h e.symm
  · rw [fits, cond_true, fitsEll, units_single hns hne, hn16]
    cases Spec.isIPv4 s <;> simp

/-- The first group of a text: an h16 group that ends the text or is followed by a colon; or the text has no colon
    and a dot follows its first hex digits (only a dotted quad can be meant); or the code refuses, and the first
    ':'-field of the text is neither an h16 group nor, being the whole text, a dotted quad. -/
theorem v6Loop_first_group (k : Nat) {s : BS} (ip : List UInt8) (ell : Option Nat) :
    (∃ h r, s = h ++ r ∧ Spec.isH16 h = true ∧ (r = [] ∨ ∃ t, r = 0x3A :: t) ∧
        v6Loop (k + 1) s ip ell = afterGroup k (ip ++ twoBytes (hexAcc h)) ell r) ∨
    ((0x3A : UInt8) ∉ s ∧ Spec.isH16 s = false ∧
        v6Loop (k + 1) s ip ell =
          if ell.isNone && ip.length != 12 then none
          else if ip.length + 4 > 16 then none
          else match parseIPv4 s with
            | none => none
            | some f => some (ip ++ f, ell, [])) ∨
    (v6Loop (k + 1) s ip ell = none ∧ ∃ f0 rest', s = f0 ++ rest' ∧ (0x3A : UInt8) ∉ f0 ∧
        (rest' = [] ∨ ∃ t, rest' = 0x3A :: t) ∧ Spec.isH16 f0 = false ∧ (rest' = [] → Spec.isIPv4 f0 = false)) := by
  obtain ⟨hs, hh⟩ := takeHex_spec s
  rw [v6Loop_succ]
  generalize hth : takeHex s = hr at hs hh ⊢
  obtain ⟨h, r⟩ := hr
  simp only
  by_cases g1 : (1 ≤ h.length ∧ h.length ≤ 4) ∧ (r = [] ∨ ∃ t, r = 0x3A :: t)
  · left
    obtain ⟨⟨h1, h4⟩, hr'⟩ := g1
    refine ⟨h, r, hs, (isH16_iff h).mpr ⟨h1, h4, hh⟩, hr', ?_⟩
    have hd : (r.head? == some 0x2E) = false := by rcases hr' with rfl | ⟨t, rfl⟩ <;> rfl
    simp [show ¬ h.length > 4 by omega, show ¬ h.length = 0 by omega, hd]
  · by_cases g2 : (1 ≤ h.length ∧ h.length ≤ 4) ∧ (∃ t, r = 0x2E :: t) ∧ (0x3A : UInt8) ∉ s
    · right; left
      obtain ⟨⟨h1, h4⟩, ⟨t, rfl⟩, hns⟩ := g2
      refine ⟨hns, ?_, by simp only [show ¬ h.length > 4 by omega, show ¬ h.length = 0 by omega, if_false, List.head?_cons, beq_self_eq_true, if_true]; rfl⟩
      exact Bool.eq_false_iff.mpr fun hv => not_mem_of_isH16 hv (c := 0x2E) (by decide) (by rw [hs]; simp)
    · right; right
      obtain ⟨f0, rest', h1, h2, h3⟩ := first_field 0x3A s
      refine ⟨?_, f0, rest', h1, h2, h3, Bool.eq_false_iff.mpr fun hf => g1 ?_,
        fun e => Bool.eq_false_iff.mpr fun hf => g2 ?_⟩
      · by_cases h4 : h.length > 4
        · simp [h4]
        · by_cases h0 : h.length = 0
          · simp [h0]
          · have hl : 1 ≤ h.length ∧ h.length ≤ 4 := by omega
            simp only [h4, h0, if_false]
            cases r with
            | nil => exact absurd ⟨hl, Or.inl rfl⟩ g1
            | cons c t =>
              by_cases hdot : c = 0x2E
              · subst hdot
                have hcol : (0x3A : UInt8) ∈ s := Classical.byContradiction fun hn => g2 ⟨hl, ⟨t, rfl⟩, hn⟩
                simp only [List.head?_cons, beq_self_eq_true, if_true, parseIPv4_none_of_colon hcol]
                split
                · rfl
                · split <;> rfl
              · have hcc : c ≠ 0x3A := fun e => g1 ⟨hl, Or.inr ⟨t, e ▸ rfl⟩⟩
                simp [afterGroup, hdot, hcc]
      · -- an h16 first field is what the scanner finds
        have := takeHex_of_isH16 hf h3
        rw [← h1, hth] at this
        cases this
        obtain ⟨a, b, -⟩ := (isH16_iff _).mp hf
        exact ⟨⟨a, b⟩, h3⟩
      · subst e
        rw [List.append_nil] at h1; subst h1
        obtain ⟨o, t, ho, a, b, hc⟩ := takeHex_of_isIPv4 hf
        rw [hth] at ho; cases ho
        exact ⟨⟨a, by omega⟩, ⟨t, rfl⟩, hc⟩

/-- the loop with `k` slots left accepts the rest of the text iff it fits the budget, in either mode -/
theorem v6Loop_accepts : ∀ (k : Nat) (s : BS) (ip : List UInt8) (ell : Option Nat),
    s ≠ [] → (ell = none → ∀ t, s ≠ 0x3A :: 0x3A :: t) → ip.length + 2 * k = 16 →
    accepts (v6Loop k s ip ell) = fits ell.isSome k s
  | 0, s, ip, ell, hne, _, _ => by
    have : s.isEmpty = false := by simpa using hne
    rw [fits_zero _ hne]
    simp [v6Loop, accepts, this]
  | k + 1, s, ip, ell, hne, hnot, hlen => by
    rcases v6Loop_first_group k (s := s) ip ell with ⟨h, r, rfl, h16, hr, hcode⟩ | ⟨hns, hn16, hcode⟩ |
      ⟨hcode, f0, rest', h1, h2, h3, h4, h5⟩
    · rw [hcode]
      have hlen' : (ip ++ twoBytes (hexAcc h)).length + 2 * k = 16 := by simp [twoBytes]; omega
      generalize ip ++ twoBytes (hexAcc h) = ip' at hlen' ⊢
      rcases hr with rfl | ⟨t, rfl⟩
      · -- the group ends the text: all slots must be used, unless an ellipsis was seen
        rw [List.append_nil, fits_last _ h16]
        have : ip'.length < 16 ↔ 0 < k := by omega
        cases ell <;> simp [afterGroup, accepts, this]
      · cases t with
        | nil => rw [fits_cons _ h16 k (by simp)]; rfl
        | cons c2 rest2 =>
          by_cases hc2 : c2 = 0x3A
          · -- the ellipsis: refused if it is the second, else the mode changes
            subst hc2
            rw [fits_ellipsis _ h16]
            cases ell with
            | some e => rfl
            | none =>
              cases rest2 with
              | nil =>
                simp [afterGroup, accepts, fitsEll, Spec.units]
                omega
              | cons c3 rest3 => exact v6Loop_accepts k _ ip' (some ip'.length) (by simp) nofun hlen'
          · rw [fits_cons _ h16 k (by simpa using hc2)]
            have ih := v6Loop_accepts k (c2 :: rest2) ip' ell (by simp) (fun _ t e => hc2 (List.cons.inj e).1) hlen'
            simp [afterGroup, hc2, ih]
    · -- embedded IPv4 tail: it takes two slots
      rw [hcode, fits_quad _ hns hne hn16, ← parseIPv4_isSome_eq]
      cases hp : parseIPv4 s with
      | none => cases ell <;> simp [accepts]
      | some f =>
        have hf := (parseIPv4_some hp).2
        cases ell with
        | none => by_cases h12 : ip.length = 12 <;> simp [accepts, h12, hf] <;> omega
        | some e =>
          by_cases hbig : ip.length + 4 > 16 <;> by_cases hlt : ip.length + 4 < 16 <;> simp [accepts, hbig, hlt, hf] <;> omega
    · rw [hcode, fits_bad _ h1 h2 h3 hne (fun he => hnot (by simpa using he)) h4 h5]; rfl

end V.Ident
