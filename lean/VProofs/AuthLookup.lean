/-
  The auth verdict of the model depends on the auth-event provider ONLY through its lookups
  (`Provider.get t k`) and, for `allowedFresh`, the `Valid()` gate (`Provider.roomIDs`); the lookups do not
  depend on the order of events with distinct (type, state_key).
-/
import VProofs.AuthNeeded
import VProofs.Lists
namespace V.Auth
open List

def Ctx.withProv (a : Ctx) (q : Provider) : Ctx := { a with provider := q }

def MembershipAllower.withProv (m : MembershipAllower) (q : Provider) : MembershipAllower :=
  { m with ctx := m.ctx.withProv q }

/-! ### the checks that do not read the provider

(`AuthNeeded.onto` is this move with the join rule overwritten as well; its lemmas take these facts as `rfl` steps) -/

theorem userPowerLevel_withProv (a : Ctx) (q : Provider) (u : Bytes) :
    (a.withProv q).userPowerLevel u = a.userPowerLevel u := rfl

theorem commonChecks_withProv (a : Ctx) (q : Provider) (m : MemberContent) (e : Event) :
    (a.withProv q).commonChecks m e = a.commonChecks m e := rfl

theorem checkPowerLevelEvent_withProv (a : Ctx) (q : Provider) (e : Event) (o n : PowerLevels) :
    (a.withProv q).checkPowerLevelEvent e o n = a.checkPowerLevelEvent e o n := rfl

theorem allowedOther_withProv (m : MembershipAllower) (q : Provider) :
    (m.withProv q).allowedOther = m.allowedOther := rfl

/-- providers that answer every lookup alike and have the same `Valid()` bit give equal verdicts: the check of the
    fresh context (how state resolution calls the checker) … -/
theorem allowedFreshNoValid_gets_congr (e : Event) (p q : Provider) (sig : Bool) (h : ∀ t k, p.get t k = q.get t k)
    (hv : p.valid = q.valid) : allowedFreshNoValid e p sig = allowedFreshNoValid e q sig := by
  rw [AuthRules.allowedFreshNoValid_freshOf, AuthRules.allowedFreshNoValid_freshOf, ← C09.freshOf_congr p q (h _ _) (h _ _) (h _ _)]
  cases hp : C09.freshOf p with
  | error v => rfl
  | ok c =>
    obtain rfl := (AuthRules.freshOf_ok hp).1
    exact congrArg AuthRules.verdictOf
      (AuthNeeded.allowed_onto c q (c.jrEvent, c.joinRule) e sig hv.symm (fun t k => (h t k).symm) rfl).symm

/-- … and the standalone `Allowed` -/
theorem allowedFresh_gets_congr (e : Event) (p q : Provider) (sig : Bool) (h : ∀ t k, p.get t k = q.get t k)
    (hv : p.valid = q.valid) : allowedFresh e p sig = allowedFresh e q sig := by
  rw [AuthRules.allowedFresh_eq, AuthRules.allowedFresh_eq, hv, allowedFreshNoValid_gets_congr e p q sig h hv]

/-- lookups in a provider whose events have pairwise distinct (type, state_key) do not depend on the order of the events -/
theorem Provider.get_perm {evs evs' : List Event} (hp : evs ~ evs')
    (hk : evs.Pairwise (fun a b => ¬ (a.type = b.type ∧ a.stateKey = b.stateKey))) (r : List Bytes) (i j : Nat) (t k : Bytes) :
    ({ events := evs, roomIDs := r, ident := i } : Provider).get t k = ({ events := evs', roomIDs := r, ident := j } : Provider).get t k := by
  unfold Provider.get
  apply Lists.find?_perm_of_pairwise _ hp
  refine hk.imp ?_
  intro a b hab hc
  simp only [Bool.and_eq_true, beq_iff_eq] at hc
  exact hab ⟨hc.1.1.trans hc.2.1.symm, hc.1.2.trans hc.2.2.symm⟩

end V.Auth
