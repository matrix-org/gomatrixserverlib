/-
  C10: `splitConflictedUnconflicted` computes the conflicted / unconflicted events as DEFINED over the
  state maps (`Conflicted`, `Unconflicted`; for version 1 the refinement R2).  What the split returns in terms of
  the distinct state events and the size of their slots is `mem_split_conflicted` / `mem_split_unconflicted` of
  `VProofs.StateResSplit`; here that is read against the definition.
-/
import VModel.StateResSpec
import VProofs.StateResSplit
namespace V.StateResSpec
open V.StateRes

abbrev Group := Key × List Event

theorem keyOf_none {e : Event} (h : e.stateKey = none) : keyOf e = none := by unfold keyOf; rw [h]; rfl
theorem keyOf_some {e : Event} {k : Bytes} (h : e.stateKey = some k) : keyOf e = some (e.type, k) := by
  unfold keyOf; rw [h]; rfl

theorem isSome_stateKey_iff {e : Event} : e.stateKey.isSome = true ↔ keyOf e ≠ none := by
  unfold keyOf; cases e.stateKey <;> simp

-- `keyOf` is the definition's (`Option Key`); the model's `V.StateRes.keyOf` reads a missing state key as `[]`.
-- The next two lemmas join them.
theorem hasKey_iff_keyOf_eq_some {k : Key} {x : Event} : hasKey k x = true ↔ keyOf x = some k := by
  rw [hasKey_iff]
  cases hs : x.stateKey with
  | none => rw [keyOf_none hs]; simp
  | some sk =>
    rw [keyOf_some hs, Option.some.injEq, Option.some.injEq]
    exact ⟨fun h => Prod.ext h.2 h.1, fun h => h ▸ ⟨rfl, rfl⟩⟩

theorem modelKey_of_keyOf {e : Event} {k : Key} (h : keyOf e = some k) : V.StateRes.keyOf e = k := by
  cases hs : e.stateKey with
  | none => rw [keyOf_none hs] at h; cases h
  | some sk => rw [keyOf_some hs] at h; rw [V.StateRes.keyOf_some hs]; exact Option.some.inj h

theorem filter_hasKey (evs : List Event) (k : Key) : evs.filter (hasKey k) = candidates evs k :=
  List.filter_congr fun x _ => by
    rw [Bool.eq_iff_iff, hasKey_iff_keyOf_eq_some, decide_eq_true_iff]

theorem mem_group_iff {evs : List Event} {e : Event} :
    (∃ g ∈ groupByKey evs, e ∈ g.2) ↔ e ∈ evs ∧ keyOf e ≠ none := by
  rw [← isSome_stateKey_iff]
  constructor
  · rintro ⟨g, hg, he⟩
    obtain ⟨h1, h2, _⟩ := (groupByKey_mem hg).mp he
    exact ⟨h1, h2⟩
  · rintro ⟨he, hk⟩
    obtain ⟨g, hg, _, heg⟩ := groupByKey_cover he hk
    exact ⟨g, hg, heg⟩

theorem mem_distinctStateEvents_iff {sets : List (List Event)} (hids : IDsIdentify (· ∈ sets.flatten)) {e : Event} :
    e ∈ distinctStateEvents sets ↔ InSomeSet sets e ∧ keyOf e ≠ none := by
  unfold distinctStateEvents InSomeSet
  rw [List.mem_filter, (eventMap_sameSet (l := sets.flatten) hids) e, List.mem_flatten, isSome_stateKey_iff]

theorem distinctStateEvents_nodup (sets : List (List Event)) : (distinctStateEvents sets).Nodup :=
  ((eventMap_idNodup sets.flatten).filter _).nodup

theorem alone_in_slot_iff {sets : List (List Event)} (hids : IDsIdentify (· ∈ sets.flatten)) {e : Event} {k : Key}
    (he : InSomeSet sets e) (hk : keyOf e = some k) :
    ((distinctStateEvents sets).filter (hasKey (V.StateRes.keyOf e))).length = 1 ↔
      ∀ S ∈ sets, ∀ x, MapsTo S k x → x = e := by
  have hne : ∀ {x : Event}, keyOf x = some k → keyOf x ≠ none := fun h => by rw [h]; exact Option.some_ne_none k
  rw [modelKey_of_keyOf hk, Lists.length_filter_eq_one_iff (distinctStateEvents_nodup sets)
    ((mem_distinctStateEvents_iff hids).mpr ⟨he, hne hk⟩) (hasKey_iff_keyOf_eq_some.mpr hk)]
  simp only [hasKey_iff_keyOf_eq_some]
  exact ⟨fun h S hS x hm => h x ((mem_distinctStateEvents_iff hids).mpr ⟨⟨S, hS, hm.1⟩, hne hm.2⟩) hm.2,
    fun h x hx hxk => let ⟨⟨S, hS, hxS⟩, _⟩ := (mem_distinctStateEvents_iff hids).mp hx; h S hS x ⟨hxS, hxk⟩⟩

theorem countID_cons (S : List Event) (sets : List (List Event)) (id : ID) :
    countID (S :: sets) id = (S.filter (fun e => e.eventID == id)).length + countID sets id := by
  rw [countID_eq, countID_eq, List.flatten_cons, List.filter_append, List.length_append]

theorem count_in_set {U : Event → Prop} (hU : IDsIdentify U) {S : List Event} (hS : ∀ x ∈ S, U x) (hn : S.Nodup)
    {e : Event} (he : U e) :
    (e ∈ S → (S.filter (fun x => x.eventID == e.eventID)).length = 1) ∧
    (e ∉ S → (S.filter (fun x => x.eventID == e.eventID)).length = 0) := by
  have hall : ∀ x ∈ S, (x.eventID == e.eventID) = true → x = e :=
    fun x hx h => hU x e (hS x hx) he (eq_of_beq h)
  constructor
  · intro hmem
    exact (Lists.length_filter_eq_one_iff (p := fun x => x.eventID == e.eventID) hn hmem (beq_self_eq_true _)).mpr hall
  · intro hmem
    rw [List.length_eq_zero_iff, List.filter_eq_nil_iff]
    intro x hx h
    exact hmem (hall x hx h ▸ hx)

theorem countID_le_and_eq {U : Event → Prop} (hU : IDsIdentify U) {e : Event} (he : U e) :
    ∀ (sets : List (List Event)), (∀ S ∈ sets, ∀ x ∈ S, U x) → (∀ S ∈ sets, S.Nodup) →
      countID sets e.eventID ≤ sets.length ∧ (countID sets e.eventID = sets.length ↔ ∀ S ∈ sets, e ∈ S)
  | [], _, _ => by simp [countID]
  | S :: rest, hS, hn => by
    have ih := countID_le_and_eq hU he rest (fun S' h => hS S' (List.mem_cons_of_mem _ h))
      (fun S' h => hn S' (List.mem_cons_of_mem _ h))
    have hc := count_in_set hU (hS S (by simp)) (hn S (by simp)) he
    rw [countID_cons]
    simp only [List.length_cons, List.mem_cons, forall_eq_or_imp]
    by_cases hmem : e ∈ S
    · rw [hc.1 hmem]
      simp only [hmem, true_and]
      constructor
      · omega
      · rw [← ih.2]; omega
    · rw [hc.2 hmem]
      simp only [hmem, false_and, iff_false]
      constructor
      · omega
      · omega

/-! On the definition's side: unconflicted (v2) = unconflicted in the version-1 reading and present in every state set;
    `ConflictedV1` is the complement of `UnconflictedV1`, as `Conflicted` is of `Unconflicted` by definition. -/

theorem unconflicted_iff_v1 {sets : List (List Event)} {e : Event} :
    Unconflicted sets e ↔ UnconflictedV1 sets e ∧ ∀ S ∈ sets, e ∈ S := by
  constructor
  · rintro ⟨⟨S0, hS0, he0⟩, k, hu⟩
    exact ⟨⟨⟨S0, hS0, he0⟩, k, ((hu S0 hS0 e).mpr rfl).2, fun S hS x => (hu S hS x).mp⟩,
      fun S hS => ((hu S hS e).mpr rfl).1⟩
  · rintro ⟨⟨he, k, hk, hall⟩, hin⟩
    exact ⟨he, k, fun S hS x => ⟨hall S hS x, fun h => h ▸ ⟨hin S hS, hk⟩⟩⟩

theorem conflictedV1_iff {sets : List (List Event)} {e : Event} :
    ConflictedV1 sets e ↔ InSomeSet sets e ∧ keyOf e ≠ none ∧ ¬ UnconflictedV1 sets e := by
  constructor
  · rintro ⟨h1, k, h2, S, hS, x, hm, hne⟩
    refine ⟨h1, by rw [h2]; exact Option.some_ne_none k, ?_⟩
    rintro ⟨_, k', hk', hall⟩
    exact hne (hall S hS x (Option.some.inj (hk'.symm.trans h2) ▸ hm))
  · rintro ⟨h1, h2, hn⟩
    obtain ⟨k, hk⟩ := Option.ne_none_iff_exists'.mp h2
    refine ⟨h1, k, hk, Classical.byContradiction fun hno => hn ⟨h1, k, hk, fun S hS x hm => ?_⟩⟩
    exact Classical.byContradiction fun hne => hno ⟨S, hS, x, hm, hne⟩

theorem mem_split_unconflicted_iff (v1 : Bool) {sets : List (List Event)} (hids : IDsIdentify (· ∈ sets.flatten)) (e : Event) :
    e ∈ (splitConflictedUnconflicted v1 sets).2 ↔
      UnconflictedV1 sets e ∧ (v1 = true ∨ countID sets e.eventID = sets.length) := by
  rw [mem_split_unconflicted, mem_distinctStateEvents_iff hids]
  constructor
  · rintro ⟨⟨h1, h2⟩, hl, hc⟩
    obtain ⟨k, hk⟩ := Option.ne_none_iff_exists'.mp h2
    refine ⟨⟨h1, k, hk, (alone_in_slot_iff hids h1 hk).mp hl⟩, ?_⟩
    cases v1
    · exact Or.inr (hc rfl)
    · exact Or.inl rfl
  · rintro ⟨⟨h1, k, hk, hn⟩, hc⟩
    exact ⟨⟨h1, by rw [hk]; exact Option.some_ne_none k⟩, (alone_in_slot_iff hids h1 hk).mpr hn,
      fun hv => hc.resolve_left (by rw [hv]; exact Bool.noConfusion)⟩

theorem mem_split_conflicted_iff (v1 : Bool) (sets : List (List Event)) (e : Event) :
    e ∈ (splitConflictedUnconflicted v1 sets).1 ↔
      e ∈ distinctStateEvents sets ∧ e ∉ (splitConflictedUnconflicted v1 sets).2 :=
  ⟨fun h => ⟨((mem_split_conflicted v1 sets e).mp h).1, split_disjoint v1 sets h⟩,
   fun h => (split_cover v1 sets h.1).resolve_right h.2⟩

theorem split_eq_spec (sets : List (List Event)) (hids : IDsIdentify (· ∈ sets.flatten)) (hnd : ∀ S ∈ sets, S.Nodup) :
    (∀ e, e ∈ (splitConflictedUnconflicted false sets).1 ↔ Conflicted sets e) ∧
    (∀ e, e ∈ (splitConflictedUnconflicted false sets).2 ↔ Unconflicted sets e) := by
  have hu : ∀ e, e ∈ (splitConflictedUnconflicted false sets).2 ↔ Unconflicted sets e := fun e => by
    rw [mem_split_unconflicted_iff false hids e, unconflicted_iff_v1]
    refine and_congr_right fun ⟨⟨S, hS, he⟩, _⟩ => (or_iff_right Bool.noConfusion).trans ?_
    exact (countID_le_and_eq hids (List.mem_flatten.mpr ⟨S, hS, he⟩) sets
      (fun S' hS' x hx => List.mem_flatten.mpr ⟨S', hS', hx⟩) hnd).2
  refine ⟨fun e => ?_, hu⟩
  rw [mem_split_conflicted_iff, mem_distinctStateEvents_iff hids, hu, and_assoc]
  rfl

theorem split_v1_eq_spec (sets : List (List Event)) (hids : IDsIdentify (· ∈ sets.flatten)) :
    (∀ e, e ∈ (splitConflictedUnconflicted true sets).1 ↔ ConflictedV1 sets e) ∧
    (∀ e, e ∈ (splitConflictedUnconflicted true sets).2 ↔ UnconflictedV1 sets e) := by
  have hu : ∀ e, e ∈ (splitConflictedUnconflicted true sets).2 ↔ UnconflictedV1 sets e := fun e => by
    rw [mem_split_unconflicted_iff true hids e]
    exact and_iff_left (Or.inl rfl)
  refine ⟨fun e => ?_, hu⟩
  rw [mem_split_conflicted_iff, mem_distinctStateEvents_iff hids, hu, conflictedV1_iff, and_assoc]

/-! ## `groupByKey` lists the definition's conflicted keys, each with its candidates -/

theorem groupStep_keys (acc : List Group) (e : Event) :
    (groupStep acc e).map (·.1) =
      match keyOf e with
      | none => acc.map (·.1)
      | some k => if (acc.map (·.1)).contains k then acc.map (·.1) else acc.map (·.1) ++ [k] := by
  cases hk : e.stateKey with
  | none => rw [groupStep_none hk, keyOf_none hk]
  | some sk =>
    rw [keyOf_some hk, ← V.StateRes.keyOf_some hk, groupStep_some hk]
    simp only [List.contains_iff_mem]
    exact Assoc.keys_upsert _ _ _ _

theorem groupKeys_foldl (es : List Event) (acc : List Group) :
    (es.foldl groupStep acc).map (·.1) =
      acc.map (·.1) ++ ((es.filterMap keyOf).filter (fun k => !(acc.map (·.1)).contains k)).eraseDups := by
  rw [← Lists.foldl_insertNew, List.foldl_filterMap]
  refine (List.foldl_hom (List.map (fun g : Group => g.1)) (g₁ := groupStep) ?_).symm
  intro acc e
  rw [groupStep_keys]; cases keyOf e <;> rfl

theorem groupKeys_eq (evs : List Event) : (groupByKey evs).map (·.1) = conflictedKeys evs := by
  rw [groupByKey_eq, groupKeys_foldl]
  unfold conflictedKeys
  simp only [List.map_nil, List.contains_nil, Bool.not_false, List.nil_append]
  rw [List.filter_eq_self.mpr (fun _ _ => rfl)]

theorem groups_eq (evs : List Event) : groupByKey evs = (conflictedKeys evs).map (fun k => (k, candidates evs k)) := by
  rw [← groupKeys_eq, List.map_map]
  conv => lhs; rw [← List.map_id (groupByKey evs)]
  refine List.map_congr_left fun g hg => ?_
  show g = (g.1, candidates evs g.1)
  rw [← filter_hasKey, ← (groupByKey_group hg).1]

theorem candidates_ne_nil {evs : List Event} {k : Key} (hk : k ∈ conflictedKeys evs) : candidates evs k ≠ [] := by
  rw [← groupKeys_eq] at hk
  obtain ⟨g, hg, rfl⟩ := List.mem_map.mp hk
  rw [← filter_hasKey, ← (groupByKey_group hg).1]
  exact (groupByKey_group hg).2

end V.StateResSpec
