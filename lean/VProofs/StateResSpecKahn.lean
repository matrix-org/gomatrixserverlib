/-
  C10, Kahn's algorithm (`kahn` / `kahnLoop` of VModel.StateRes):
  named pieces of the model (`dedupNodes`, `bump`, `initDeg`, `kahnNodes`; each equal to the anonymous piece of the
  model by `rfl`, and to the pieces `kNodes`, `kBump`, `kahnInDeg` of `VProofs.StateResKahnSim`, whose facts about
  tables, child counts and dedup are used here), the in-degree table seen as a function (`keysOf`, `degVal`),
  `childCount`, and `initDeg_spec` (the table `kahn` builds holds the exact child counts).
-/
import VModel.StateResSpec
import VProofs.StateResBasic
import VProofs.StateResSpecOrder
import VProofs.StateResKahnTopo
namespace V.StateRes
open List

variable {κ : Type}

def dedupStepN (acc : List (KNode κ)) (n : KNode κ) : List (KNode κ) :=
  if acc.any (fun m => m.ev.eventID == n.ev.eventID) then acc else acc ++ [n]

def dedupNodes (nodes0 : List (KNode κ)) : List (KNode κ) := nodes0.foldl dedupStepN []

def bump (deg : List (ID × Nat)) (id : ID) (by_ : Nat) : List (ID × Nat) :=
  if (deg.find? (fun d => d.1 == id)).isSome then deg.map (fun d => if d.1 == id then (d.1, d.2 + by_) else d)
  else deg ++ [(id, by_)]

def initDegStep (parents : Event → List ID) (deg : List (ID × Nat)) (n : KNode κ) : List (ID × Nat) :=
  (parents n.ev).foldl (fun d pid => bump d pid 1) (bump deg n.ev.eventID 0)

def initDeg (parents : Event → List ID) (nodes : List (KNode κ)) : List (ID × Nat) :=
  nodes.foldl (initDegStep parents) []

/-- table lookup as the model writes it -/
def degOf (D : List (ID × Nat)) (id : ID) : Option Nat := (D.find? (fun d => d.1 == id)).map (·.2)

def kahnNodes (lt : κ → κ → Bool) (parents : Event → List ID) (nodes0 : List (KNode κ)) : List (KNode κ) :=
  let nodes := dedupNodes nodes0
  let inDeg := initDeg parents nodes
  let zero := nodes.filter (fun n => degOf inDeg n.ev.eventID == some 0)
  let remaining := nodes.filter (fun n => !(degOf inDeg n.ev.eventID == some 0))
  let r := kahnLoop lt parents (nodes.length + 1) remaining inDeg (sortBy (fun a b => lt a.key b.key) zero) []
  sortBy (fun a b => lt a.key b.key) r.1 ++ r.2

theorem kahn_eq_map (lt : κ → κ → Bool) (parents : Event → List ID) (nodes0 : List (KNode κ)) :
    kahn lt parents nodes0 = (kahnNodes lt parents nodes0).map (·.ev) := rfl

theorem kahnLoop_zero (lt : κ → κ → Bool) (parents : Event → List ID) (R : List (KNode κ)) (D N G) :
    kahnLoop lt parents 0 R D N G = (R, G) := rfl

theorem kahnLoop_nil (lt : κ → κ → Bool) (parents : Event → List ID) (fuel : Nat) (R : List (KNode κ)) (D G) :
    kahnLoop lt parents fuel R D [] G = (R, G) := by
  cases fuel <;> rfl

/-- one iteration, for a ready list written with its last element (the one popped) apart; `kDecStep` is the
    inner-fold step of `VProofs.StateResKahnSim` -/
theorem kahnLoop_snoc (lt : κ → κ → Bool) (parents : Event → List ID) (fuel : Nat) (R : List (KNode κ)) (D) (noInc) (node) (G) :
    kahnLoop lt parents (fuel + 1) R D (noInc ++ [node]) G =
      kahnLoop lt parents fuel ((parents node.ev).foldl kDecStep (D, R, noInc)).2.1
        ((parents node.ev).foldl kDecStep (D, R, noInc)).1
        (sortBy (fun a b => lt a.key b.key) ((parents node.ev).foldl kDecStep (D, R, noInc)).2.2) (node :: G) := by
  rw [kahnLoop_succ]
  simp only [List.reverse_append, List.reverse_cons, List.reverse_nil, List.nil_append, List.singleton_append,
    List.reverse_reverse]

def keysOf (D : List (ID × Nat)) : List ID := D.map (·.1)

def degVal (D : List (ID × Nat)) (id : ID) : Nat := (degOf D id).getD 0

theorem degOf_nil (id : ID) : degOf [] id = none := rfl

/-- `degOf` is `Assoc.lookup` and `keysOf` is `Assoc.keys`, by definition -/
theorem degOf_isSome {D : List (ID × Nat)} {id : ID} : (degOf D id).isSome ↔ id ∈ keysOf D := Assoc.isSome_lookup

theorem degOf_eq_some {D : List (ID × Nat)} {id : ID} {v : Nat} :
    degOf D id = some v ↔ id ∈ keysOf D ∧ degVal D id = v := by
  rw [← degOf_isSome]; unfold degVal
  cases degOf D id <;> simp

theorem degOf_eq_none {D : List (ID × Nat)} {id : ID} : degOf D id = none ↔ id ∉ keysOf D := Assoc.lookup_eq_none

theorem degOf_eq_ite (D : List (ID × Nat)) (id : ID) :
    degOf D id = if id ∈ keysOf D then some (degVal D id) else none := by
  split
  · rename_i h; exact degOf_eq_some.mpr ⟨h, rfl⟩
  · rename_i h; exact degOf_eq_none.mpr h

theorem degVal_of_not_key {D : List (ID × Nat)} {id : ID} (h : id ∉ keysOf D) : degVal D id = 0 := by
  unfold degVal; rw [degOf_eq_none.mpr h]; rfl

/-- number of occurrences (with multiplicity) of `id` among the parents of the nodes of `l` -/
def childCount (parents : Event → List ID) : List (KNode κ) → ID → Nat
  | [], _ => 0
  | n :: ns, id => (parents n.ev).count id + childCount parents ns id

theorem childCount_nil (parents : Event → List ID) (id : ID) : childCount parents ([] : List (KNode κ)) id = 0 := rfl

theorem childCount_cons (parents : Event → List ID) (n : KNode κ) (ns : List (KNode κ)) (id : ID) :
    childCount parents (n :: ns) id = (parents n.ev).count id + childCount parents ns id := rfl

theorem childCount_eq_sum (parents : Event → List ID) (l : List (KNode κ)) (id : ID) :
    childCount parents l id = (l.map (fun n => (parents n.ev).count id)).sum := by
  induction l with
  | nil => rfl
  | cons n ns ih => rw [childCount_cons, ih, List.map_cons, List.sum_cons]

/-- `childCount` is `cnt` of `VProofs.StateResKahnTopo` -/
theorem childCount_eq_cnt (parents : Event → List ID) (l : List (KNode κ)) (id : ID) :
    childCount parents l id = cnt parents id l := by
  induction l with
  | nil => rfl
  | cons n ns ih => rw [childCount_cons, cnt_cons, ih]

theorem mem_keysOf_initDeg (parents : Event → List ID) (nodes : List (KNode κ)) (id : ID) :
    id ∈ keysOf (initDeg parents nodes) ↔ (∃ n ∈ nodes, n.ev.eventID = id) ∨ (∃ n ∈ nodes, id ∈ parents n.ev) := by
  have hk : id ∈ keysOf (initDeg parents nodes) ↔ id ∈ (kahnOps parents nodes).map (·.1) := by
    rw [← degOf_isSome]
    show (kDegOf (kahnInDeg parents nodes) id).isSome ↔ _
    rw [kDegOf_kahnInDeg_eq]
    split <;> simp [*]
  rw [hk, mem_kahnOps_keys]
  constructor
  · rintro ⟨n, hn, rfl | h⟩
    · exact Or.inl ⟨n, hn, rfl⟩
    · exact Or.inr ⟨n, hn, h⟩
  · rintro (⟨n, hn, rfl⟩ | ⟨n, hn, h⟩)
    · exact ⟨n, hn, Or.inl rfl⟩
    · exact ⟨n, hn, Or.inr h⟩

theorem degVal_initDeg (parents : Event → List ID) (nodes : List (KNode κ)) (id : ID) :
    degVal (initDeg parents nodes) id = childCount parents nodes id := by
  rw [childCount_eq_cnt]; exact getD_kDegOf_kahnInDeg parents nodes id

theorem initDeg_spec (parents : Event → List ID) (nodes : List (KNode κ)) (id : ID) :
    ((initDeg parents nodes).find? (fun d => d.1 == id)).map (·.2) =
      if (∃ n ∈ nodes, n.ev.eventID = id) ∨ (∃ n ∈ nodes, id ∈ parents n.ev) then some (childCount parents nodes id)
      else none := by
  have := degOf_eq_ite (initDeg parents nodes) id
  unfold degOf at this
  rw [this, degVal_initDeg]
  by_cases h : id ∈ keysOf (initDeg parents nodes)
  · rw [if_pos h, if_pos ((mem_keysOf_initDeg parents nodes id).mp h)]
  · rw [if_neg h, if_neg (fun h' => h ((mem_keysOf_initDeg parents nodes id).mpr h'))]

def NodeIdNodup (l : List (KNode κ)) : Prop := (l.map (fun n => n.ev.eventID)).Nodup

/-- `dedupNodes` is `kNodes` of `VProofs.StateResKahnSim` -/
theorem mem_dedupNodes {l : List (KNode κ)} {n : KNode κ} (h : n ∈ dedupNodes l) : n ∈ l := mem_kNodes h

theorem mem_dedupNodes_iff {l : List (KNode κ)}
    (hid : ∀ n ∈ l, ∀ n' ∈ l, n.ev.eventID = n'.ev.eventID → n = n') {n : KNode κ} : n ∈ dedupNodes l ↔ n ∈ l :=
  ⟨mem_dedupNodes, mem_kNodes_of_mem (U := (· ∈ l)) (fun a b ha hb => hid a ha b hb) (fun _ h => h)⟩

end V.StateRes
