/-
  C10: the breadth-first closures of the model (`authClosure`, `controlClosure`) compute reachability
  by ≥ 1 auth step inside the supplied map.  Acyclicity is NOT needed: the fuel bound is a pigeonhole on the
  IDs of the map not yet seen.
-/
import VModel.StateResSpec
import VProofs.StateResClosure
namespace V.StateResSpec
open V.StateRes

theorem lookup_eq_findByID (m : List Event) (id : ID) : lookup m id = findByID m id := rfl

theorem idsIdentify_iff_evId (U : Event → Prop) : IDsIdentify U ↔ EvId U := Iff.rfl

theorem edge_of_authParents {m : List Event} {x y : Event} (h : y ∈ authParents m x) : AuthEdge (· ∈ m) x y := by
  unfold authParents at h
  obtain ⟨id, hid, hf⟩ := List.mem_filterMap.mp h
  obtain ⟨hy, he⟩ := findByID_some hf
  exact ⟨hy, he ▸ hid⟩

theorem authParents_of_edge {m : List Event} (hm : IdNodup m) {x y : Event} (h : AuthEdge (· ∈ m) x y) :
    y ∈ authParents m x := by
  unfold authParents
  exact List.mem_filterMap.mpr ⟨y.eventID, h.2, findByID_of_mem hm.idsIn h.1⟩

theorem mem_authParents_iff {m : List Event} (hm : IdNodup m) {x y : Event} :
    y ∈ authParents m x ↔ AuthEdge (· ∈ m) x y := ⟨edge_of_authParents, authParents_of_edge hm⟩

theorem mem_authEventsOf_iff {m : List Event} (hm : IdNodup m) {x y : Event} :
    y ∈ authEventsOf m x ↔ AuthEdge (· ∈ m) x y := mem_authParents_iff hm

theorem ReachPlus.trans {P : Event → Prop} {x y z : Event} (h1 : ReachPlus P x y) (h2 : ReachPlus P y z) : ReachPlus P x z := by
  induction h1 with
  | edge e => exact .step e h2
  | step e _ ih => exact .step e (ih h2)

theorem ReachPlus.tail {P : Event → Prop} {x y z : Event} (h1 : ReachPlus P x y) (e : AuthEdge P y z) : ReachPlus P x z :=
  h1.trans (.edge e)

theorem ReachPlus.target {P : Event → Prop} {x y : Event} (h : ReachPlus P x y) : P y := by
  induction h with
  | edge e => exact e.1
  | step _ _ ih => exact ih

theorem ReachPlus.mono {P Q : Event → Prop} (hPQ : ∀ x, P x → Q x) {x y : Event} (h : ReachPlus P x y) : ReachPlus Q x y := by
  induction h with
  | edge e => exact .edge ⟨hPQ _ e.1, e.2⟩
  | step e _ ih => exact .step ⟨hPQ _ e.1, e.2⟩ ih

theorem ReachPlus.congr_source {P : Event → Prop} {x x' y : Event} (hx : x.authEventIDs = x'.authEventIDs)
    (h : ReachPlus P x y) : ReachPlus P x' y := by
  cases h with
  | edge e => exact .edge ⟨e.1, hx ▸ e.2⟩
  | step e r => exact .step ⟨e.1, hx ▸ e.2⟩ r

theorem ReachPlus.congr {P Q : Event → Prop} (h : ∀ x, P x ↔ Q x) {x y : Event} : ReachPlus P x y ↔ ReachPlus Q x y :=
  ⟨ReachPlus.mono (fun x => (h x).mp), ReachPlus.mono (fun x => (h x).mpr)⟩

theorem Reach.congr {P Q : Event → Prop} (h : ∀ x, P x ↔ Q x) {x y : Event} : Reach P x y ↔ Reach Q x y := by
  unfold Reach; rw [ReachPlus.congr h]

theorem Reach.source_or_mem {P : Event → Prop} {x y : Event} (h : Reach P x y) : y = x ∨ P y := by
  rcases h with h | h
  · exact Or.inl h.symm
  · exact Or.inr h.target

theorem Reach.snoc {P : Event → Prop} {x y z : Event} (h : Reach P x y) (e : AuthEdge P y z) :
    ReachPlus P x z := by
  rcases h with rfl | h
  · exact .edge e
  · exact h.tail e

theorem ConflictedSubgraph.congr {P C C' : Event → Prop} (h : ∀ x, C x ↔ C' x) {sets : List (List Event)} {x : Event} :
    ConflictedSubgraph P C sets x ↔ ConflictedSubgraph P C' sets x := by
  unfold ConflictedSubgraph
  simp only [h]

theorem ControlSet.congr {c c' f f' u u' : Event → Prop} (hc : ∀ x, c x ↔ c' x) (hf : ∀ x, f x ↔ f' x)
    (hu : ∀ x, u x ↔ u' x) {x : Event} : ControlSet c f u x ↔ ControlSet c' f' u' x := by
  unfold ControlSet ControlRoot
  simp only [hf, hu, Reach.congr hc]

theorem OtherSet.congr {c c' f f' u u' : Event → Prop} (hc : ∀ x, c x ↔ c' x) (hf : ∀ x, f x ↔ f' x)
    (hu : ∀ x, u x ↔ u' x) {x : Event} : OtherSet c f u x ↔ OtherSet c' f' u' x := by
  unfold OtherSet
  simp only [hf, hu, ControlSet.congr hc hf hu]

theorem FullConflicted.inU {U : Event → Prop} {algo : Nat} {m : List Event} {sets : List (List Event)}
    (hmU : ∀ x ∈ m, U x) (hSU : ∀ S ∈ sets, ∀ x ∈ S, U x) {x : Event} (h : FullConflicted algo (· ∈ m) sets x) : U x := by
  rcases h with h | h | ⟨_, h⟩
  · obtain ⟨⟨S, hS, hx⟩, _⟩ := h
    exact hSU S hS x hx
  · obtain ⟨⟨S, _, s, _, hr⟩, _⟩ := h
    exact hmU x hr.target
  · obtain ⟨S, hS, o, ho, _, hro, _⟩ := h
    rcases hro.source_or_mem with h' | h'
    · exact h' ▸ hSU S hS o ho
    · exact hmU x h'

/-! ## one round of the breadth-first search (`nextFresh`, `authClosure_succ` of `VProofs.StateResClosure`) -/

theorem authClosure_zero (m : List Event) (fr : List Event) (seen : List ID) : authClosure m 0 fr seen = seen := rfl

theorem mem_flatten_parents {m fr : List Event} {y : Event} :
    y ∈ (fr.map (authParents m)).flatten ↔ ∃ s ∈ fr, y ∈ authParents m s := by
  rw [← List.flatMap_def, List.mem_flatMap]

theorem mem_nextFresh_edge {m fr : List Event} {seen : List ID} {f : Event} (h : f ∈ nextFresh m fr seen) :
    f ∈ m ∧ f.eventID ∉ seen ∧ ∃ s ∈ fr, AuthEdge (· ∈ m) s f := by
  obtain ⟨h1, h2⟩ := mem_nextFresh.mp h
  obtain ⟨s, hs, hy⟩ := mem_flatten_parents.mp h1
  exact ⟨(edge_of_authParents hy).1, h2, s, hs, edge_of_authParents hy⟩

theorem parent_seen_or_fresh {m : List Event} (hm : IdNodup m) {fr : List Event} {seen : List ID} {s y : Event}
    (hs : s ∈ fr) (he : AuthEdge (· ∈ m) s y) : y.eventID ∈ seen ∨ y ∈ nextFresh m fr seen := by
  by_cases hseen : y.eventID ∈ seen
  · exact Or.inl hseen
  · exact Or.inr (mem_nextFresh.mpr ⟨mem_flatten_parents.mpr ⟨s, hs, authParents_of_edge hm he⟩, hseen⟩)

/-! ## the closedness invariant (the pigeonhole measure is `unseenIn` of `VProofs.StateResBasic`) -/

/-- every seen event of the map is still to be expanded (it is in the frontier) or has all its parents seen -/
def Closed (m : List Event) (fr : List Event) (seen : List ID) : Prop :=
  ∀ x ∈ m, x.eventID ∈ seen → x ∈ fr ∨ ∀ y, AuthEdge (· ∈ m) x y → y.eventID ∈ seen

theorem closed_nil (m fr : List Event) : Closed m fr [] := by
  intro x _ h; cases h

theorem closed_step {m : List Event} (hm : IdNodup m) {fr : List Event} {seen : List ID} (hc : Closed m fr seen) :
    Closed m (nextFresh m fr seen) (seen ++ (nextFresh m fr seen).map (·.eventID)) := by
  intro x hx hxs
  rcases List.mem_append.mp hxs with h | h
  · right
    intro y he
    rcases hc x hx h with hfr | hcl
    · rcases parent_seen_or_fresh hm (seen := seen) hfr he with h1 | h1
      · exact List.mem_append_left _ h1
      · exact List.mem_append_right _ (List.mem_map_of_mem h1)
    · exact List.mem_append_left _ (hcl y he)
  · left
    obtain ⟨f, hf, hid⟩ := List.mem_map.mp h
    have : f = x := hm.idsIn f x (mem_nextFresh_edge hf).1 hx hid
    exact this ▸ hf

/-- one round loses nothing -/
theorem advance {m : List Event} (hm : IdNodup m) {fr : List Event} {seen : List ID} (hc : Closed m fr seen)
    {x y : Event} (hr : ReachPlus (· ∈ m) x y) (hx : x ∈ fr ∨ (x ∈ m ∧ x.eventID ∈ seen)) :
    y.eventID ∈ seen ++ (nextFresh m fr seen).map (·.eventID) ∨ ∃ f ∈ nextFresh m fr seen, ReachPlus (· ∈ m) f y := by
  induction hr with
  | @edge x y e =>
    left
    have hfr : x ∈ fr → y.eventID ∈ seen ++ (nextFresh m fr seen).map (·.eventID) := by
      intro hfr
      rcases parent_seen_or_fresh hm (seen := seen) hfr e with h1 | h1
      · exact List.mem_append_left _ h1
      · exact List.mem_append_right _ (List.mem_map_of_mem h1)
    rcases hx with hx | ⟨hxm, hxs⟩
    · exact hfr hx
    · rcases hc x hxm hxs with h | h
      · exact hfr h
      · exact List.mem_append_left _ (h y e)
  | @step x y1 z e _ ih =>
    have hy1 : y1.eventID ∈ seen ∨ y1 ∈ nextFresh m fr seen := by
      rcases hx with hx | ⟨hxm, hxs⟩
      · exact parent_seen_or_fresh hm hx e
      · rcases hc x hxm hxs with h | h
        · exact parent_seen_or_fresh hm h e
        · exact Or.inl (h y1 e)
    rcases hy1 with h | h
    · exact ih (Or.inr ⟨e.1, h⟩)
    · exact Or.inr ⟨y1, h, by assumption⟩

/-- what the closure is to return from a state: the IDs seen, and those of everything reachable from the frontier -/
def Target (m fr : List Event) (seen : List ID) (id : ID) : Prop :=
  id ∈ seen ∨ ∃ s ∈ fr, ∃ y, y.eventID = id ∧ ReachPlus (· ∈ m) s y

/-- one round keeps the target: it adds only what is reachable (`→`) and loses nothing (`←`, `advance`) -/
theorem target_step {m : List Event} (hm : IdNodup m) {fr : List Event} {seen : List ID} (hc : Closed m fr seen) (id : ID) :
    Target m (nextFresh m fr seen) (seen ++ (nextFresh m fr seen).map (·.eventID)) id ↔ Target m fr seen id := by
  constructor
  · rintro (h | ⟨f, hf, y, hy, hr⟩)
    · rcases List.mem_append.mp h with h | h
      · exact Or.inl h
      · obtain ⟨f, hf, rfl⟩ := List.mem_map.mp h
        obtain ⟨_, _, s, hs, he⟩ := mem_nextFresh_edge hf
        exact Or.inr ⟨s, hs, f, rfl, .edge he⟩
    · obtain ⟨_, _, s, hs, he⟩ := mem_nextFresh_edge hf
      exact Or.inr ⟨s, hs, y, hy, .step he hr⟩
  · rintro (h | ⟨s, hs, y, hy, hr⟩)
    · exact Or.inl (List.mem_append_left _ h)
    · rcases advance hm hc hr (Or.inl hs) with h | ⟨f, hf, hr'⟩
      · exact Or.inl (hy ▸ h)
      · exact Or.inr ⟨f, hf, y, hy, hr'⟩

theorem mem_authClosure_iff {m : List Event} (hm : IdNodup m) : ∀ (fuel : Nat) (fr : List Event) (seen : List ID),
    unseenIn m seen < fuel → Closed m fr seen → ∀ id, id ∈ authClosure m fuel fr seen ↔ Target m fr seen id := by
  intro fuel
  induction fuel with
  | zero => intro fr seen h; omega
  | succ n ih =>
    intro fr seen hfuel hc id
    rw [authClosure_succ, ← target_step hm hc]
    cases hnf : nextFresh m fr seen with
    | nil => simp [Target]
    | cons f fs =>
      rw [← hnf]
      have hf : f ∈ nextFresh m fr seen := hnf ▸ List.mem_cons_self
      have hne : (nextFresh m fr seen).isEmpty = false := by rw [hnf]; rfl
      rw [hne]
      refine ih _ _ ?_ (closed_step hm hc) id
      exact Nat.lt_of_lt_of_le (unseenIn_lt (fun x hx => List.mem_append_left _ hx) (mem_nextFresh_edge hf).1
        (mem_nextFresh_edge hf).2.1 (List.mem_append_right _ (List.mem_map_of_mem hf))) (Nat.le_of_lt_succ hfuel)

theorem authClosure_iff_reachable {m : List Event} (hm : IdNodup m) (start : List Event) {fuel : Nat}
    (hfuel : m.length + 1 ≤ fuel) (id : ID) :
    id ∈ authClosure m fuel start [] ↔ ∃ s ∈ start, ∃ y, y.eventID = id ∧ ReachPlus (· ∈ m) s y := by
  rw [mem_authClosure_iff hm _ _ _ (by rw [unseenIn_nil]; omega) (closed_nil m start)]
  simp [Target]

theorem mem_fullAuthChain_iff {m : List Event} (hm : IdNodup m) (S : List Event) (id : ID) :
    id ∈ fullAuthChain m S ↔ ∃ y, y.eventID = id ∧ InAuthChain (· ∈ m) S y := by
  unfold fullAuthChain InAuthChain
  rw [authClosure_iff_reachable hm S (Nat.le_refl _)]
  constructor
  · rintro ⟨s, hs, y, hy, hr⟩; exact ⟨y, hy, s, hs, hr⟩
  · rintro ⟨y, hy, s, hs, hr⟩; exact ⟨s, hs, y, hy, hr⟩

theorem mem_reachFrom_iff {m : List Event} (hm : IdNodup m) (e : Event) (id : ID) :
    id ∈ reachFrom m e ↔ ∃ y, y.eventID = id ∧ Reach (· ∈ m) e y := by
  unfold reachFrom
  rw [mem_insertID, authClosure_iff_reachable hm [e] (Nat.le_refl _)]
  unfold Reach
  constructor
  · rintro (⟨s, hs, y, hy, hr⟩ | h)
    · simp at hs; subst hs; exact ⟨y, hy, Or.inr hr⟩
    · exact ⟨e, h.symm, Or.inl rfl⟩
  · rintro ⟨y, hy, (h | h)⟩
    · right; rw [← hy, h]
    · left; exact ⟨e, by simp, y, hy, h⟩

/-- `h0`: a map event carrying the ID of a root is that root (IDs identify events). -/
theorem controlClosure_iff {cm : List Event} (hm : IdNodup cm) (roots : List Event) (rootIDs : List ID) {fuel : Nat}
    (hfuel : cm.length + 1 ≤ fuel) (h0 : ∀ x ∈ cm, x.eventID ∈ rootIDs → x ∈ roots) (id : ID) :
    id ∈ controlClosure cm fuel roots rootIDs ↔
      id ∈ rootIDs ∨ ∃ r ∈ roots, ∃ y, y.eventID = id ∧ ReachPlus (· ∈ cm) r y := by
  rw [V.StateRes.controlClosure_eq_authClosure]
  refine mem_authClosure_iff hm _ _ _ ?_ (fun x hx hs => Or.inl (h0 x hx hs)) id
  have := unseenIn_le_length cm rootIDs
  omega

end V.StateResSpec
