/-
  The insertion sort `sortBy` of VModel.StateRes, for a comparator that is a strict total order on a key:
  permutation, sortedness, uniqueness of the result (so the result does not depend on the order the
  elements were given in, nor on the sorting algorithm the Go code uses), and the three comparators of the
  library (`powerLt`, `otherLt`, `v1Lt`) are strict total orders on their keys.
-/
import VModel.StateRes
import VProofs.Sort
namespace V.StateRes
open Json List

section generic
variable {α : Type}

theorem isInsSort (r : α → α → Bool) : IsInsSort r (insertBy r) (sortBy r) :=
  ⟨fun _ => rfl, fun _ _ _ => rfl, rfl, fun _ _ => rfl⟩

theorem sortBy_perm (r : α → α → Bool) : ∀ l : List α, sortBy r l ~ l := (isInsSort r).perm

theorem mem_sortBy (r : α → α → Bool) {l : List α} {x : α} : x ∈ sortBy r l ↔ x ∈ l := (sortBy_perm r l).mem_iff

variable {κ : Type} {lt : κ → κ → Bool} (k : α → κ)

theorem sortBy_sorted (h : StrictTotal lt) : ∀ l : List α, SortedBy lt k (sortBy (fun a b => lt (k a) (k b)) l) :=
  (isInsSort _).sorted (k := k) (fun _ _ => rfl) h

theorem sortBy_unique (h : StrictTotal lt) {l₁ l₂ : List α} (hp : l₁ ~ l₂) (hk : KeyInj k l₁) :
    sortBy (fun a b => lt (k a) (k b)) l₁ = sortBy (fun a b => lt (k a) (k b)) l₂ :=
  (isInsSort _).unique (k := k) (fun _ _ => rfl) h hp hk

theorem StrictSortedBy.sorted (h : StrictTotal lt) {l : List α} (hs : StrictSortedBy lt k l) : SortedBy lt k l :=
  hs.imp (fun hab => h.asymm _ _ hab)

theorem sortBy_strict (h : StrictTotal lt) {l : List α} (hn : (l.map k).Nodup) :
    StrictSortedBy lt k (sortBy (fun a b => lt (k a) (k b)) l) :=
  (isInsSort _).strict (k := k) (fun _ _ => rfl) h hn

theorem sortBy_of_strict : ∀ {l : List α}, StrictSortedBy lt k l → sortBy (fun a b => lt (k a) (k b)) l = l :=
  (isInsSort _).of_strict (k := k) (fun _ _ => rfl)

end generic

/-! ## Sorting by a computed key: decorate, sort, undecorate (`sortV1`, `mainlineOrdering`) -/

section sortOn
variable {α κ : Type} (lt : κ → κ → Bool) (key : α → κ)

def sortOn (l : List α) : List α :=
  (sortBy (fun (a b : α × κ) => lt a.2 b.2) (l.map (fun e => (e, key e)))).map (·.1)

theorem sortOn_eq_sortBy (l : List α) : sortOn lt key l = sortBy (fun a b => lt (key a) (key b)) l := by
  unfold sortOn
  rw [(isInsSort _).map (isInsSort fun (a b : α × κ) => lt a.2 b.2) (fun e => (e, key e)) (fun _ _ => rfl), List.map_map]
  exact List.map_id _

theorem sortOn_perm (l : List α) : sortOn lt key l ~ l := sortOn_eq_sortBy lt key l ▸ sortBy_perm _ l

variable {lt}

theorem sortOn_unique (h : StrictTotal lt) {l l' : List α} (hp : l ~ l') (hk : KeyInj key l) :
    sortOn lt key l = sortOn lt key l' := by
  rw [sortOn_eq_sortBy, sortOn_eq_sortBy]
  exact sortBy_unique key h hp hk

theorem sortOn_sorted (h : StrictTotal lt) (l : List α) : SortedBy lt key (sortOn lt key l) :=
  sortOn_eq_sortBy lt key l ▸ sortBy_sorted key h l

end sortOn

/-! ## The comparators of the library are strict total orders

  Each compares one field after another and ends with `bytesLt`: a chain of `LexStep`s over a base order. -/

section lex
variable {κ β γ : Type}

/-- a strict linear order on the values of one field -/
structure StrictLinear (R : β → β → Prop) : Prop where
  irrefl : ∀ x, ¬ R x x
  trans : ∀ {x y z}, R x y → R y z → R x z
  tri : ∀ x y, R x y ∨ x = y ∨ R y x

theorem natLt_strictLinear : StrictLinear (fun x y : Nat => x < y) := ⟨Nat.lt_irrefl, Nat.lt_trans, Nat.lt_trichotomy⟩

theorem intLt_strictLinear : StrictLinear (fun x y : Int => x < y) := ⟨Int.lt_irrefl, Int.lt_trans, Int.lt_trichotomy⟩

theorem intGt_strictLinear : StrictLinear (fun x y : Int => x > y) :=
  ⟨Int.lt_irrefl, fun h1 h2 => Int.lt_trans h2 h1, fun x y => by
    rcases Int.lt_trichotomy x y with h | h | h
    · exact Or.inr (Or.inr h)
    · exact Or.inr (Or.inl h)
    · exact Or.inl h⟩

/-- `lt` compares the field `f` by `R` first and falls back on `lt'` when the fields are equal -/
def LexStep (R : β → β → Prop) [DecidableRel R] (f : κ → β) (lt lt' : κ → κ → Bool) : Prop :=
  ∀ a b, lt a b = if R (f a) (f b) then true else if R (f b) (f a) then false else lt' a b

theorem LexStep.iff {R : β → β → Prop} [DecidableRel R] (hR : StrictLinear R) {f : κ → β} {lt lt' : κ → κ → Bool}
    (h : LexStep R f lt lt') (a b : κ) : lt a b = true ↔ R (f a) (f b) ∨ (f a = f b ∧ lt' a b = true) := by
  rw [h a b]
  rcases hR.tri (f a) (f b) with hab | hab | hab
  · simp [hab]
  · simp [hab, hR.irrefl]
  · have hn : ¬ R (f a) (f b) := fun h' => hR.irrefl _ (hR.trans h' hab)
    have hne : f a ≠ f b := fun e => hR.irrefl _ (e ▸ hab)
    simp [hab, hn, hne]

/-- a strict total order up to the projection `g`: incomparable elements agree on `g` -/
structure StrictTotalOn (lt : κ → κ → Bool) (g : κ → γ) : Prop where
  irrefl : ∀ a, lt a a = false
  trans : ∀ a b c, lt a b = true → lt b c = true → lt a c = true
  total : ∀ a b, lt a b = false → lt b a = false → g a = g b

theorem StrictTotal.on {lt₀ : γ → γ → Bool} (h : StrictTotal lt₀) (g : κ → γ) :
    StrictTotalOn (fun a b => lt₀ (g a) (g b)) g :=
  ⟨fun _ => h.irrefl _, fun _ _ _ => h.trans _ _ _, fun _ _ => h.total _ _⟩

theorem StrictTotal.flip {lt₀ : γ → γ → Bool} (h : StrictTotal lt₀) : StrictTotal (fun a b => lt₀ b a) :=
  ⟨h.irrefl, fun _ _ _ h1 h2 => h.trans _ _ _ h2 h1, fun _ _ h1 h2 => h.total _ _ h2 h1⟩

theorem LexStep.strictTotalOn {R : β → β → Prop} [DecidableRel R] (hR : StrictLinear R) {f : κ → β} {g : κ → γ}
    {lt lt' : κ → κ → Bool} (h : LexStep R f lt lt') (h' : StrictTotalOn lt' g) :
    StrictTotalOn lt (fun a => (f a, g a)) where
  irrefl a := by
    cases hl : lt a a with
    | false => rfl
    | true =>
      rcases (h.iff hR a a).mp hl with hr | ⟨_, hr⟩
      · exact absurd hr (hR.irrefl _)
      · rw [h'.irrefl] at hr; cases hr
  trans a b c h1 h2 := by
    rw [h.iff hR] at *
    rcases h1 with h1 | ⟨e1, h1⟩ <;> rcases h2 with h2 | ⟨e2, h2⟩
    · exact Or.inl (hR.trans h1 h2)
    · exact Or.inl (e2 ▸ h1)
    · exact Or.inl (e1 ▸ h2)
    · exact Or.inr ⟨e1.trans e2, h'.trans _ _ _ h1 h2⟩
  total a b h1 h2 := by
    have n1 : ¬ _ := fun hh => by rw [(h.iff hR a b).mpr hh] at h1; cases h1
    have n2 : ¬ _ := fun hh => by rw [(h.iff hR b a).mpr hh] at h2; cases h2
    rcases hR.tri (f a) (f b) with hab | hab | hab
    · exact absurd (Or.inl hab) n1
    · refine Prod.ext hab (h'.total a b ?_ ?_)
      · cases hl : lt' a b with
        | false => rfl
        | true => exact absurd (Or.inr ⟨hab, hl⟩) n1
      · cases hl : lt' b a with
        | false => rfl
        | true => exact absurd (Or.inr ⟨hab.symm, hl⟩) n2
    · exact absurd (Or.inl hab) n2

end lex


/-- `powerLt` below the power level: earlier first, then smaller ID -/
def tsIdLt (a b : PowerKey) : Bool :=
  if a.ts < b.ts then true else if a.ts > b.ts then false else bytesLt a.id b.id

theorem powerLt_step : LexStep (fun x y : Int => x > y) PowerKey.power powerLt tsIdLt := fun _ _ => rfl

theorem tsIdLt_step : LexStep (fun x y : Nat => x < y) PowerKey.ts tsIdLt (fun a b => bytesLt a.id b.id) := fun _ _ => rfl

theorem powerLt_iff (a b : PowerKey) : powerLt a b = true ↔
    a.power > b.power ∨ (a.power = b.power ∧ (a.ts < b.ts ∨ (a.ts = b.ts ∧ bytesLt a.id b.id = true))) := by
  rw [powerLt_step.iff intGt_strictLinear, tsIdLt_step.iff natLt_strictLinear]

theorem powerLt_strictTotal : StrictTotal powerLt :=
  have h := powerLt_step.strictTotalOn intGt_strictLinear
    (tsIdLt_step.strictTotalOn natLt_strictLinear (bytesLt_strictTotal.on PowerKey.id))
  ⟨h.irrefl, h.trans, fun a b h1 h2 => by
    have e := h.total a b h1 h2
    cases a; cases b; simp only [Prod.mk.injEq] at e; simp only [PowerKey.mk.injEq]; exact e⟩

/-- `otherLt` below the mainline position -/
def stepsLt (a b : OtherKey) : Bool :=
  if a.steps < b.steps then true else if a.steps > b.steps then false
  else if a.ts < b.ts then true else if a.ts > b.ts then false
  else bytesLt a.id b.id

/-- `otherLt` below the number of steps -/
def otherTsLt (a b : OtherKey) : Bool :=
  if a.ts < b.ts then true else if a.ts > b.ts then false else bytesLt a.id b.id

theorem otherLt_step : LexStep (fun x y : Nat => x < y) OtherKey.pos otherLt stepsLt := fun _ _ => rfl

theorem stepsLt_step : LexStep (fun x y : Nat => x < y) OtherKey.steps stepsLt otherTsLt := fun _ _ => rfl

theorem otherTsLt_step : LexStep (fun x y : Nat => x < y) OtherKey.ts otherTsLt (fun a b => bytesLt a.id b.id) :=
  fun _ _ => rfl

theorem otherLt_iff (a b : OtherKey) : otherLt a b = true ↔
    a.pos < b.pos ∨ (a.pos = b.pos ∧ (a.steps < b.steps ∨ (a.steps = b.steps ∧
      (a.ts < b.ts ∨ (a.ts = b.ts ∧ bytesLt a.id b.id = true))))) := by
  rw [otherLt_step.iff natLt_strictLinear, stepsLt_step.iff natLt_strictLinear, otherTsLt_step.iff natLt_strictLinear]

theorem otherLt_strictTotal : StrictTotal otherLt :=
  have h := otherLt_step.strictTotalOn natLt_strictLinear (stepsLt_step.strictTotalOn natLt_strictLinear
    (otherTsLt_step.strictTotalOn natLt_strictLinear (bytesLt_strictTotal.on OtherKey.id)))
  ⟨h.irrefl, h.trans, fun a b h1 h2 => by
    have e := h.total a b h1 h2
    cases a; cases b; simp only [Prod.mk.injEq] at e; simp only [OtherKey.mk.injEq]; exact e⟩

/-- `v1Lt` tests the depths for equality first; as a comparison of the depths with a fallback it reads like the others -/
theorem v1Lt_step : LexStep (fun x y : Int => x < y) V1Key.depth v1Lt (fun a b => bytesLt b.sha1 a.sha1) := by
  intro a b
  unfold v1Lt
  by_cases d : a.depth = b.depth
  · simp [d]
  · have n : (a.depth == b.depth) = false := by simpa using d
    rw [n]
    by_cases l : a.depth < b.depth
    · simp [l]
    · have : b.depth < a.depth := by omega
      simp [l, this]

theorem v1Lt_iff (a b : V1Key) : v1Lt a b = true ↔
    a.depth < b.depth ∨ (a.depth = b.depth ∧ bytesLt b.sha1 a.sha1 = true) :=
  v1Lt_step.iff intLt_strictLinear a b

theorem v1Lt_strictTotal : StrictTotal v1Lt :=
  have h := v1Lt_step.strictTotalOn intLt_strictLinear (bytesLt_strictTotal.flip.on V1Key.sha1)
  ⟨h.irrefl, h.trans, fun a b h1 h2 => by
    have e := h.total a b h1 h2
    cases a; cases b; simp only [Prod.mk.injEq] at e; simp only [V1Key.mk.injEq]; exact e⟩

end V.StateRes
