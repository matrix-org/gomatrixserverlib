/-
  `Redact()` on an accepted, unredacted event reaches none of its four
  panic sites: the redaction succeeds (the constructor computed it already), its number literals pass
  the canonical-JSON check the input passed (redaction only keeps values of the input), and the
  struct decoding of the redacted JSON reports no error (every kept member is one of the members the
  struct decoding of the input accepted).  `Sign()` likewise.
-/
import VProofs.EventAccessors
import VProofs.RedactValues
import VProps.C03
import VProofs.SignMaps
namespace V.AccProofs
open V V.Json V.GoJson V.Redact V.EventParse V.RedactProofs V.EventProofs V.EventAccessors

theorem jNumbersOk_toJVals : (xs : List PVal) → jNumbersOkList (toJVals xs) = numbersOkList xs :=
  BuildProofs.jNumbersOk_toJVals

theorem jNumbersOk_toJMembers : (kvs : List (Bytes × Bytes × PVal)) → jNumbersOkMembers (toJMembers kvs) = numbersOkMembers kvs :=
  BuildProofs.jNumbersOk_toJMembers

/-! ## Struct decoding of the redacted JSON -/

theorem foldl_err {α : Type} (step : Dec α → JVal → Dec α) (bad : JVal → Bool)
    (hstep : ∀ acc v, (step acc v).err = (acc.err || bad v)) (vs : List JVal) (acc : Dec α) :
    (vs.foldl step acc).err = (acc.err || vs.any bad) := by
  induction vs generalizing acc with
  | nil => simp
  | cons v rest ih => simp only [List.foldl_cons, ih, hstep, List.any_cons, Bool.or_assoc]

/-- `ws` is at most one value, and that one is among `vs`: the redaction keeps, of the members the struct decoding
    read into a field, the last one under the EXACT name, or none -/
def Picked (vs ws : List JVal) : Prop := ∃ w : Option JVal, ws = w.toList ∧ ∀ v, w = some v → v ∈ vs

theorem picked_getLast (vs : List JVal) : Picked vs vs.getLast?.toList :=
  ⟨vs.getLast?, rfl, fun _ hv => List.mem_of_getLast? hv⟩

/-- decoding a picked member reports no error if decoding all of them, in order, did not -/
theorem err_pick {α : Type} (step : Dec α → JVal → Dec α) (bad : JVal → Bool)
    (hstep : ∀ acc v, (step acc v).err = (acc.err || bad v)) (init : Dec α) (hi : init.err = false) {vs ws : List JVal}
    (h : (vs.foldl step init).err = false) (hp : Picked vs ws) : (ws.foldl step init).err = false := by
  obtain ⟨w, rfl, hw⟩ := hp
  rw [foldl_err step bad hstep, hi, Bool.false_or] at h ⊢
  cases w with
  | none => rfl
  | some v => simp [(List.any_eq_false.mp h) v (hw v rfl)]

theorem seqString_pick {vs ws : List JVal} (h : (seqString vs).err = false) (hp : Picked vs ws) : (seqString ws).err = false := by
  unfold seqString at h ⊢
  exact err_pick _ (fun v => match v with | .str _ => false | .null => false | _ => true)
    (by intro acc v; cases v <;> simp) _ rfl h hp

theorem seqStringPtr_pick {vs ws : List JVal} (h : (seqStringPtr vs).err = false) (hp : Picked vs ws) :
    (seqStringPtr ws).err = false := by
  unfold seqStringPtr at h ⊢
  exact err_pick _ (fun v => match v with | .str _ => false | .null => false | _ => true)
    (by intro acc v; cases v <;> simp) _ rfl h hp

theorem seqInt64_pick {vs ws : List JVal} (h : (seqInt64 vs).err = false) (hp : Picked vs ws) : (seqInt64 ws).err = false := by
  unfold seqInt64 at h ⊢
  exact err_pick _ (fun v => match v with | .num lit => (parseInt64 lit).isNone | .null => false | _ => true)
    (by
      intro acc v
      cases v with
      | num lit => cases hp : parseInt64 lit <;> simp [hp]
      | _ => simp) _ rfl h hp

theorem seqUint64_pick {vs ws : List JVal} (h : (seqUint64 vs).err = false) (hp : Picked vs ws) : (seqUint64 ws).err = false := by
  unfold seqUint64 at h ⊢
  exact err_pick _ (fun v => match v with | .num lit => (parseUint64 lit).isNone | .null => false | _ => true)
    (by
      intro acc v
      cases v with
      | num lit => cases hp : parseUint64 lit <;> simp [hp]
      | _ => simp) _ rfl h hp

theorem seqString_last (vs : List JVal) (h : (seqString vs).err = false) : (seqString vs.getLast?.toList).err = false :=
  seqString_pick h (picked_getLast vs)

theorem seqStringPtr_last (vs : List JVal) (h : (seqStringPtr vs).err = false) : (seqStringPtr vs.getLast?.toList).err = false :=
  seqStringPtr_pick h (picked_getLast vs)

theorem seqInt64_last (vs : List JVal) (h : (seqInt64 vs).err = false) : (seqInt64 vs.getLast?.toList).err = false :=
  seqInt64_pick h (picked_getLast vs)

theorem seqUint64_last (vs : List JVal) (h : (seqUint64 vs).err = false) : (seqUint64 vs.getLast?.toList).err = false :=
  seqUint64_pick h (picked_getLast vs)

/-- the struct `Redact()` decodes into: eventV1 for eventV1, eventV2 for the two later structs -/
def redactFmt (fmt : Fmt) : Fmt := if fmt == .v1 then .v1 else .v2

theorem decSlice_redactFmt (fmt : Fmt) (vs : List JVal) : decSlice (redactFmt fmt) vs = decSlice fmt vs := by
  cases fmt
  · rfl
  · rfl
  · unfold decSlice
    split <;> rfl

theorem decSlice_pick (fmt : Fmt) {vs ws : List JVal} (he : (decSlice fmt vs).err = false) (hu : (decSlice fmt vs).unmodelled = false)
    (hp : Picked vs ws) : (decSlice (redactFmt fmt) ws).err = false := by
  obtain ⟨w, rfl, hw⟩ := hp
  rw [decSlice_redactFmt]
  cases w with
  | none => rfl
  | some v =>
    -- more than one member would have been reported as not modelled
    match vs, hw v rfl with
    | [x], hv =>
      rw [List.mem_singleton.mp hv]
      exact he
    | _ :: _ :: _, _ =>
      unfold decSlice at hu
      simp at hu

theorem decSlice_last (fmt : Fmt) (vs : List JVal) (he : (decSlice fmt vs).err = false) (hu : (decSlice fmt vs).unmodelled = false) :
    (decSlice (redactFmt fmt) vs.getLast?.toList).err = false :=
  decSlice_pick fmt he hu (picked_getLast vs)

theorem members_absent {a : Algo} (E : Field → Option JVal) (ty : Bytes) (c : Option RedactProofs.Obj) {n : Bytes}
    (hn : a.fields.all (fun g => foldBytes g.name != foldBytes n) = true) : members (written a E ty c) n = [] := by
  rw [C05.members_eq_sel, sel, Lists.filter_eq_nil_of]
  · rfl
  · intro kv hkv
    obtain ⟨f, hf, hk, _⟩ := mem_pick.mp hkv
    exact Bool.eq_false_iff.mpr fun hm => by
      have := List.all_eq_true.mp hn f hf
      rw [← hk, matchesField_fold hm] at this
      simp at this

theorem members_type {a : Algo} (hT : tablesOk a = true) (E : Field → Option JVal) (ty : Bytes) (c : Option RedactProofs.Obj)
    {tf : Field} (htf : typeField a.fields = some tf) : members (written a E ty c) tf.name = [.str ty] := by
  rw [C05.members_eq_sel, written, sel_pick (tablesOk_parts hT).1 _ (typeField_mem htf).1, emitV_type hT htf]
  rfl

/-- a raw field of the keep struct: of the members the struct decoding of the event read into it, the redaction
    holds the last one with exactly the field's name, or none -/
theorem picked_raw {a : Algo} (hT : tablesOk a = true) {kvs rk : EventParse.Obj} (h : redactWith a (.obj kvs) = .ok (.obj rk))
    {n : Bytes} (hn : a.fields.any (fun f => f.name == n && f.kind == .raw) = true) : Picked (members kvs n) (members rk n) := by
  obtain ⟨f, hf, hfn⟩ := List.any_eq_true.mp hn
  simp only [Bool.and_eq_true, beq_iff_eq] at hfn
  obtain ⟨rfl, hraw⟩ := hfn
  refine ⟨lookupExact kvs f.name, ?_, fun v hv => ?_⟩
  · rw [C04.members_wf (redactWith_wf hT h) hf, redactWith_raw hT h hf hraw]
  · exact List.mem_map.mpr ⟨(f.name, v), List.mem_filter.mpr ⟨lookupExact_mem hv, matchesField_self _⟩, rfl⟩

/-- **The struct decoding of the redacted JSON reports no error** when that of the input did not. -/
theorem redacted_decode_ok {ver : Bytes} {kvs rk : EventParse.Obj} {fmt : Fmt}
    (hr : redactJSON ver (.obj kvs) = .ok (.obj rk))
    (hd : (decodeFields fmt kvs).err = false) (hu : (decodeFields fmt kvs).unmodelled = false) :
    (decodeFields (redactFmt fmt) rk).err = false := by
  obtain ⟨a, tf, cf, ty, c, ha, R, rfl⟩ := C04.redactJSON_output hr
  obtain ⟨hT, hS⟩ := C05.algoOf_ok ha
  obtain ⟨tf', cf', htf', _, hn1, _⟩ := C05.shape_names hS
  have hsh := (C05.keepOk_parts (C05.algoOf_keepOk ha)).2.2.2.1
  simp only [C05.decShape, C05.rawNames, C05.absentNames, List.all_cons, List.all_nil, Bool.and_true, Bool.and_eq_true] at hsh
  obtain ⟨⟨r1, r2, r4, r6, r7, r8, r9, r10⟩, a5, a11, a12⟩ := hsh
  have raw := fun {n : Bytes} hn => picked_raw hT ((redactJSON_of_algo ha _).symm.trans hr) (n := n) hn
  simp only [decodeFields, Bool.or_eq_false_iff] at hd hu ⊢
  obtain ⟨⟨⟨⟨⟨⟨⟨⟨⟨⟨⟨d1, d2⟩, _⟩, d4⟩, _⟩, d6⟩, d7⟩, d8⟩, d9⟩, d10⟩, _⟩, _⟩ := hd
  obtain ⟨u1, u2⟩ := hu
  rw [← hn1, members_type hT _ _ _ htf', members_absent _ _ _ a5, members_absent _ _ _ a11, members_absent _ _ _ a12]
  exact ⟨⟨⟨⟨⟨⟨⟨⟨⟨⟨⟨seqString_pick d1 (raw r1), seqString_pick d2 (raw r2)⟩, rfl⟩, seqStringPtr_pick d4 (raw r4)⟩, rfl⟩,
    seqInt64_pick d6 (raw r6)⟩, seqUint64_pick d7 (raw r7)⟩, seqString_pick d8 (raw r8)⟩, decSlice_pick fmt d9 u1 (raw r9)⟩,
    decSlice_pick fmt d10 u2 (raw r10)⟩, rfl⟩, rfl⟩

theorem enforcedOkVal_of {row : VGen.VersionRow} {b : Bool} {l : EventParse.Obj} (hb : enforces row = some b)
    (hn : b = true → jNumbersOkMembers l = true) : enforcedOkVal row (.obj l) = some true := by
  unfold enforcedOkVal
  rw [hb]
  cases b with
  | false => rfl
  | true => simp [jNumbersOk, hn rfl]

/-- **`Redact()` reaches none of its panic sites on an accepted event.** -/
theorem redact_np {H : Bytes → Bytes} {ver : Bytes} {e : PDU} {row : VGen.VersionRow} (I : Inv H ver row e) (T : Intact ver row e)
    (site : String) : cls (redact e) ≠ .error (.panic site) := by
  unfold redact
  split
  · intro h; cases h
  · obtain ⟨rk, hrk⟩ := T.redactable
    rw [I.hver, I.hrow]
    simp only [hrk]
    obtain ⟨b, hb⟩ := (rowFacts I.hrow I.hfmt).enf
    have hnum := enforcedOkVal_of hb fun hbt => redacted_numbers_ok (T.numbers (hbt ▸ hb)) hrk
    rw [hnum]
    simp only
    have hdec := redacted_decode_ok hrk T.err T.unm
    unfold redactFmt at hdec
    rw [hdec]
    simp only [Bool.false_eq_true, if_false]
    rw [apply_ite cls]
    exact Guard.ite_ne (by intro h; cases h) (by intro h; cases h)

theorem setFirst_numbers (k : Bytes) {v : JVal} (hv : jNumbersOk v = true) {l : EventParse.Obj} (hl : jNumbersOkMembers l = true) :
    jNumbersOkMembers (setFirst k v l) = true := by
  rw [jNumMembers_iff] at hl ⊢
  intro kv hkv
  rcases BuildProofs.mem_setFirst hkv with rfl | hm
  · exact hv
  · exact hl kv hm

/-! ### `signableEventJSON`: the `signatures` member `Sign()` hands on always decodes -/

theorem getLast_eq_lookupExact (o : EventParse.Obj) (k : Bytes) : Sign.getLast o k = lookupExact o k :=
  (Sign.getLast_eq_lookup_reverse o k).trans (lookupExact_eq_lookup_reverse o k).symm

/-- **The `signatures` member survives redaction verbatim** (or stays absent), for every event that can be redacted. -/
theorem redaction_signatures {ver : Bytes} {kvs rk : EventParse.Obj} (h : redactJSON ver (.obj kvs) = .ok (.obj rk)) :
    lookupExact rk b!"signatures" = lookupExact kvs b!"signatures" := by
  obtain ⟨a, ha, h'⟩ := redactJSON_algo h
  obtain ⟨g, hg, hgn, hgk, _⟩ := C03.signatures_field (C03.algoOf_tableOk ha)
  exact hgn ▸ redactWith_raw (C05.algoOf_ok ha).1 h' hg hgk

theorem redactable_without_signatures {ver : Bytes} {kvs rk : EventParse.Obj} (h : redactJSON ver (.obj kvs) = .ok (.obj rk)) :
    ∃ rk', redactJSON ver (.obj (deleteFirst b!"signatures" kvs)) = .ok (.obj rk') := by
  obtain ⟨a, ha, h'⟩ := redactJSON_algo h
  obtain ⟨_, r', _, hr', _⟩ := C03.redactWith_sigs (C05.algoOf_ok ha).1 (C03.algoOf_tableOk ha)
    (fun _ hn => lookupExact_deleteFirst_other kvs hn.symm) h'
  exact ⟨r', by rw [redactJSON, ha]; exact hr'⟩

theorem signWith_np {ver : Bytes} {row : VGen.VersionRow} {x : PDU} {rk : EventParse.Obj} {b : Bool}
    (hver : x.ver = ver) (hrow : rowOf ver = some row) (hrk : redactJSON ver (.obj x.obj) = .ok (.obj rk))
    (hb : enforces row = some b) (hnum : b = true → jNumbersOkMembers x.obj = true)
    (name kid sig : Bytes) (site : String) : cls (signWith x name kid sig) ≠ .error (.panic site) := by
  unfold signWith
  rw [hver, hrow]
  simp only
  unfold signaturesOf
  rw [hrk]
  simp only
  cases hadd : addSignature (lookupExact rk b!"signatures") name kid sig with
  | none => intro hc; cases hc
  | some ns =>
    simp only
    have hnumv : enforcedOkVal row (.obj (setFirst b!"signatures" ns (dedupLast x.obj))) = some true := by
      refine enforcedOkVal_of hb fun hbt => ?_
      have hns : jNumbersOk ns = true := addSignature_vals jNumbersOk_valProp
        (fun v hv => (jNumMembers_iff rk).mp (redacted_numbers_ok (hnum hbt) hrk) _ (lookupExact_mem hv)) hadd
      exact setFirst_numbers _ hns (jNumMembers_sub (dedupLast_mem _) (hnum hbt))
    rw [hnumv]
    intro hc; cases hc

/-- `SignJSON` reads the `signatures` member of the redacted event, which is the event's own: it decodes when that
    member is absent or decodable -/
theorem sigsDecodable_of {x : PDU} {rk : EventParse.Obj} (hr : redactJSON x.ver (.obj x.obj) = .ok (.obj rk))
    (hs : ∀ v, lookupExact x.obj b!"signatures" = some v → sigValDecodable v = true) : sigsDecodable x = true := by
  unfold sigsDecodable
  rw [hr]
  simp only [Sign.readPreserve, Sign.kSignatures, getLast_eq_lookupExact, redaction_signatures hr]
  cases hl : lookupExact x.obj b!"signatures" with
  | none => rfl
  | some v =>
    have hd := hs v hl
    unfold sigValDecodable at hd
    cases hdv : Sign.decodeOuterInto Sign.decodeSigVal (some []) v with
    | none => rw [hdv] at hd; cases hd
    | some m => simp only [hdv]; rfl

/-- what `signableEventJSON` hands on: the event, if its `signatures` member is absent or decodes, else the event
    without that member -/
theorem signable_cases {e : PDU} (hnd : (keysOf e.obj).Nodup) :
    (signable e = e ∧ ∀ v, lookupExact e.obj b!"signatures" = some v → sigValDecodable v = true) ∨
    signable e = { e with obj := deleteFirst b!"signatures" e.obj } := by
  unfold signable
  rw [BuildProofs.getFirst_eq_lookupExact hnd]
  split
  · rename_i hl
    exact Or.inl ⟨rfl, fun v hv => by rw [hl] at hv; cases hv⟩
  · rename_i v hl
    split
    · rename_i hd
      exact Or.inl ⟨rfl, fun v' hv => by rw [hl] at hv; cases hv; exact hd⟩
    · exact Or.inr rfl

/-- **`Sign()` reaches none of its sites on an accepted event**, whatever its `signatures` member is: a member that
    `SignJSON` cannot decode is left out by `signableEventJSON`, and the text of an accepted event repeats no member. -/
theorem sign_np {H : Bytes → Bytes} {ver : Bytes} {e : PDU} {row : VGen.VersionRow} (I : Inv H ver row e) (T : Intact ver row e)
    (hnd : (keysOf e.obj).Nodup) (name kid sig : Bytes) (site : String) : cls (sign e name kid sig) ≠ .error (.panic site) := by
  obtain ⟨rk, hrk⟩ := T.redactable
  obtain ⟨b, hb⟩ := (rowFacts I.hrow I.hfmt).enf
  have hnumE : b = true → jNumbersOkMembers e.obj = true := fun hbt => T.numbers (by rw [hb, hbt])
  unfold sign
  rcases signable_cases hnd with ⟨hs, hdec⟩ | hs
  · rw [hs, if_neg (by simp [sigsDecodable_of (I.hver ▸ hrk) hdec])]
    exact signWith_np I.hver I.hrow hrk hb hnumE name kid sig site
  · obtain ⟨rk', hrk'⟩ := redactable_without_signatures hrk
    have hdec := sigsDecodable_of (x := { e with obj := deleteFirst b!"signatures" e.obj }) (I.hver ▸ hrk')
      fun v hv => by rw [lookupExact_deleteFirst_self _ _ hnd] at hv; cases hv
    rw [hs, if_neg (by simp [hdec])]
    exact signWith_np (x := { e with obj := deleteFirst b!"signatures" e.obj }) I.hver I.hrow hrk' hb
      (fun hbt => jNumMembers_sub (deleteFirst_sublist _ _).subset (hnumE hbt)) name kid sig site

end V.AccProofs
