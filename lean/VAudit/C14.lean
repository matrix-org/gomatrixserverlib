import VProps.C14
import VProps.C14Compose
import VProps.C14Compose2
#print axioms V.C14.state_response_fails_iff
#print axioms V.C14.state_response_exact
#print axioms V.C14.state_response_sound
#print axioms V.C14.send_join_accept_iff
#print axioms V.C14.retry_terminates
#print axioms V.C14.checkAllowed_terminates
#print axioms V.C14.at_state_iff
#print axioms V.C14.auth_chain_iff
#print axioms V.C14.auth_chain_iff_table
#print axioms V.C14.auth_chain_iff_capped
#print axioms V.C14.atStateCited_eq
#print axioms V.FedCheck.tableProvider_tableLike
#print axioms V.FedCheck.capProvider_tableLike
#print axioms V.FedCheck.loopAE_run
#print axioms V.C14.load_classification
#print axioms V.C14.collect_mem
#print axioms V.C14.collect_no_panic
#print axioms V.C14.padd_idem
#print axioms V.C14.authOracles_addIdem
#print axioms V.C14.authOraclesBy_addIdem
#print axioms V.C14.backfill_sound
#print axioms V.C14.tableProvider_provOK
#print axioms V.FedCheck.retryAE_eq_stepC
#print axioms V.FedCheck.checkAllowed_contract
#print axioms V.FedCheck.verifyEventAuthChain_log
#print axioms V.FedCheck.chainStep_post
#print axioms V.C14.slotClash_of_allState
#print axioms V.C14.state_response_signed_and_allowed
#print axioms V.C14.state_response_dropped_why
#print axioms V.C14.composedOracles_addIdem
#print axioms V.C14.send_join_accepted_signed_and_allowed
#print axioms V.C14.send_join_accepts_iff_allowed
#print axioms V.C14.auth_chain_accepts_allowed
#print axioms V.C14.auth_chain_accepts_allowed_table
#print axioms V.C14.at_state_allowed
#print axioms V.C14.load_results_signed
